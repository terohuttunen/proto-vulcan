import PvModel.Props.C04
import PvModel.Props.C04Rel
import PvModel.Props.C04Count
import PvModel.Props.C17Enforce
import PvModel.Props.C17Query
import PvModel.Props.C04Query
#print axioms Pv.C04_disj_comm
#print axioms Pv.C04_disj_comm_mem
#print axioms Pv.C04_disj_perm_mem
#print axioms Pv.C04_disj_perm
#print axioms Pv.C04_tree
#print axioms Pv.C04_fd_conj_comm
#print axioms Pv.C04_engine_sound
#print axioms Pv.C04_program_comm
#print axioms Pv.C04_program_congr
#print axioms Pv.C04_rel_program_exact
#print axioms Pv.C04_rel_equiv
#print axioms Pv.C04_rel_conj_comm
#print axioms Pv.C04_rel_alt_comm
#print axioms Pv.C04_tree_reorder_multiset
#print axioms Pv.C04_tree_answer_multiset
#print axioms Pv.C04_answers_are_paths
#print axioms Pv.C04_fd_answer_values_perm
#print axioms Pv.C04_fd_query_reorder
#print axioms Pv.C04_query_reorder_meaning
