/-
  C13 / C14 / C15 — END TO END: the DOCUMENTED MEANING of a surface program (`Den`: `==` "some common value", `!=`
  "two different values", `[..]` ∧, `conde` ∨, `|x| {..}` ∃ x, `match` arms with their local pattern variables)
  is exactly what the ENGINE'S ANSWERS describe, when the engine runs the program's elaboration.

  `C14_clause` (`elab_sem`, Proofs/SurfaceSem.lean) relates `Den` to the elaborated goal's satisfaction `SatE`;
  `prog_exact` (Proofs/RelProgram.lean) relates satisfaction to the states in the engine's stream.
-/
import PvModel.Proofs.RelProgram
import PvModel.Props.C14
import PvModel.Props.C15
namespace Pv
open Strm Goal State Term Surface

/-- the elaborated goal as a program of the engine (binary nesting as elaborated; the clause-list shapes the
    macro builds with `Conj::from_array` / `Conde::from_conjunctions` have the same big-step answers:
    `big_mkConj`, `big_conjOfList`, `big_altOfList`) -/
def Surface.EGoal.toR : EGoal → RProg
  | .eq a b => .atom (.eq a b)
  | .neq a b => .atom (.neq a b)
  | .succ => .succeed
  | .fail => .fail
  | .conj g1 g2 => .conj (toR g1) (toR g2)
  | .disj g1 g2 => .alt (toR g1) (toR g2)
  | .fresh g => .fresh (toR g)

theorem satE_toR (γ : Subst) (e : EGoal) : SatE γ e ↔ (e.toR).Sem γ := by
  induction e with
  | eq _ _ | neq _ _ | succ | fail => exact Iff.rfl
  | conj g1 g2 ih1 ih2 => exact and_congr ih1 ih2
  | disj g1 g2 ih1 ih2 => exact or_congr ih1 ih2
  | fresh g ih => exact ih

theorem toR_wf {m : Nat} (e : EGoal) (h : ∀ v ∈ e.vars, v < m) : (e.toR).WF m := by
  induction e with
  | eq _ _ | neq _ _ => exact List.forall_mem_append.1 h
  | succ | fail => trivial
  | conj g1 g2 ih1 ih2 | disj g1 g2 ih1 ih2 =>
    exact ⟨ih1 (List.forall_mem_append.1 h).1, ih2 (List.forall_mem_append.1 h).2⟩
  | fresh g ih => exact ih h

/-- END TO END.  A surface clause `g` (any nesting of `==`, `!=`, `[..]`, `conde`, `|x| {..}`, `true`/`false`,
    pattern-match arms) whose free names stand for the query variables `env x < nq`; `e` its elaboration from
    counter `nq`, using the variable ids below `n'`.  Run by the engine from the empty state (any nesting
    level, any hash order):
    (1) every unpoisoned state in the stream describes only valuations under which the DOCUMENTED MEANING of `g`
        holds of the query variables;
    (2) whenever the documented meaning holds of some values of the query variables, a state in the stream
        describes those values (or a FUEL-poisoned state is in the stream). -/
theorem C14_end_to_end (ord : Order) (ho : OrderOK ord) (pf M j : Nat) (g : SGoal) (env : Env) (nq : Nat)
    (henv : ∀ x, env x < nq) (e : EGoal) (n' : Nat) (he : elabG env g nq = (e, n')) :
    (∀ b, MemS (solveAt (defs ord) pf (M + 1)) b (solveAt (defs ord) pf j (e.toR.goal ord) (State.empty n')) →
      b.panic.isSome = false → ∀ γ, StateSem γ b → Den (fun x => γ (env x)) g) ∧
    (∀ γ0 : Subst, Den (fun x => γ0 (env x)) g →
      ∃ b, MemS (solveAt (defs ord) pf (M + 1)) b (solveAt (defs ord) pf j (e.toR.goal ord) (State.empty n')) ∧
        (b.panic.isSome = true ∨ ∃ γ', Agree nq γ0 γ' ∧ StateSem γ' b)) := by
  obtain rfl : (elabG env g nq).1 = e := congrArg Prod.fst he
  have hle : nq ≤ n' := (C15_fresh g env nq _ n' he).1
  obtain ⟨s1, s2⟩ := prog_exact ho pf M j n' _ (toR_wf _ (C15_below g env nq _ n' he henv))
  constructor
  · intro b hm hp γ hγ
    exact (C14_clause g env γ nq henv).2 ⟨γ, fun _ _ => rfl, (satE_toR γ _).2 (s1 b hm hp γ hγ)⟩
  · intro γ0 hden
    obtain ⟨γ, hag, hs⟩ := (C14_clause g env γ0 nq henv).1 hden
    obtain ⟨b, hm, hb⟩ := s2 γ ((satE_toR γ _).1 hs)
    exact ⟨b, hm, hb.imp_right fun ⟨γ', hag', sb⟩ =>
      ⟨γ', fun x hx => (hag x hx).symm.trans (hag' x (Nat.lt_of_lt_of_le hx hle)), sb⟩⟩

section Examples
/-- non-vacuity: `|x| { x == 1, q == [x | _] }` with the query variable `q` (name 0 ↦ id 0): the elaboration allocates the
    ids 1 and 2 and the premises of `C14_end_to_end` are met -/
example : (elabG (fun _ => 0) (.fresh 1 (.conj (.eq (.var 1) (.val (.num 1))) (.eq (.var 0) (.cons (.var 1) .any)))) 1).2 = 3 := by decide +kernel
example : ∀ x : Name, (fun _ : Name => 0) x < 1 := fun _ => Nat.zero_lt_one
end Examples

end Pv
