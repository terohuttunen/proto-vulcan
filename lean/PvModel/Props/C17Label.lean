/-
  C17, labelling: `force_ans` on a variable with a stored domain, run on the interleaving engine from ANY
  reachable state, delivers ONE state per value of the domain that is consistent with the state — the
  values pairwise different — and the state delivered for the value `v` describes EXACTLY the valuations of
  the labelled state with `x = v`.  So every solution the state describes is described by exactly one of the
  delivered states: labelling a variable neither loses nor duplicates a solution.
-/
import PvModel.Proofs.Label
namespace Pv
open State Term Goal FD

theorem filterMap_pairs {α β : Type} (f : α → Option β) : ∀ l : List α,
    ((l.filterMap fun v => (f v).map fun s => (v, s)).map (·.2) = l.filterMap f) ∧
    ((l.filterMap fun v => (f v).map fun s => (v, s)).map (·.1)).Sublist l
  | [] => ⟨rfl, List.Sublist.refl _⟩
  | a :: l => by
    obtain ⟨h1, h2⟩ := filterMap_pairs f l
    cases hfa : f a with
    | none =>
      simp only [List.filterMap_cons, hfa, Option.map_none]
      exact ⟨h1, h2.cons a⟩
    | some s =>
      simp only [List.filterMap_cons, hfa, Option.map_some, List.map_cons]
      exact ⟨by rw [h1], h2.cons_cons a⟩

variable [Mode]

/-- LABELLING ONE VARIABLE, on the engine, from any well-formed unpoisoned state in which `x` is unbound and
    has the domain `d`: the search terminates and the delivered states are — up to order — the second
    components of a list of pairs (value, state) such that
    (1) the values form a sublist of the increasing enumeration of `d` (so they are PAIRWISE DIFFERENT);
    (2) the (unpoisoned) state delivered for `v` is well-formed and describes exactly the valuations of the
        labelled state in which `x` is `v`;
    (3) every valuation the labelled state describes has its value of `x` among the values.
    Hence each solution is described by exactly one delivered state. -/
theorem C17_label_exactly_once {ord : Order} (ho : OrderOK ord) (dfs : Call → State → State × G) (pf M n : Nat)
    (st : State) (w : WFS st) (hi : Inv st) (hp : st.panic = none)
    (x : Nat) (hx : st.σ x = .var x) (d : FD) (hd : st.dget x = some d) :
    ∃ k ys, ∃ pairs : List (Int × State),
      drainF (solveAt dfs pf (M + 1)) k (solveAt dfs pf (M + 1) (forceAns ord (n + 1) (.var x)) st) = some ys ∧
      ys.Perm (pairs.map (·.2)) ∧ (pairs.map (·.1)).Sublist d.iter ∧
      (∀ p ∈ pairs, p.2.panic = none →
        WFS p.2 ∧ Inv p.2 ∧ ∀ γ, Sem NoI γ p.2 ↔ (Sem NoI γ st ∧ NumAt γ (.var x) p.1)) ∧
      (∀ γ, Sem NoI γ st → ∃ p ∈ pairs, NumAt γ (.var x) p.1) := by
  let pairs : List (Int × State) := d.iter.filterMap fun v => (labelStep ord x v st).map fun s => (v, s)
  obtain ⟨hp2, hp1⟩ := filterMap_pairs (fun v => labelStep ord x v st) d.iter
  -- the goal unfolds to the disjunction of the equalities `k == x`
  have hgoal : evalRef dfs (d.iter.length + 2 + 1) (forceAns ord (n + 1) (.var x)) st = some (pairs.map (·.2)) := by
    have hw : walk st.σ (.var x) = .var x := hx
    simp only [forceAns, evalRef, id, hp, Option.isSome_none, Bool.false_eq_true, if_false, hw, hd]
    rw [hp2]
    exact evalRef_alt_atoms dfs (labelStep ord x) st d.iter
  obtain ⟨zs, hz, pz⟩ := ref_perm dfs pf M _ _ _ _ hgoal M
  obtain ⟨k, ys, hdr, py⟩ := drain_perm _ (topOK_solveAt dfs pf M) hz
  refine ⟨k, ys, pairs, hdr, (pz.trans py).symm, hp1, fun p hpm hpp => ?_, fun γ hs => ?_⟩
  · obtain ⟨v, _, hv⟩ := List.mem_filterMap.1 hpm
    obtain ⟨t, ht, rfl⟩ := Option.map_eq_some_iff.1 hv
    exact (labelStep_sem ho w hi ht hpp).2
  · -- every described valuation picks one of the values
    obtain ⟨v, hv, hvd⟩ := hs.2.2 (x, d) (dget_mem hd) (fun h => h)
    have hvi : v ∈ d.iter := (iter_mem d (w.dwf _ (dget_mem hd)) v).2 hvd
    cases hfv : labelStep ord x v st with
    | none => exact absurd ⟨hs, hv⟩ (labelStep_none ho w hi hfv γ)
    | some s => exact ⟨(v, s), List.mem_filterMap.2 ⟨v, hvi, by rw [hfv]; rfl⟩, hv⟩

/-- LABELLING THE QUERY TERM (`force_ans` on any term: variables with domains, lists, compounds with their fields,
    nested to any depth), on the engine, from any well-formed unpoisoned state: whenever the textbook evaluation
    finishes within its fuel, the interleaving search terminates, and — unless a delivered state is poisoned
    (the model's FUEL) — the delivered states PARTITION the valuations the labelled state describes:
    (1) each is well-formed and describes only valuations of the labelled state,
    (2) every valuation of the labelled state is described by one of them,
    (3) no two of them (at different positions of the answer list) describe a common valuation.
    Every solution is returned exactly once. -/
theorem C17_label_term_exactly_once {ord : Order} (ho : OrderOK ord) (dfs : Call → State → State × G) (pf M n N : Nat)
    (t : Term) (s : State) (w : WFS s) (hi : Inv s) (hp : s.panic = none) (zs : List State)
    (h : evalRef dfs N (forceAns ord n t) s = some zs) :
    ∃ k ys, drainF (solveAt dfs pf (M + 1)) k (solveAt dfs pf (M + 1) (forceAns ord n t) s) = some ys ∧
      ((∀ y ∈ ys, y.panic = none) →
        (∀ y ∈ ys, WFS y ∧ Inv y ∧ ∀ γ, Sem NoI γ y → Sem NoI γ s) ∧
        (∀ γ, Sem NoI γ s → ∃ y ∈ ys, Sem NoI γ y) ∧
        ys.Pairwise fun a b => ∀ γ, ¬ (Sem NoI γ a ∧ Sem NoI γ b)) := by
  obtain ⟨xs, hz, pz⟩ := ref_perm dfs pf M _ _ _ _ h M
  obtain ⟨k, ys, hdr, py⟩ := drain_perm _ (topOK_solveAt dfs pf M) hz
  refine ⟨k, ys, hdr, fun hall => ?_⟩
  have hp' : zs.Perm ys := pz.trans py
  exact (forceAns_part dfs ho n t N s zs ⟨w, hi⟩ hp h fun y hy => hall y (hp'.mem_iff.1 hy)).perm hp'

theorem flatMapM_blocks {α β : Type} {f : α → Option (List β)} : ∀ {xs : List α} {zs : List β},
    flatMapM f xs = some zs →
    ∃ blocks : List (List β), zs = blocks.flatten ∧ blocks.length = xs.length ∧
      ∀ (i : Nat) (h1 : i < xs.length) (h2 : i < blocks.length), f xs[i] = some blocks[i] := by
  intro xs
  induction xs with
  | nil => intro zs h; cases h; exact ⟨[], rfl, rfl, fun i h1 _ => absurd h1 (Nat.not_lt_zero i)⟩
  | cons x xs ih =>
    intro zs h
    obtain ⟨ys, ws, h1, h2, rfl⟩ := flatMapM_cons_some h
    obtain ⟨bs, rfl, hl, hb⟩ := ih h2
    refine ⟨ys :: bs, rfl, congrArg Nat.succ hl, fun i hi1 hi2 => ?_⟩
    cases i with
    | zero => exact h1
    | succ i => exact hb i (Nat.lt_of_succ_lt_succ hi1) (Nat.lt_of_succ_lt_succ hi2)

/-- PROGRAM + LABELLING, end to end (textbook order): run a constraint program (atoms under conjunction, `conde`,
    fresh) and then label a term.  If no delivered state is poisoned (the model's FUEL), the delivered states come
    in consecutive blocks, one per state `x` the program delivers, such that `x` describes exactly the solutions
    of one PATH of the program and its block partitions them: every solution of that path is described by
    exactly one state of the block.  (Each solution is returned once per disjunction path it satisfies.) -/
theorem C17_program_labelled {ord : Order} (ho : OrderOK ord) (dfs : Call → State → State × G) (N n nv : Nat)
    (p : FProg) (hok : p.OK) (t : Term) (zs : List State)
    (h : evalRef dfs (N + 1) (.conj (p.goal ord) (forceAns ord n t)) (State.empty nv) = some zs)
    (hall : ∀ z ∈ zs, z.panic = none) :
    ∃ xs : List State, ∃ blocks : List (List State),
      evalRef dfs N (p.goal ord) (State.empty nv) = some xs ∧ zs = blocks.flatten ∧ blocks.length = xs.length ∧
      ∀ (i : Nat) (h1 : i < xs.length) (h2 : i < blocks.length),
        (∃ path ∈ p.paths, ∀ γ, Sem NoI γ xs[i] ↔ ∀ a ∈ path, a.Sat γ) ∧
        (∀ y ∈ blocks[i], ∀ γ, Sem NoI γ y → Sem NoI γ xs[i]) ∧
        (∀ γ, Sem NoI γ xs[i] → ∃ y ∈ blocks[i], Sem NoI γ y) ∧
        blocks[i].Pairwise fun a b => ∀ γ, ¬ (Sem NoI γ a ∧ Sem NoI γ b) := by
  obtain ⟨xs, hx, h⟩ := evalRef_conj_iff.1 h
  obtain ⟨blocks, e, hl, hb⟩ := flatMapM_blocks h
  have hxs := unpoisoned_of_flatMapM dfs (forceAns_pass dfs ord n t) h hall
  refine ⟨xs, blocks, hx, e, hl, fun i h1 h2 => ?_⟩
  have hxm : xs[i] ∈ xs := List.getElem_mem h1
  obtain ⟨path, hpth, hpost⟩ :=
    evalRef_paths_sound ord dfs p N (State.empty nv) xs hx xs[i] hxm (hxs _ hxm)
  have hokp := FProg.paths_ok p hok path hpth
  have r := postAllF_sem ho path (State.empty nv) (wfs_empty nv) (inv_empty nv) hokp
  rw [hpost] at r
  have hbi := hb i h1 h2
  have part := forceAns_part dfs ho n t N xs[i] blocks[i] ⟨r.1, r.2.1⟩ (hxs _ hxm) hbi fun y hy =>
    hall y ((flatMapM_mem h y).2 ⟨xs[i], hxm, blocks[i], hbi, hy⟩)
  exact ⟨⟨path, hpth, fd_exact_ok ho nv path hokp xs[i] hpost⟩,
    fun y hy γ hs => (part.1 y hy).2.2 γ hs, part.2.1, part.2.2⟩

section Examples
attribute [local instance] Mode.strict
/-- non-vacuity: after `x in {1, 2, 4}, x != 2` the state meets the hypotheses (x unbound with a domain), and
    labelling delivers the two states x = 1 and x = 4 -/
private def stL : Res State :=
  (domFd Order.default (State.empty 1) (.var 0) (.sparse [1, 2, 4])).bind fun s => postCst Order.default s (.diseqfd (.var 0) (Term.num 2))
example : (match stL with
    | .ok s => (s.σ 0 == Term.var 0) && (s.dget 0 == some (.sparse [1, 4])) && s.panic.isNone
    | _ => false) = true := by decide
/-- non-vacuity of `C17_label_term_exactly_once`: x, y in 1..=2 with x != y; labelling the list term [x, y] finishes
    on the textbook semantics with the two states x = 1, y = 2 and x = 2, y = 1, none of them poisoned -/
private def stL2 : Res State :=
  ((domFd Order.default (State.empty 2) (.var 0) (.interval 1 2)).bind fun s => domFd Order.default s (.var 1) (.interval 1 2)).bind
    fun s => postCst Order.default s (.diseqfd (.var 0) (.var 1))
example : (match stL2 with
    | .ok s => (match evalRef (fun _ st => (st, (Goal.fail : G))) 40 (forceAns Order.default 10 (Term.ofList [.var 0, .var 1])) s with
      | some zs => zs.map (fun z => (z.σ 0, z.σ 1, z.panic.isNone)) == [(Term.num 1, Term.num 2, true), (Term.num 2, Term.num 1, true)]
      | none => false)
    | _ => false) = true := by decide
end Examples

end Pv
