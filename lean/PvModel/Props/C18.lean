/-
  C18 — FiniteDomain operations implement set semantics.

  Property theorems about `PvModel/Model/FD.lean` (the model of `src/state/fd.rs`).
  Every theorem quantifies over ALL well-formed domains (both representations, any size,
  any bounds) and all integers.  Helper lemmas live in `PvModel/Proofs/FD.lean`.
-/
import PvModel.Model.FD
import PvModel.Proofs.FD

namespace Pv.FD

/-- iteration enumerates exactly the denoted set … -/
theorem C18_iter_mem (d : FD) (h : WF d) (x : Int) : x ∈ d.iter ↔ d.Mem x :=
  iter_mem d h x

/-- … in strictly increasing order (so each element exactly once), and `rev` is its reverse. -/
theorem C18_iter_sorted (d : FD) (h : WF d) : StrictSorted d.iter :=
  (ss_iff _).2 (iter_pw d h)

theorem C18_iter_rev (d : FD) : d.iterRev = d.iter.reverse := rfl

/-- `From<Vec>`: any non-empty vector (unsorted, with duplicates) gives a well-formed domain
    denoting exactly the vector's elements. -/
theorem C18_from_vec (v : List Int) (hv : v ≠ []) :
    ∃ d, ofVec? v = some d ∧ WF d ∧ ∀ x, d.Mem x ↔ x ∈ v := by
  refine ⟨sparse (v.foldr insertU []), ?_, ⟨?_, (ss_iff _).2 (foldr_insertU_pw v)⟩,
    foldr_insertU_mem v⟩
  · simp [ofVec?, hv]
  · obtain ⟨a, ha⟩ := List.exists_mem_of_ne_nil v hv
    exact List.ne_nil_of_mem ((foldr_insertU_mem v a).2 ha)

/-- the empty vector is rejected (Rust: panic "Cannot construct empty finite domain") -/
theorem C18_from_vec_empty : ofVec? [] = none := rfl

theorem C18_intersect_some (a b c : FD) (ha : WF a) (hb : WF b) (h : intersect a b = some c) :
    WF c ∧ ∀ x, c.Mem x ↔ (a.Mem x ∧ b.Mem x) := intersect_some a b c ha (WFI.of_wf hb) h

theorem C18_intersect_none (a b : FD) (ha : WF a) (hb : WF b) (h : intersect a b = none) :
    ∀ x, ¬ (a.Mem x ∧ b.Mem x) := intersect_none a b ha (WFI.of_wf hb) h

theorem C18_diff_some (a b c : FD) (ha : WF a) (hb : WF b) (h : diff a b = some c) :
    WF c ∧ ∀ x, c.Mem x ↔ (a.Mem x ∧ ¬ b.Mem x) := diff_some a b c ha hb h

theorem C18_diff_none (a b : FD) (ha : WF a) (hb : WF b) (h : diff a b = none) :
    ∀ x, a.Mem x → b.Mem x := diff_none a b ha hb h

theorem C18_is_disjoint (a b : FD) (ha : WF a) (hb : WF b) :
    ∃ r, isDisjoint a b = some r ∧ (r = true ↔ ∀ x, ¬ (a.Mem x ∧ b.Mem x)) :=
  isDisjoint_spec a b ha hb

theorem C18_contains (d : FD) (x : Int) : d.contains x = true ↔ d.Mem x := contains_spec d x

theorem C18_min (d : FD) (h : WF d) :
    ∃ m, d.min? = some m ∧ d.Mem m ∧ ∀ x, d.Mem x → m ≤ x := min_spec d h

theorem C18_max (d : FD) (h : WF d) :
    ∃ m, d.max? = some m ∧ d.Mem m ∧ ∀ x, d.Mem x → x ≤ m := max_spec d h

/-- `is_singleton` holds exactly when the set has exactly one element. -/
theorem C18_singleton (d : FD) (h : WF d) :
    d.isSingleton = true ↔ ∃ x, d.Mem x ∧ ∀ y, d.Mem y → y = x := isSingleton_spec d h

theorem C18_singleton_value (d : FD) (h : WF d) (v : Int) :
    d.singletonValue = some v ↔ ∀ y, d.Mem y ↔ y = v := singletonValue_spec d h v

/-- `==` is extensional set equality, across representations. -/
theorem C18_eq (a b : FD) (ha : WF a) (hb : WF b) :
    beq a b = true ↔ ∀ x, a.Mem x ↔ b.Mem x := by
  rw [beq, Bool.and_eq_true, diff_isNone a b ha hb, diff_isNone b a hb ha]
  exact ⟨fun h x => ⟨h.1 x, h.2 x⟩, fun h => ⟨fun x => (h x).1, fun x => (h x).2⟩⟩

/-- `copy_before p`: the prefix of the enumeration before the first element satisfying `p`
    (general predicate), `None` exactly when that prefix is empty. -/
theorem C18_copy_before (d : FD) (h : WF d) (p : Int → Bool) :
    (∀ c, copyBefore d p = some c → WF c ∧ c.iter = d.iter.takeWhile (fun u => !p u)) ∧
    (copyBefore d p = none ↔ d.iter.takeWhile (fun u => !p u) = []) := copyBefore_spec d h p

/-- `drop_before p`: the suffix from the first element satisfying `p`. -/
theorem C18_drop_before (d : FD) (h : WF d) (p : Int → Bool) :
    (∀ c, dropBefore d p = some c → WF c ∧ c.iter = d.iter.dropWhile (fun u => !p u)) ∧
    (dropBefore d p = none ↔ d.iter.dropWhile (fun u => !p u) = []) := dropBefore_spec d h p

/-- For upward-closed predicates (all thresholds `> k`, `>= k` the propagators use) the prefix is
    the subset where `p` is false and the suffix the subset where `p` is true. -/
theorem C18_copy_before_mono (d c : FD) (h : WF d) (p : Int → Bool)
    (hp : ∀ x y, p x = true → x ≤ y → p y = true) (hc : copyBefore d p = some c) :
    ∀ x, c.Mem x ↔ (d.Mem x ∧ p x = false) := copyBefore_mono d c h p hp hc

theorem C18_drop_before_mono (d c : FD) (h : WF d) (p : Int → Bool)
    (hp : ∀ x y, p x = true → x ≤ y → p y = true) (hc : dropBefore d p = some c) :
    ∀ x, c.Mem x ↔ (d.Mem x ∧ p x = true) := dropBefore_mono d c h p hp hc

/-- `wfB` decides `WF`. -/
theorem C18_wfB (d : FD) : wfB d = true ↔ WF d := by
  cases d with
  | interval lo hi => simp [wfB, WF]
  | sparse xs =>
    simp only [wfB, WF, Bool.and_eq_true, strictSortedB_spec, Bool.not_eq_true', ne_eq]
    cases xs <;> simp

/-! Non-vacuity: concrete well-formed domains in both representations meet the hypotheses,
    and the operations produce non-trivial results on them. -/
example : WF (interval (-2) 3) ∧ WF (sparse [-4, -1, 0, 7]) :=
  ⟨(C18_wfB _).1 rfl, (C18_wfB _).1 rfl⟩
example : intersect (interval (-2) 3) (sparse [-4, -1, 0, 7]) = some (sparse [-1, 0]) := rfl
example : diff (interval (-2) 1) (sparse [-4, -1, 0, 7]) = some (sparse [-2, 1]) := rfl
example : ofVec? [3, 1, 3, -2, 1] = some (sparse [-2, 1, 3]) := rfl
example : beq (interval 1 3) (sparse [1, 2, 3]) = true ∧ beq (interval 1 3) (interval 1 5) = false :=
  ⟨rfl, rfl⟩

end Pv.FD
