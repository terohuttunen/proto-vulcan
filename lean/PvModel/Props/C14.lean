/-
  C14 — Surface syntax translates to the documented goals and terms.

  Model: `elabT` / `elabG` (Model/Surface.lean) mirror `TreeTerm::to_tokens` / `Clause::to_tokens`;
  `queryG` (Model/Goals.lean) mirrors `Query::to_tokens` (`fresh __query__`, `__query__ == [vars]`, body,
  `reify`), `mkAnswer` reports one term per query variable in declaration order.
-/
import PvModel.Proofs.Surface
import PvModel.Proofs.SurfaceSem
import PvModel.Props.C03
namespace Pv
namespace Surface

/-- literals, `[]`, lists and improper lists (cons cells), nested: the written term, with names looked up -/
theorem C14_term_shape (env : Env) (h t : STerm) (n : Nat) :
    elabT env (.cons h t) n =
      ((Term.cons (elabT env h n).1 (elabT env t (elabT env h n).2).1), (elabT env t (elabT env h n).2).2) ∧
    (∀ v, elabT env (.val v) n = (.val v, n)) ∧ elabT env .nil n = (.nil, n) ∧
    (∀ x, elabT env (.var x) n = (.var (env x), n)) :=
  ⟨elabT_cons env h t n, fun _ => rfl, rfl, fun _ => rfl⟩

/-- `==` is eq, `!=` is diseq, `true`/`false` succeed/fail, `[g, …]` a conjunction, `conde { … }` a
    disjunction, `|x| { … }` the body under a fresh variable -/
theorem C14_clause_shape (env : Env) (a b : STerm) (g1 g2 : SGoal) (x : Name) (n : Nat) :
    (∃ a' b', (elabG env (.eq a b) n).1 = .eq a' b') ∧
    (∃ a' b', (elabG env (.neq a b) n).1 = .neq a' b') ∧
    (elabG env .tt n).1 = .succ ∧ (elabG env .ff n).1 = .fail ∧
    (elabG env (.conj g1 g2) n).1 = .conj (elabG env g1 n).1 (elabG env g2 (elabG env g1 n).2).1 ∧
    (elabG env (.disj g1 g2) n).1 = .disj (elabG env g1 n).1 (elabG env g2 (elabG env g1 n).2).1 ∧
    (elabG env (.fresh x g1) n).1 = .fresh (elabG (env.bind x n) g1 (n + 1)).1 :=
  ⟨⟨_, _, congrArg Prod.fst (elabG_eq env a b n)⟩, ⟨_, _, congrArg Prod.fst (elabG_neq env a b n)⟩, rfl, rfl,
    congrArg Prod.fst (elabG_conj env g1 g2 n), congrArg Prod.fst (elabG_disj env g1 g2 n),
    congrArg Prod.fst (elabG_fresh env x g1 n)⟩

/-- query results are reported per query variable, in declaration order: the i-th reported term is the
    reification of the i-th declared variable -/
theorem C14_query_order (ord : Order) (qs : List Term) (st : State) (i : Nat) (q : Term) (h : qs[i]? = some q) :
    (mkAnswer ord qs st).terms[i]? = some (apply st.σ q) := by
  show (qs.map (apply st.σ))[i]? = some (apply st.σ q)
  rw [List.getElem?_map, h, Option.map_some]

/-- TERMS DENOTE THE WRITTEN TERM: under a valuation of the names in scope, a surface term (literals, `[]`,
    proper / improper / nested lists, variables, `_`) can denote the value `v` exactly when the elaborated
    term evaluates to `v` for some values of the fresh variables standing for its `_`s. -/
theorem C14_term (env : Env) (γ0 : Valu) (t : STerm) (n : Nat) (v : Term) (henv : ∀ x, env x < n) :
    DenT (fun x => γ0 (env x)) t v ↔
      ∃ γ : Valu, (∀ w, w < n → γ w = γ0 w) ∧ apply γ (elabT env t n).1 = v := (elabT_impl env t n v).sem henv γ0

/-- EVERY CLAUSE DENOTES ITS DOCUMENTED GOAL: `==` "some common value", `!=` "two different values", `[..]` ∧,
    `conde` ∨, `|x| {..}` ∃ x, `true`/`false`, pattern-match arms — under any valuation of the names in
    scope, the documented meaning `Den` holds exactly when the elaborated goal holds for some values of the
    variables the elaboration allocates. -/
theorem C14_clause (g : SGoal) (env : Env) (γ0 : Valu) (n : Nat) (henv : ∀ x, env x < n) :
    Den (fun x => γ0 (env x)) g ↔ ∃ γ : Valu, (∀ w, w < n → γ w = γ0 w) ∧ SatE γ (elabG env g n).1 :=
  elab_sem g env γ0 n henv

section Examples
open Term
/-- `|x| { x == 1, q == [x | _] }` with `q ↦ id 0`: the premises of `C14_clause` are met and both sides hold for `q = [1]` -/
example : Den (fun _ => Term.cons (num 1) .nil)
    (.fresh 1 (.conj (.eq (.var 1) (.val (.num 1))) (.eq (.var 0) (.cons (.var 1) .any)))) := by
  refine ⟨num 1, ⟨num 1, ?_, ?_⟩, ⟨.cons (num 1) .nil, ?_, ?_⟩⟩
  · exact DenT.var 1
  · exact .val _
  · exact DenT.var 0
  · exact .cons (DenT.var 1) (.any _)
end Examples

end Surface
end Pv
