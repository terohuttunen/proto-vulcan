/-
  C22 — User extension hooks observe a consistent constraint lifecycle.

  Model: `State.withs` / `State.takes` count the `User::with_constraint` / `User::take_constraint` hook
  calls, `State.extLog` records the extensions passed to `User::process_extension`; `withConstraint`
  (D8: a subsumed newcomer is neither announced nor stored, stored disequalities it subsumes
  leave through `take_constraint`), `takeConstraint`, `withNewConstraint`, `unify` (Model/State.lean).

  Proved (ALL states, constraints, iteration orders): each lifecycle operation preserves
  `withs = takes + |store|` (`C22_take`, `C22_with_diseq`, `C22_with_other`, `C22_with_new`); a successful
  unification is exactly: unify, re-run the store, FD extension, THEN one `process_extension` with this
  unification's extension (`C22_extension`); a failed unification yields no state at all (`C22_failed`);
  both clauses of a disjunction start from the same user-state value (`C22_branch`).
  The invariant is carried to every reachable state, through the re-entrant FD propagation loop, in
  Proofs/CntGlobal.lean (whole state machine) and Props/C22Global.lean (pure tree programs: `C22_step_tree`,
  `C22_count_tree`; whole programs).
-/
import PvModel.Proofs.Tree
import PvModel.Proofs.Stream
import PvModel.Model.Goals
import PvModel.Proofs.StateInv
namespace Pv
open State

/-- `take_constraint`: one hook call for one constraint removed (nothing happens if it is not stored) -/
theorem C22_take (st : State) (i : Nat) (hn : (st.store.map (·.1)).Nodup) (h : Cnt st) : Cnt (st.takeConstraint i).1 :=
  cnt_take st i hn h

/-- taking several constraints keeps the invariant (used by `with_constraint` for the redundant ones and by `with_cstore`) -/
theorem C22_takes (l : List (Nat × Cst)) : ∀ (st : State), (st.store.map (·.1)).Nodup → Cnt st →
    Cnt (l.foldl (fun s p => (s.takeConstraint p.1).1) st) ∧
    ((l.foldl (fun s p => (s.takeConstraint p.1).1) st).store.map (·.1)).Nodup := by
  induction l with
  | nil => intro st hn h; exact ⟨h, hn⟩
  | cons p ps ih =>
    intro st hn h
    simp only [List.foldl_cons]
    apply ih
    · have := take_fields st p.1
      rw [this.2.2.2]
      exact (hn.sublist ((List.filter_sublist).map _))
    · exact C22_take st p.1 hn h

/-- `with_constraint` of a disequality (D8): either it is subsumed (nothing announced, nothing
    stored), or the redundant stored ones are taken, the hook runs once and one constraint is added -/
theorem C22_with_diseq (ord : Order) (st : State) (id : Nat) (ps : Ext1)
    (hn : (st.store.map (·.1)).Nodup) (h : Cnt st) : Cnt (st.withConstraint ord id (.diseq ps)) := by
  simp only [State.withConstraint]
  split
  · exact h
  · rename_i hns
    generalize hl : (ord.cs st.store).filter _ = l
    have := (C22_takes l st hn h).1
    simp only [Cnt] at this ⊢
    simp only [List.length_append, List.length_singleton]
    omega

/-- `with_constraint` of any other constraint that is not in the store (it was taken out before it ran):
    the hook runs once and one constraint is added -/
theorem C22_with_other (ord : Order) (st : State) (id : Nat) (c : Cst) (hc : c.isDiseq = false)
    (hid : id ∉ st.store.map (·.1)) (h : Cnt st) : Cnt (st.withConstraint ord id c) := by
  rw [withConstraint_other ord st id hc, filter_ne_self hid]
  simp only [Cnt, List.length_append, List.length_singleton] at h ⊢
  omega

/-- a newly created constraint gets a fresh identity -/
theorem C22_with_new (ord : Order) (st : State) (c : Cst) (hn : (st.store.map (·.1)).Nodup)
    (hlt : ∀ p ∈ st.store, p.1 < st.nextId) (h : Cnt st) : Cnt (st.withNewConstraint ord c) := by
  unfold State.withNewConstraint
  cases hc : c.isDiseq
  · apply C22_with_other ord _ _ c hc
    · intro hm
      obtain ⟨p, hp, e⟩ := List.mem_map.1 hm
      have := hlt p hp
      have e' : p.1 = st.nextId := e
      omega
    · exact h
  · obtain ⟨ps, rfl⟩ := Cst.eq_diseq_of_isDiseq hc
    exact C22_with_diseq ord _ _ _ hn h

/-- the initial state satisfies the invariant -/
theorem C22_init (n : Nat) : Cnt (State.empty n) := rfl

/-- `process_extension` is called after every successful unification, after constraint processing, with
    exactly that unification's new bindings `e` — and with nothing else -/
theorem C22_extension (ord : Order) (st : State) (u v : Term) (σ' : Subst) (e : Ext1)
    (h : unifyF unifyFuel st.σ [] u v = some (some (σ', e))) :
    st.unify ord u v = ((runConstraintsF ord (rcFuel + 1) { st with σ := σ' }).bind fun s1 =>
      (processExtensionFd ord s1 e).bind fun s2 => .ok { s2 with extLog := e :: s2.extLog }) := by
  simp only [State.unify, h, processExtension]

/-- a failed unification calls no hook on any surviving state: there is no surviving state -/
theorem C22_failed (ord : Order) (st : State) (u v : Term) (h : unifyF unifyFuel st.σ [] u v = some none) :
    st.unify ord u v = .fail := by simp only [State.unify, h]

/-- user state is copied per branch: both clauses of a disjunction are started from the SAME state value
    (its counters and log included) -/
theorem C22_branch {K : Type} (defs : K → State → State × Goal State K) (top : Goal State K → State → Strm State K)
    (pf : Nat) (A B : Goal State K) (st : State) :
    start defs top pf (.alt A B) st = Strm.mplus (start defs top pf A st) (.delay (start defs top pf B st)) := by
  simp only [start]

section Examples
open Term
private def x : Term := .var 0
private def y : Term := .var 1
private def o : Order := Order.default
/-- D8 witness: `x != 5, [x,y] != [5,6], [x,y] != [5,6]` — three postings, one stored, hooks balanced -/
example : (match (((disunify o (State.empty 2) x (num 5)).bind fun st =>
      disunify o st (.cons x (.cons y .nil)) (.cons (num 5) (.cons (num 6) .nil))).bind fun st =>
      disunify o st (.cons x (.cons y .nil)) (.cons (num 5) (.cons (num 6) .nil))) with
    | .ok st => (st.withs, st.takes, st.store.length) == (1, 0, 1) | _ => false) = true := by decide
/-- the stronger constraint posted second takes the weaker one out through the hook -/
example : (match ((disunify o (State.empty 2) (.cons x (.cons y .nil)) (.cons (num 5) (.cons (num 6) .nil))).bind fun st =>
      disunify o st x (num 5)) with
    | .ok st => (st.withs, st.takes, st.store.length) == (2, 1, 1) | _ => false) = true := by decide
end Examples

end Pv
