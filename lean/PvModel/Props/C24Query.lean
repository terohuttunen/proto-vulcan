/-
  C24 — LIBRARY RELATIONS AS WHOLE QUERIES, ON THE ENGINE.  `|q…| { member(x, l) }` and `|q…| { append(l, s, ls) }` run from the
  empty state: the engine terminates on the query goal and its answers are — as a multiset — the REIFIED states of the
  multiplicity theorems (`C24_member_one_per_position`: one per matching position; `C24_append_one_per_split`: one per
  realisable split), each describing exactly the valuations of its position.  (`C02_query_rel` composes the relation call
  with the query equation and `reify`; `member_count` / `append_split_count` supply the reference answer list.)
-/
import PvModel.Props.C02QueryRel
import PvModel.Props.C24Count
namespace Pv
open Strm Goal State Term

attribute [local instance] Mode.strict

/-- the state after the query equation has what the multiplicity theorems ask of a start state -/
theorem query_start (ord : Order) (ho : OrderOK ord) (n : Nat) (qv : Term) (qs : List Term) (s1 : State)
    (hqv : Below n qv) (hq : ∀ q ∈ qs, Below n q)
    (h1 : postAtom ord (State.empty n) (.eq qv (Term.ofList qs)) = .ok s1) (hp : s1.panic.isSome = false) :
    RInv s1 ∧ DNF s1 ∧ s1.nextVar = n := by
  have hb : Below (State.empty n).nextVar qv ∧ Below (State.empty n).nextVar (Term.ofList qs) := ⟨hqv, below_ofList hq⟩
  obtain ⟨ib, nvb⟩ := rinv_postAtom ho (.eq qv (Term.ofList qs)) hb (rinv_empty n) h1
  exact ⟨ib, postAtom_dnf ho _ (good_empty n) (fun _ hq0 => by simp [State.empty] at hq0) h1, nvb⟩

theorem zip2_all_left {α β : Type} {R : α → β → Prop} {P : α → Prop} (h : ∀ a b, R a b → P a) :
    ∀ {xs : List α} {ys : List β}, Zip2 R xs ys → ∀ x ∈ xs, P x := by
  intro xs ys z
  induction z with
  | nil => exact fun _ hx => nomatch hx
  | cons r _ ih => exact List.forall_mem_cons.2 ⟨h _ _ r, ih⟩

theorem query_of_call (ord : Order) (ho : OrderOK ord) (pf M n : Nat) (c : Call) (w : (RProg.call c).WF n)
    (qv : Term) (qs : List Term) (s1 : State) (ys : List State)
    (h1 : postAtom ord (State.empty n) (.eq qv (Term.ofList qs)) = .ok s1) (hm : EvalR (defs ord) (.call c) s1 ys)
    (hnf : ∀ b, Big (defs ord) (.call c) s1 b → b.panic.isSome = false)
    (hsz : ∀ b, Big (defs ord) (.call c) s1 b → (apply b.σ qv).size ≤ forceFuel) :
    ∃ (kk : Nat) (zs : List State),
      drainF (solveAt (defs ord) (pf + 2) (M + 2)) kk
        (solveAt (defs ord) (pf + 2) (M + 2) (queryG ord qv qs [.call c]) (State.empty n)) = some zs ∧
      (ys.map fun s => reifyState ord s qv).Perm zs := by
  obtain ⟨m, hm⟩ := hm
  have hbig : ∀ s ∈ ys, Big (defs ord) (.call c) s1 s := fun s hs => evalRef_mem_big (defs ord) hm hs
  exact C02_query_rel ord ho pf M m n (.call c) w qv qs s1 ys h1 hm
    (fun s hs => Option.not_isSome_iff_eq_none.1 (Bool.eq_false_iff.1 (hnf s (hbig s hs)))) (fun s hs => hsz s (hbig s hs))

theorem C24_query_member (ord : Order) (ho : OrderOK ord) (pf M n k : Nat) (d : Bool) (x l qv : Term) (qs : List Term) (s1 : State)
    (hqv : Below n qv) (hq : ∀ q ∈ qs, Below n q) (bx : Below n x) (bl : Below n l)
    (h1 : postAtom ord (State.empty n) (.eq qv (Term.ofList qs)) = .ok s1) (hp : s1.panic.isSome = false)
    (hlen : ListLen k l s1)
    (hnf : ∀ b, Big (defs ord) (.call ⟨.member, [x, l], d⟩) s1 b → b.panic.isSome = false)
    (hsz : ∀ b, Big (defs ord) (.call ⟨.member, [x, l], d⟩) s1 b → (apply b.σ qv).size ≤ forceFuel) :
    ∃ (ys : List State) (ps : List Nat) (kk : Nat) (zs : List State),
      drainF (solveAt (defs ord) (pf + 2) (M + 2)) kk
        (solveAt (defs ord) (pf + 2) (M + 2) (queryG ord qv qs [.call ⟨.member, [x, l], d⟩]) (State.empty n)) = some zs ∧
      (ys.map fun s => reifyState ord s qv).Perm zs ∧ ps.Pairwise (· < ·) ∧
      (∀ i, i ∈ ps ↔ (i < k ∧ ∃ γ, StateSem γ s1 ∧ At x l i γ)) ∧
      Zip2 (fun b i => Describes s1 (At x l i) b) ys ps := by
  obtain ⟨ri, dn, nv⟩ := query_start ord ho n qv qs s1 hqv hq h1 hp
  obtain ⟨ys, ps, hm, pw, mem, z⟩ := member_count ho d k x l s1 (nv ▸ bx) (nv ▸ bl) hp ri dn hlen hnf
  have w : (RProg.call ⟨.member, [x, l], d⟩).WF n := ⟨trivial, List.forall_mem_cons.2 ⟨bx, List.forall_mem_cons.2 ⟨bl, nofun⟩⟩⟩
  obtain ⟨kk, zs, hk, pz⟩ := query_of_call ord ho pf M n _ w qv qs s1 ys h1 hm hnf hsz
  exact ⟨ys, ps, kk, zs, hk, pz, pw, mem, z⟩

theorem C24_query_append_splits (ord : Order) (ho : OrderOK ord) (pf M n k : Nat) (d : Bool) (l s ls qv : Term) (qs : List Term) (s1 : State)
    (hqv : Below n qv) (hq : ∀ q ∈ qs, Below n q) (bl : Below n l) (bs : Below n s) (bls : Below n ls)
    (h1 : postAtom ord (State.empty n) (.eq qv (Term.ofList qs)) = .ok s1) (hp : s1.panic.isSome = false)
    (hlen : ListLen k ls s1)
    (hnf : ∀ b, Big (defs ord) (.call ⟨.append, [l, s, ls], d⟩) s1 b → b.panic.isSome = false)
    (hsz : ∀ b, Big (defs ord) (.call ⟨.append, [l, s, ls], d⟩) s1 b → (apply b.σ qv).size ≤ forceFuel) :
    ∃ (ys : List State) (ps : List Nat) (kk : Nat) (zs : List State),
      drainF (solveAt (defs ord) (pf + 2) (M + 2)) kk
        (solveAt (defs ord) (pf + 2) (M + 2) (queryG ord qv qs [.call ⟨.append, [l, s, ls], d⟩]) (State.empty n)) = some zs ∧
      (ys.map fun b => reifyState ord b qv).Perm zs ∧ ps.Pairwise (· < ·) ∧
      (∀ i, i ∈ ps ↔ (i ≤ k ∧ ∃ γ, StateSem γ s1 ∧ SplitAt l s ls i γ)) ∧
      Zip2 (fun b i => Describes s1 (SplitAt l s ls i) b) ys ps ∧ zs.length ≤ k + 1 := by
  obtain ⟨ri, dn, nv⟩ := query_start ord ho n qv qs s1 hqv hq h1 hp
  obtain ⟨ys, ps, hm, pw, mem, z⟩ := append_split_count ho d k l s ls s1 (nv ▸ bl) (nv ▸ bs)
    (nv ▸ bls) hp ri dn hlen hnf
  have w : (RProg.call ⟨.append, [l, s, ls], d⟩).WF n :=
    ⟨trivial, List.forall_mem_cons.2 ⟨bl, List.forall_mem_cons.2 ⟨bs, List.forall_mem_cons.2 ⟨bls, nofun⟩⟩⟩⟩
  obtain ⟨kk, zs, hk, pz⟩ := query_of_call ord ho pf M n _ w qv qs s1 ys h1 hm hnf hsz
  refine ⟨ys, ps, kk, zs, hk, pz, pw, mem, z, ?_⟩
  rw [← pz.length_eq, List.length_map, C24_zip2_length z]
  exact C24_increasing_bounded ps 0 k pw (fun i hi => ⟨Nat.zero_le _, ((mem i).1 hi).1⟩)

end Pv
