/-
  C13 — Pattern matching has the documented match/matche/matcha/matchu meaning.

  Model: `SGoal.mtch t p body rest` and its translation in `elabG` (Model/Surface.lean), mirroring
  `PatternMatchOperator::to_tokens`: per arm alternative, the matched term is evaluated in the OUTER scope
  (`__term__`), every DISTINCT name of the pattern becomes one fresh variable local to the arm, `_` a new
  variable per occurrence, then `term == pattern` followed by the arm body; the arms are the clauses of a
  `conde` (`match`/`matche`), `conda` (`matcha`) or `condu` (`matchu`).
-/
import PvModel.Proofs.Surface
import PvModel.Proofs.SurfaceSem
import PvModel.Props.C08
namespace Pv
namespace Surface

/-- one arm = the clause `term == pattern, body` under the pattern's own variables; the arms form a disjunction -/
theorem C13_arm (env : Env) (t p : STerm) (body rest : SGoal) (n : Nat) :
    let rt := elabT env t n
    let env' := bindAll env p.names rt.2
    let rp := elabT env' p (rt.2 + p.names.length)
    let rb := elabG env' body rp.2
    elabG env (.mtch t p body rest) n =
      (.disj (.conj (.eq rt.1 rp.1) rb.1) (elabG env rest rb.2).1, (elabG env rest rb.2).2) :=
  elabG_mtch env t p body rest n

/-- a name repeated within one pattern denotes ONE variable -/
theorem C13_repeated (env : Env) (x : Name) (n : Nat) :
    (elabT (bindAll env (STerm.cons (.var x) (.var x)).names n) (.cons (.var x) (.var x)) (n + 1)).1
      = .cons (.var n) (.var n) := by
  simp [STerm.names, List.eraseDups_cons, bindAll, elabT, Env.bind]

/-- `_` matches anything without binding: each occurrence is a distinct new variable no one else mentions -/
theorem C13_wildcard (env : Env) (n : Nat) :
    elabT env (.cons .any .any) n = (.cons (.var n) (.var (n + 1)), n + 2) := by
  simp [elabT]

/-- a pattern variable named like the matched term's variable does NOT capture it: the term is taken in the outer scope -/
theorem C13_no_capture (env : Env) (x : Name) (n : Nat) :
    (elabG env (.mtch (.var x) (.cons (.var x) .any) .tt .ff) n).1
      = .disj (.conj (.eq (.var (env x)) (.cons (.var n) (.var (n + 1)))) .succ) .fail := by
  simp [elabG, elabT, STerm.names, List.eraseDups_cons, bindAll, Env.bind]

/-- pattern variables are local to their arm: the remaining arms are elaborated in the outer scope -/
theorem C13_arm_local (env : Env) (t p : STerm) (body rest : SGoal) (n : Nat) :
    ∃ k, (elabG env (.mtch t p body rest) n).2 = (elabG env rest k).2 ∧
         ∀ e1 e2, (elabG env (.mtch t p body rest) n).1 = .disj e1 e2 → e2 = (elabG env rest k).1 := by
  simp only [elabG_mtch]
  exact ⟨_, rfl, fun e1 e2 h => (EGoal.disj.inj h).2.symm⟩

/-- THE DOCUMENTED MEANING OF `match`: under any valuation of the names in scope, `match t { p => body, rest… }`
    holds exactly when, for some values of the pattern's (distinct) names — local to the arm — `t` and `p`
    denote the same value and the body holds, or the remaining arms hold; and that is exactly when the
    elaborated disjunction of `t == p, body` clauses holds for some values of the allocated variables. -/
theorem C13_elab (t p : STerm) (body rest : SGoal) (env : Env) (γ0 : Valu) (n : Nat) (henv : ∀ x, env x < n) :
    ((∃ ρ' : NValu, (∀ y, y ∉ p.names → ρ' y = γ0 (env y)) ∧
        ∃ v, DenT (fun x => γ0 (env x)) t v ∧ DenT ρ' p v ∧ Den ρ' body) ∨ Den (fun x => γ0 (env x)) rest) ↔
    ∃ γ : Valu, (∀ w, w < n → γ w = γ0 w) ∧ SatE γ (elabG env (.mtch t p body rest) n).1 :=
  elab_sem (.mtch t p body rest) env γ0 n henv

/-- `matcha` / `matchu` apply the committed-choice rules of C08 to the same arms: they are `conda` / `condu`
    on the arm clauses (`Goal.condaOfClauses`, `Goal.conduOfClauses`), whose theorems are C08_conda … C08_onceo -/
theorem C13_commit {St K : Type} (f : Goal St K) (r : List (Goal St K)) (cs : List (List (Goal St K))) :
    Goal.condaOfClauses ((f :: r) :: cs) = .conda f (Goal.conjOfList r) (Goal.condaOfClauses cs) ∧
    Goal.conduOfClauses ((f :: r) :: cs) = .condu f (Goal.conjOfList r) (Goal.conduOfClauses cs) := ⟨rfl, rfl⟩

/-- COMPOUND PATTERNS are patterns like any other (the theorems above quantify over ALL surface terms, `comp`
    included): the compound pattern `P(x, _, x)` denotes a compound value of type `P` whose first and third field
    are the same value, the second anything — -/
theorem C13_compound_pattern (ρ : NValu) (g : Nat) (x : Name) (v : Term) :
    DenT ρ (.comp g (.cons (.var x) (.cons .any (.cons (.var x) .nil)))) v ↔
      ∃ w, v = .comp g (.cons (ρ x) (.cons w (.cons (ρ x) .nil))) := by
  constructor
  · intro h
    cases h with
    | comp h1 =>
      cases h1 with
      | cons ha hb =>
        cases ha
        cases hb with
        | cons hc hd =>
          cases hd with
          | cons he hf =>
            cases he; cases hf
            exact ⟨_, rfl⟩
  · rintro ⟨w, rfl⟩
    exact .comp (.cons (.var x) (.cons (.any w) (.cons (.var x) .nil)))

/-- — and its elaboration allocates ONE variable for the repeated name and one for the `_` -/
example : (elabT (bindAll (fun _ => 0) (STerm.comp 1 (.cons (.var 5) (.cons .any (.cons (.var 5) .nil)))).names 10)
    (.comp 1 (.cons (.var 5) (.cons .any (.cons (.var 5) .nil)))) 11) =
    (.comp 1 (.cons (.var 10) (.cons (.var 11) (.cons (.var 10) .nil))), 12) := by decide +kernel

end Surface
end Pv
