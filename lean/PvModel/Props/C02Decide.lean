/-
  C02, decision: the `==` / `!=` solver DECIDES its constraints.  Posting any list of equalities and disequalities
  succeeds exactly when they have a solution — and then they have a GROUND one (an answer always has ground
  instances: the universe is infinite, every unbound variable can take a number of its own) — and fails exactly
  when they have none.  With `C02_invariant_ok` (the state describes exactly the solutions) this is soundness and
  completeness in the strongest sense.
-/
import PvModel.Props.C02
import PvModel.Proofs.DiseqNF
namespace Pv

/-- NORMAL FORM: in every state reached by posting `==` / `!=` atoms (any order, any hash-iteration order) every
    stored disequality is non-empty and EVERY one of its pairs `(x, t)` has `x` unbound, `t` normal under the
    substitution and `x` not in `t`: `run_constraints` re-normalises every stored disequality after each unification -/
theorem C02_normal_form (ord : Order) (ho : OrderOK ord) (n : Nat) (as : List TAtom) (st : State)
    (h : postAll ord (State.empty n) as = .ok st) :
    ∀ q ∈ st.store, ∀ ps, q.2 = .diseq ps →
      ps ≠ [] ∧ ∀ p ∈ ps, st.σ p.1 = .var p.1 ∧ apply st.σ p.2 = p.2 ∧ Term.occurs p.1 p.2 = false := by
  intro q hq ps he
  exact (postAll_reach ho (good_empty n) (dnf_empty n) h).2.1.hasNF hq he

/-- AN ANSWER IS NEVER VACUOUS: a successful run ends in a state that describes a ground valuation, and that
    valuation satisfies every posted atom -/
theorem C02_satisfiable (ord : Order) (ho : OrderOK ord) (n : Nat) (as : List TAtom) (st : State)
    (h : postAll ord (State.empty n) as = .ok st) :
    ∃ γ : Subst, (∀ t : Term, (apply γ t).vars = []) ∧ StateSem γ st ∧ ∀ a ∈ as, a.Sat γ := by
  obtain ⟨hg, hd, hsat⟩ := postAll_reach ho (good_empty n) (dnf_empty n) h
  obtain ⟨γ, hsem, hgr⟩ := dnf_sat hg.1 hd
  exact ⟨γ, hgr, hsem, ((hsat γ).1 hsem).2⟩

/-- DECISION: unless the model's unification fuel runs out, posting the atoms succeeds if and only if they have a
    solution (and fails if and only if they have none) -/
theorem C02_decides (ord : Order) (ho : OrderOK ord) (n : Nat) (as : List TAtom)
    (hf : postAll ord (State.empty n) as ≠ .fuel) :
    ((∃ st, postAll ord (State.empty n) as = .ok st) ↔ ∃ γ : Subst, ∀ a ∈ as, a.Sat γ) ∧
    (postAll ord (State.empty n) as = .fail ↔ ¬ ∃ γ : Subst, ∀ a ∈ as, a.Sat γ) := by
  have h := postAll_decides ho (good_empty n) (dnf_empty n) as hf
  rw [exists_congr fun γ => and_iff_right (stateSem_empty n γ)] at h
  exact h

/-- PROJECTION ONTO THE QUERY VARIABLES (the semantic core of purification): in a state reached by posting `==` / `!=`
    atoms, let `V` be any set of variables (the variables of the walked query term) and `θ` any assignment under
    which every stored disequality that mentions only variables of `V` holds.  Then `θ` extends to a valuation γ the
    state describes — so γ satisfies EVERY posted atom — with γ = θ on the unbound variables of `V`.
    Disequalities that mention a hidden variable may therefore be dropped from the reported answer: they never
    exclude an instance of the answer term (each hidden variable can take a number of its own). -/
theorem C02_projection (ord : Order) (ho : OrderOK ord) (n : Nat) (as : List TAtom) (st : State)
    (h : postAll ord (State.empty n) as = .ok st) (V : List Nat) (θ : Subst)
    (hvis : ∀ q ∈ st.store, ∀ ps, q.2 = .diseq ps → (∀ y ∈ diseqVars ps, y ∈ V) → DiseqHolds θ ps) :
    ∃ γ : Subst, (∀ a ∈ as, a.Sat γ) ∧ ∀ y ∈ V, st.σ y = .var y → γ y = θ y := by
  obtain ⟨hg, hd, hsat⟩ := postAll_reach ho (good_empty n) (dnf_empty n) h
  obtain ⟨γ, hsem, hag⟩ := dnf_project hg.1 hd V θ hvis
  exact ⟨γ, ((hsat γ).1 hsem).2, hag⟩

/-- ANSWER INSTANCES: for a state reached by posting `==` / `!=` atoms and any list `qs` of query terms, the
    tuples `qs` takes under the SOLUTIONS of the atoms are exactly the instances of the walked query terms
    `walk*(qs)` under the assignments that satisfy the stored disequalities over the variables of those walked
    terms — the (semantic) answer: walked terms plus the disequalities that mention only their variables.
    (The reported answer is this up to the injective renaming of those variables to `_` variables — `C03_names` —
    and the removal of subsumed disequalities.) -/
theorem C02_answer_instances (ord : Order) (ho : OrderOK ord) (n : Nat) (as : List TAtom) (st : State)
    (h : postAll ord (State.empty n) as = .ok st) (qs ts : List Term) :
    (∃ γ : Subst, (∀ a ∈ as, a.Sat γ) ∧ ts = qs.map (apply γ)) ↔
    (∃ θ : Subst,
      (∀ q ∈ st.store, ∀ ps, q.2 = .diseq ps →
        (∀ y ∈ diseqVars ps, y ∈ qs.flatMap fun q => (apply st.σ q).vars) → DiseqHolds θ ps) ∧
      ts = qs.map fun q => apply θ (apply st.σ q)) := by
  obtain ⟨hg, hd, hsat⟩ := postAll_reach ho (good_empty n) (dnf_empty n) h
  rw [← dnf_answer_instances hg.1 hd qs ts]
  exact exists_congr fun γ => and_congr_left fun _ =>
    ((hsat γ).trans (and_iff_right (stateSem_empty n γ))).symm

section Examples
open Term
/-- non-vacuity: `x != y, [x, z] != [1, 2], y == 1` succeeds; `x != y` has become `x != 1` and the second disequality is kept or subsumed -/
private def pd : List TAtom :=
  [.neq (.var 0) (.var 1), .neq (.cons (.var 0) (.cons (.var 2) .nil)) (.cons (num 1) (.cons (num 2) .nil)), .eq (.var 1) (num 1)]
example : (match postAll Order.default (State.empty 3) pd with | .ok st => st.store.length | _ => 99) = 1 := by decide
/-- non-vacuity of `C02_projection`: `q != [h], q == [x]` leaves `x != h` with `h` hidden; with `V = {x}` no stored
    disequality is visible, so every value of `x` is an instance of the answer -/
private def pp : List TAtom := [.neq (.var 0) (.cons (.var 2) .nil), .eq (.var 0) (.cons (.var 1) .nil)]
example : (match postAll Order.default (State.empty 3) pp with
    | .ok st => st.store.map (fun q => match q.2 with | .diseq ps => diseqVars ps | _ => []) | _ => []) = [[1, 2]] := by decide
end Examples

end Pv
