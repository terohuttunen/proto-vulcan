/-
  C06 — FOR THE WHOLE QUERY: the interleaving engine, run on the goal a query really runs (`queryG`), loses no answer of the body
  and invents none — it delivers as many states as the body's reference answer list holds, and a state is delivered iff it is the
  reified form of one of them (the multiset statement is `C02_query_any_body`).  Any body with a finite textbook evaluation: conjunctions, `conde`, `fresh`, relation calls in terminating
  modes.  (`C02_query_any_body` read as a statement about membership and count.)
-/
import PvModel.Props.C02Query
namespace Pv
open Strm Goal State Term

attribute [local instance] Mode.strict

theorem C06_query_answers_exact (ord : Order) (ho : OrderOK ord) (dfs : Call → State → State × G) (pf M N : Nat)
    (body : G) (qv : Term) (qs : List Term) (s0 s1 : State) (xs : List State)
    (h1 : (liftRes fun st => postAtom ord st (.eq qv (Term.ofList qs))) s0 = some s1)
    (hx : evalRef dfs N body s1 = some xs)
    (hs : ∀ s ∈ xs, s.dstore = [] ∧ s.panic = none ∧ (∀ c ∈ s.store, c.2.isFD = false) ∧ Solved s.σ ∧
      (apply s.σ qv).size ≤ forceFuel) :
    ∃ k zs, drainF (solveAt dfs (pf + 2) (M + 2)) k
        (solveAt dfs (pf + 2) (M + 2) (queryG ord qv qs [body]) s0) = some zs ∧
      zs.length = xs.length ∧ (∀ z, z ∈ zs ↔ ∃ s ∈ xs, z = reifyState ord s qv) := by
  obtain ⟨k, zs, hk, pz⟩ := C02_query_any_body ord ho dfs pf M N body qv qs s0 s1 xs h1 hx hs
  refine ⟨k, zs, hk, by rw [← pz.length_eq, List.length_map], fun z => ?_⟩
  rw [← pz.mem_iff, List.mem_map]
  exact ⟨fun ⟨s, hs', e⟩ => ⟨s, hs', e.symm⟩, fun ⟨s, hs', e⟩ => ⟨s, hs', e.symm⟩⟩

end Pv
