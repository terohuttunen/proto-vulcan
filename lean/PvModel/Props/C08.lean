/-
  C08 — Committed-choice operators keep exactly the committed answers.

  Model: `Solver::peek`, `Solver::trunc`, `Conda::solve`, `Condu::solve`, `onceo = condu { conj }`
  (Model/Stream.lean; `matcha`/`matchu` elaborate to the same operators on their arms).
  Generic in the state type.
-/
import PvModel.Proofs.Stream
namespace Pv
open Strm Goal

variable {St K : Type}

/-- `peek` only steps: it returns the head's stream after some `j ≤ n` SILENT steps (no answer was
    delivered, hence none dropped or duplicated), and that stream is mature. -/
theorem C08_peek (top : Goal St K → St → Strm St K) (n : Nat) (s s' : Strm St K) (h : peekF top n s = some s') :
    ∃ j, j ≤ n ∧ afterF top j s = s' ∧ runF top j s = [] ∧ s'.isMature = true := by
  fun_induction peekF top n s with
  | case1 => cases h; exact ⟨0, Nat.zero_le _, rfl, rfl, rfl⟩
  | case2 => cases h; exact ⟨0, Nat.zero_le _, rfl, rfl, rfl⟩
  | case3 => cases h; exact ⟨0, Nat.zero_le _, rfl, rfl, rfl⟩
  | case4 => cases h
  | case5 n l ih =>
    obtain ⟨j, hj, h1, h2, h3⟩ := ih h
    exact ⟨j + 1, Nat.succ_le_succ hj, h1, h2, h3⟩

/-- … so the SEQUENCE `Solver::next` produces from the peeked stream is the one it would have produced
    from the original stream. -/
theorem C08_peek_seq (top : Goal St K → St → Strm St K) (n : Nat) (s s' : Strm St K) (h : peekF top n s = some s') :
    ∃ j, j ≤ n ∧ ∀ m, runF top (j + m) s = runF top m s' := by
  obtain ⟨j, hj, h1, h2, _⟩ := C08_peek top n s s' h
  exact ⟨j, hj, fun m => by rw [runF_add, h1, h2, List.nil_append]⟩

/-- `trunc` keeps exactly the first answer `next` would return (engine order), or nothing if the stream is empty. -/
theorem C08_trunc (top : Goal St K → St → Strm St K) (n : Nat) (s : Strm St K) :
    (∀ a, truncF top n s = some (some a) → ∃ m s', nextF top m s = some (some (a, s'))) ∧
    (truncF top n s = some none → ∃ m, nextF top m s = some none) :=
  ⟨fun a h => truncF_first top n s a h, fun h => truncF_none top n s h⟩

/-- `conda`, definitional form (also for INFINITE heads): once `peek` of the head returns, the clause list
    is the head's own stream (every head answer, in order, each once — `C08_peek`) bound to the rest when
    the head has an answer, and otherwise exactly the remaining clauses.  Nothing of later clauses is mixed in. -/
theorem C08_conda (defs : K → St → St × Goal St K) (top : Goal St K → St → Strm St K) (pf : Nat)
    (f r nx : Goal St K) (a : St) (s' : Strm St K) (h : peekF top pf (start defs top pf f a) = some s') :
    start defs top pf (.conda f r nx) a =
      if s'.head?.isSome then Strm.bind s' r else start defs top pf nx a := by
  simp only [start, h]

/-- `conda` with a finite head: all head answers are kept (a permutation of the reference list, each once)
    and continued with the rest; an empty head passes to the next clause. -/
theorem C08_conda_commit (defs : K → St → St × Goal St K) (top : Goal St K → St → Strm St K) (pf : Nat)
    (hT : TopOK top) (f r nx : Goal St K) (a : St) (hs : List St) (hne : hs ≠ [])
    (hf : AnsS top (start defs top pf f a) hs) (hpf : peekF top pf (start defs top pf f a) ≠ none) :
    ∃ hs', hs.Perm hs' ∧
      ∀ zs, AnsB top r hs' zs → ∃ ws, AnsS top (start defs top pf (.conda f r nx) a) ws ∧ zs.Perm ws :=
  conda_commit defs top pf hT f r nx a hs hne hf hpf

theorem C08_conda_skip (defs : K → St → St × Goal St K) (top : Goal St K → St → Strm St K) (pf : Nat)
    (hT : TopOK top) (f r nx : Goal St K) (a : St)
    (hf : AnsS top (start defs top pf f a) []) (hpf : peekF top pf (start defs top pf f a) ≠ none) :
    start defs top pf (.conda f r nx) a = start defs top pf nx a := conda_skip defs top pf hT f r nx a hf hpf

/-- `condu`: exactly the first head answer in engine order is kept (also when it appears only after
    lazy steps, also for an infinite head), bound to the rest; no head answer passes to the next clause. -/
theorem C08_condu (defs : K → St → St × Goal St K) (top : Goal St K → St → Strm St K) (pf : Nat)
    (f r nx : Goal St K) (a : St) :
    (∀ b, truncF top pf (start defs top pf f a) = some (some b) →
        start defs top pf (.condu f r nx) a = Strm.bind (.unit b) r ∧
        ∃ m s', nextF top m (start defs top pf f a) = some (some (b, s'))) ∧
    (truncF top pf (start defs top pf f a) = some none →
        start defs top pf (.condu f r nx) a = start defs top pf nx a) :=
  ⟨fun b h => condu_commit defs top pf f r nx a b h, fun h => condu_skip defs top pf f r nx a h⟩

/-- `onceo { g }`: no answer if g has none, otherwise exactly one: g's first answer in engine order. -/
theorem C08_onceo (defs : K → St → St × Goal St K) (top : Goal St K → St → Strm St K) (pf : Nat)
    (gs : List (Goal St K)) (a : St) :
    (∀ b, truncF top pf (start defs top pf (conjOfList gs) a) = some (some b) →
        start defs top pf (Goal.onceo gs) a = .unit b ∧
        ∃ m s', nextF top m (start defs top pf (conjOfList gs) a) = some (some (b, s'))) ∧
    (truncF top pf (start defs top pf (conjOfList gs) a) = some none →
        start defs top pf (Goal.onceo gs) a = .empty) :=
  C08_condu defs top pf (conjOfList gs) .succeed .fail a

section Examples
private def defs0 : Unit → Nat → Nat × Goal Nat Unit := fun _ a => (a, .fail)
private def two : Goal Nat Unit := .alt (.fresh (.atom fun a => some (a + 1))) (.alt (.atom fun a => some (a + 2)) .fail)
private def rest : Goal Nat Unit := .atom fun a => some (a * 10)
/-- conda keeps both head answers, condu only the first in engine order (here `2`, delivered before the lazily produced `1`) -/
example : runF (solveAt defs0 50 3) 40 (solveAt defs0 50 3 (.conda two rest (.atom fun _ => some 99)) 0) = [20, 10] := by decide
example : runF (solveAt defs0 50 3) 40 (solveAt defs0 50 3 (.condu two rest (.atom fun _ => some 99)) 0) = [20] := by decide
example : runF (solveAt defs0 50 3) 40 (solveAt defs0 50 3 (.conda .fail rest (.atom fun _ => some 99)) 0) = [99] := by decide
example : runF (solveAt defs0 50 3) 40 (solveAt defs0 50 3 (Goal.onceo [two]) 0) = [2] := by decide
end Examples

end Pv
