/-
  C04 at the level of the ANSWER MULTISET (not only the set of described solutions), for `==`/`!=` programs.
-/
import PvModel.Proofs.PathCount
import PvModel.Props.C06
namespace Pv
open Strm Goal State Term

section
attribute [local instance] Mode.strict

/-- ANY REORDERING PRESERVES THE ANSWER MULTISET: for a `==`/`!=` program `p` (conjunction, conde, fresh inside it) and
    any reordering `p'` of it, at any depth, any number of swaps of conjunction sides and of conde clauses (`Reorder`),
    run by the interleaving engine from the empty state — both terminate, with answer lists `zs` and `ws` OF THE SAME
    LENGTH, and `ws` can be reordered so that corresponding answers describe exactly the same valuations (when no path
    runs out of the model's unification fuel) -/
theorem C04_tree_reorder_multiset (ord : Order) (ho : OrderOK ord) (dfs : Call → State → State × G) (pf M nv : Nat)
    (p p' : FProg) (hr : Reorder p p') (hp : p.TreeOnly)
    (hnf : ∀ path, path ∈ p.paths ∨ path ∈ p'.paths → postAllF ord (State.empty nv) path ≠ .fuel) :
    ∃ k k' zs ws ws',
      drainF (solveAt dfs pf (M + 1)) k (solveAt dfs pf (M + 1) (p.goal ord) (State.empty nv)) = some zs ∧
      drainF (solveAt dfs pf (M + 1)) k' (solveAt dfs pf (M + 1) (p'.goal ord) (State.empty nv)) = some ws ∧
      ws'.Perm ws ∧ Zip2 (fun a b => ∀ γ, StateSem γ a ↔ StateSem γ b) zs ws' := by
  obtain ⟨xs, hx⟩ := evalRef_total ord dfs p 0 (State.empty nv)
  obtain ⟨ys, hy⟩ := evalRef_total ord dfs p' 0 (State.empty nv)
  obtain ⟨ys', py, z⟩ := tree_reorder_bijection ho dfs hr hp nv _ _ xs ys hx hy hnf
  obtain ⟨k, zs, hk, pz⟩ := C06_ref dfs pf M _ _ _ xs hx
  obtain ⟨k', ws, hk', pw⟩ := C06_ref dfs pf M _ _ _ ys hy
  obtain ⟨ws', pws, zz⟩ := zip2_perm_left pz z
  exact ⟨k, k', zs, ws, ws', hk, hk', (pws.trans py).trans pw, zz⟩

/-- REORDERING A CONJUNCTION, `p, q` to `q, p`, is the case the property speaks of.  With `C04_program_comm` (the SET of
    solutions) this is its statement: "permuting the goals of a conjunction leaves the multiset of answers unchanged;
    answers compared as sets of ground instances". -/
theorem C04_tree_answer_multiset (ord : Order) (ho : OrderOK ord) (dfs : Call → State → State × G) (pf M nv : Nat)
    (p q : FProg) (hp : p.TreeOnly) (hq : q.TreeOnly)
    (hnf : ∀ x ∈ p.paths, ∀ y ∈ q.paths, postAllF ord (State.empty nv) (x ++ y) ≠ .fuel ∧ postAllF ord (State.empty nv) (y ++ x) ≠ .fuel) :
    ∃ k k' zs ws ws',
      drainF (solveAt dfs pf (M + 1)) k (solveAt dfs pf (M + 1) ((FProg.conj p q).goal ord) (State.empty nv)) = some zs ∧
      drainF (solveAt dfs pf (M + 1)) k' (solveAt dfs pf (M + 1) ((FProg.conj q p).goal ord) (State.empty nv)) = some ws ∧
      ws'.Perm ws ∧ Zip2 (fun a b => ∀ γ, StateSem γ a ↔ StateSem γ b) zs ws' :=
  C04_tree_reorder_multiset ord ho dfs pf M nv _ _ (.conjSwap p q) ⟨hp, hq⟩ (paths_conjSwap hnf)

end

/-- for EVERY constraint program (FD / CLP(Z) / == / != atoms, conjunction, conde, fresh): the reference answer list — of
    which the interleaving engine's answers are a permutation and which the depth-first engine delivers in order — is
    exactly one state per path that does not fail, in the order of the paths -/
theorem C04_answers_are_paths (ord : Order) (dfs : Call → State → State × G) (p : FProg) (n : Nat) (st : State) (xs : List State)
    (h : evalRef dfs n (p.goal ord) st = some xs) : xs = p.paths.filterMap (postL ord st) :=
  evalRef_paths_exact dfs p n st xs h

section Examples
/-- non-vacuity: `[x == 1, conde { y == 2 ; y == 3 }]` reordered to `[conde { y == 3 ; y == 2 }, x == 1]` — a `Reorder`, both
    tree-only, four paths in all, none running out of fuel -/
private def pA : FProg := .conj (.atom (.eq (.var 0) (Term.num 1))) (.alt (.atom (.eq (.var 1) (Term.num 2))) (.atom (.eq (.var 1) (Term.num 3))))
private def pB : FProg := .conj (.alt (.atom (.eq (.var 1) (Term.num 3))) (.atom (.eq (.var 1) (Term.num 2)))) (.atom (.eq (.var 0) (Term.num 1)))
example : Reorder pA pB := .trans (.conj (.refl _) (.altSwap _ _)) (.conjSwap _ _)
example : pA.TreeOnly := ⟨trivial, trivial, trivial⟩
example : (pA.paths ++ pB.paths).map (fun path => match postAllF Order.default (State.empty 2) path with
    | .ok _ => "ok" | .fail => "fail" | .fuel => "fuel" | .panic _ => "panic") = ["ok", "ok", "ok", "ok"] := by decide +kernel
end Examples

end Pv
