/-
  C24 — Library list relations implement their documented relations.

  Model: `relBody` (Model/Goals.lean) gives, for member / member1 / append / rember / permute / distinct, the
  goal their `proto_vulcan_closure!(match …)` sources elaborate to (one clause per arm, fresh pattern
  variables drawn from the state's counter at each call); `consG`, `firstG`, `restG`, `emptyG` for the
  non-recursive ones.

  Proved here: the non-recursive relations are single unifications with the documented shape
  (`C24_cons`, `C24_empty`, `C24_first_rest`), hence by C01 they hold exactly for the documented terms;
  the recursive relations' clause structure (`C24_member_clauses`, `C24_append_clauses`).
  What the recursive relations mean on the engine, in every argument mode, and their specifications in terms of
  `List` functions are in Props/C24Sem.lean.
  KNOWN FINDING D20: `permute` as written also accepts permutations of sub-lists (see known_findings.json).
-/
import PvModel.Model.Goals
import PvModel.Props.C01
namespace Pv
open Term

/-- `cons(first, rest, out)` is the unification `[first | rest] == out`; `empty(s)` is `[] == s` -/
theorem C24_cons (ord : Order) (f r o : Term) : consG ord f r o = eqG ord (.cons f r) o := rfl
theorem C24_empty (ord : Order) (s : Term) : emptyG ord s = eqG ord .nil s := rfl

/-- by C01: the unification behind `cons` succeeds exactly when `out` can be made `[first | rest]`, and
    then makes both sides identical -/
theorem C24_cons_sound (n : Nat) (σ σ' : Subst) (e e' : Ext1) (f r o : Term) (hs : Solved σ)
    (h : unifyF n σ e (.cons f r) o = some (some (σ', e'))) :
    apply σ' o = .cons (apply σ' f) (apply σ' r) :=
  (C01_sound n σ σ' e e' (.cons f r) o hs h).2.2.symm

theorem C24_cons_complete (n : Nat) (σ : Subst) (e : Ext1) (f r o : Term) (hs : Solved σ)
    (h : unifyF n σ e (.cons f r) o = some none) :
    ¬ ∃ θ : Subst, Ext σ θ ∧ apply θ o = .cons (apply θ f) (apply θ r) :=
  fun ⟨θ, h1, h2⟩ => C01_fail_complete n σ e (.cons f r) o hs h ⟨θ, h1, h2.symm⟩

/-- `first(list, x)` / `rest(list, x)`: `cons` with the other component a fresh variable -/
theorem C24_first_rest (ord : Order) (l x : Term) (st : State) :
    (∃ fs fg, firstG ord false l x = .dyn fs fg ∧ (fs st).nextVar = st.nextVar + 1 ∧
      fg st = .fresh (Goal.conjOfList [consG ord x (.var st.nextVar) l])) ∧
    (∃ fs fg, restG ord false l x = .dyn fs fg ∧ (fs st).nextVar = st.nextVar + 1 ∧
      fg st = .fresh (Goal.conjOfList [consG ord (.var st.nextVar) x l])) :=
  ⟨⟨_, _, rfl, rfl, rfl⟩, ⟨_, _, rfl, rfl, rfl⟩⟩

/-- `member(x, l)`: two clauses — `l = [head | _], head == x` and `l = [_ | rest], member(x, rest)` — with
    four fresh variables per call -/
theorem C24_member_clauses (ord : Order) (x l : Term) (n : Nat) :
    relBody ord ⟨.member, [x, l], false⟩ n =
      (4, Goal.conjOfList [Goal.condeOfClauses
        [[eqG ord l (.cons (.var n) (.var (n + 1))), eqG ord (.var n) x],
         [eqG ord l (.cons (.var (n + 3)) (.var (n + 2))), .call ⟨.member, [x, .var (n + 2)], false⟩]]]) := by
  simp [relBody]

/-- `append(l, s, ls)`: `[l, s, ls] = [[], x, x]` or `[[x | l1], l2, [x | l3]]` with `append(l1, l2, l3)` -/
theorem C24_append_clauses (ord : Order) (l s ls : Term) (n : Nat) :
    relBody ord ⟨.append, [l, s, ls], false⟩ n =
      (5, Goal.conjOfList [Goal.condeOfClauses
        [[eqG ord (Term.ofList [l, s, ls]) (Term.ofList [.nil, .var n, .var n])],
         [eqG ord (Term.ofList [l, s, ls]) (Term.ofList [.cons (.var (n + 1)) (.var (n + 2)), .var (n + 4), .cons (.var (n + 1)) (.var (n + 3))]),
          .call ⟨.append, [.var (n + 2), .var (n + 4), .var (n + 3)], false⟩]]]) := by
  simp [relBody]

end Pv
