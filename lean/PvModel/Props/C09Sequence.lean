/-
  C09 — DETERMINISTIC at the level of the whole answer SEQUENCE, for any two hash-iteration orders.
-/
import PvModel.Proofs.TreeOrder
namespace Pv
open Strm Goal

/-- DETERMINISTIC ACROSS HASH SEEDS, SEQUENCE LEVEL: take any program of `==`, `!=`, conjunction, `conde` and
    fresh (any nesting, no literal `fail` goal) and any two iteration orders of the hash-based constraint store
    (`ord`, `ord'`: two processes with different hash seeds).  Run by the interleaving engine at any nesting
    level, the two runs deliver within any number `n` of engine steps THE SAME NUMBER OF ANSWERS IN THE SAME
    ORDER: position by position the two states have the same substitution (hence the same reified terms) and
    describe the same valuations (equivalent constraint sets) — or one of the two runs exhausted the MODEL's
    unification fuel, which leaves a poisoned state among that run's answers (the driver prints FUEL for it; the
    correspondence check treats FUEL as inconclusive). -/
theorem C09_sequence_order_free {ord ord' : Order} (ho : OrderOK ord) (ho' : OrderOK ord')
    (dfs dfs' : Call → State → State × G) (pf M nv : Nat) (p : FProg) (hp : p.TreeNF) (n : Nat) :
    let xs := runF (solveAt dfs pf (M + 1)) n (solveAt dfs pf (M + 1) (p.goal ord) (State.empty nv))
    let xs' := runF (solveAt dfs' pf (M + 1)) n (solveAt dfs' pf (M + 1) (p.goal ord') (State.empty nv))
    (xs.length = xs'.length ∧ ∀ (i : Nat) (h : i < xs.length) (h' : i < xs'.length),
        xs[i].σ = xs'[i].σ ∧ ∀ γ, StateSem γ xs[i] ↔ StateSem γ xs'[i]) ∨
      ∃ s, s.panic.isSome = true ∧
        (MemS (solveAt dfs pf (M + 1)) s (solveAt dfs pf (M + 1) (p.goal ord) (State.empty nv)) ∨
         MemS (solveAt dfs' pf (M + 1)) s (solveAt dfs' pf (M + 1) (p.goal ord') (State.empty nv))) := by
  intro xs xs'
  rcases tree_sequence_order_free ho ho' dfs dfs' pf M nv p hp n with pw | b
  · exact .inl ⟨pw.length, fun i h h' => ⟨(pw.get i h h').sig, (pw.get i h h').sem⟩⟩
  · exact .inr b

/-- the same for the complete answer lists of two terminating runs: same length, same order, same
    substitutions, same described valuations — unless a FUEL-poisoned state is in one of the lists -/
theorem C09_answers_order_free {ord ord' : Order} (ho : OrderOK ord) (ho' : OrderOK ord')
    (dfs dfs' : Call → State → State × G) (pf M nv : Nat) (p : FProg) (hp : p.TreeNF) (k k' : Nat) (ys ys' : List State)
    (h : drainF (solveAt dfs pf (M + 1)) k (solveAt dfs pf (M + 1) (p.goal ord) (State.empty nv)) = some ys)
    (h' : drainF (solveAt dfs' pf (M + 1)) k' (solveAt dfs' pf (M + 1) (p.goal ord') (State.empty nv)) = some ys') :
    (ys.length = ys'.length ∧ ∀ (i : Nat) (h : i < ys.length) (h' : i < ys'.length),
        ys[i].σ = ys'[i].σ ∧ ∀ γ, StateSem γ ys[i] ↔ StateSem γ ys'[i]) ∨
      ∃ s, s.panic.isSome = true ∧ (s ∈ ys ∨ s ∈ ys') := by
  rcases tree_answers_order_free ho ho' dfs dfs' pf M nv p hp k k' ys ys' h h' with pw | b
  · exact .inl ⟨pw.length, fun i h h' => ⟨(pw.get i h h').sig, (pw.get i h h').sem⟩⟩
  · exact .inr b

section Examples
/-- the reversed iteration order -/
private def ordRev : Order := { cs := List.reverse, ps := List.reverse, ds := List.reverse }
example : OrderOK ordRev := ⟨fun l => List.reverse_perm l, fun l => List.reverse_perm l, fun l => List.reverse_perm l⟩
example : OrderOK Order.default := ⟨fun l => .refl l, fun l => .refl l, fun l => .refl l⟩

/-- non-vacuity: `x != 1, y != 2, conde { x == 3 ; y == 4 ; [x, y] == [1, 5] }` holds two disequalities in the
    store when the clauses run, so the two orders visit them differently; both runs terminate with two
    unpoisoned answers -/
private def prog09 : FProg :=
  .conj (.atom (.neq (.var 0) (Term.num 1))) (.conj (.atom (.neq (.var 1) (Term.num 2)))
    (.alt (.atom (.eq (.var 0) (Term.num 3))) (.alt (.atom (.eq (.var 1) (Term.num 4)))
      (.atom (.eq (.cons (.var 0) (.cons (.var 1) .nil)) (.cons (Term.num 1) (.cons (Term.num 5) .nil)))))))
private def defs09 : Call → State → State × G := fun _ a => (a, .fail)
example : prog09.TreeNF := ⟨trivial, trivial, trivial, trivial, trivial⟩
example : (drainF (solveAt defs09 5 1) 40 (solveAt defs09 5 1 (prog09.goal Order.default) (State.empty 2))).map
    (fun ys => ys.map fun s => s.panic.isSome) = some [false, false] := by decide
example : (drainF (solveAt defs09 5 1) 40 (solveAt defs09 5 1 (prog09.goal ordRev) (State.empty 2))).map
    (fun ys => ys.map fun s => s.panic.isSome) = some [false, false] := by decide
end Examples

end Pv
