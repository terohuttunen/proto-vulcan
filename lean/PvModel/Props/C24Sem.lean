/-
  C24 — the library list relations implement their documented relations on the engine, in every argument mode
  (arguments are arbitrary terms: ground, partial, fresh): sound from any good state — whatever `==`/`!=` goals ran
  before —, complete from any state that says nothing about the variables at or above its counter; and what the
  specifications (`RelSem`: the inductive predicates `MemT`, `Mem1T`, `AppT`, `RemT`, `PermT`, `DistT` on terms) say in
  terms of `List` functions.
-/
import PvModel.Proofs.RelProgram
namespace Pv
open Strm Goal State Term

/-- ENGINE = BIG-STEP SEMANTICS, relation calls included -/
theorem C24_engine_is_bigstep (ord : Order) (pf M j : Nat) (g : G) (hg : Plain g) (a b : State) :
    MemS (solveAt (defs ord) pf (M + 1)) b (solveAt (defs ord) pf j g a) ↔ Big (defs ord) g a b :=
  mem_iff_big (defs_plain ord) pf M j hg a b

/-- SOUNDNESS, all six relations, all argument modes, interleaving and depth-first variant, every nesting
    level, every hash-iteration order: a state the engine holds for the call is good and describes only
    valuations of the start state under which the arguments are in the documented relation -/
theorem C24_sound (ord : Order) (ho : OrderOK ord) (pf M j : Nat) (c : Call) (a b : State)
    (h : MemS (solveAt (defs ord) pf (M + 1)) b (solveAt (defs ord) pf j (.call c) a))
    (hp : b.panic.isSome = false) (hg : Good a) : Good b ∧ ∀ γ, StateSem γ b → StateSem γ a ∧ RelSem c γ :=
  rel_sound ord ho pf M j c a b h hp hg

/-- `append(l, s, ls)`: in every answer, `l` is a proper list and `ls` is `l` followed by `s` -/
theorem C24_append_sound (ord : Order) (ho : OrderOK ord) (pf M j : Nat) (l s ls : Term) (d : Bool) (a b : State)
    (h : MemS (solveAt (defs ord) pf (M + 1)) b (solveAt (defs ord) pf j (.call ⟨.append, [l, s, ls], d⟩) a))
    (hp : b.panic.isSome = false) (hg : Good a) (γ : Subst) (hγ : StateSem γ b) :
    ∃ xs, apply γ l = ofList xs ∧ apply γ ls = improperOfList xs (apply γ s) :=
  (appT_iff _ _ _).1 ((C24_sound ord ho pf M j _ a b h hp hg).2 γ hγ).2

/-- `member(x, l)`: in every answer, `x` stands at some position of `l` -/
theorem C24_member_sound (ord : Order) (ho : OrderOK ord) (pf M j : Nat) (x l : Term) (d : Bool) (a b : State)
    (h : MemS (solveAt (defs ord) pf (M + 1)) b (solveAt (defs ord) pf j (.call ⟨.member, [x, l], d⟩) a))
    (hp : b.panic.isSome = false) (hg : Good a) (γ : Subst) (hγ : StateSem γ b) :
    ∃ pre rest, apply γ l = improperOfList pre (.cons (apply γ x) rest) :=
  (memT_iff _ _).1 ((C24_sound ord ho pf M j _ a b h hp hg).2 γ hγ).2

/-- `member1(x, l)`: in every answer, `x` stands in `l` at a position before which it does not occur — and
    there is exactly one such position -/
theorem C24_member1_sound (ord : Order) (ho : OrderOK ord) (pf M j : Nat) (x l : Term) (d : Bool) (a b : State)
    (h : MemS (solveAt (defs ord) pf (M + 1)) b (solveAt (defs ord) pf j (.call ⟨.member1, [x, l], d⟩) a))
    (hp : b.panic.isSome = false) (hg : Good a) (γ : Subst) (hγ : StateSem γ b) :
    ∃ pre rest, apply γ l = improperOfList pre (.cons (apply γ x) rest) ∧ apply γ x ∉ pre ∧
      ∀ pre' rest', apply γ l = improperOfList pre' (.cons (apply γ x) rest') → apply γ x ∉ pre' →
        pre' = pre ∧ rest' = rest := by
  obtain ⟨pre, rest, e, hn⟩ := (mem1T_iff _ _).1 ((C24_sound ord ho pf M j _ a b h hp hg).2 γ hγ).2
  exact ⟨pre, rest, e, hn, fun pre' rest' e' hn' => mem1T_unique _ pre' pre rest' rest hn' hn (e'.symm.trans e)⟩

/-- `rember(x, ls, out)` on a ground proper list: `out` is `ls` without the first occurrence of `x` -/
theorem C24_rember_sound (ord : Order) (ho : OrderOK ord) (pf M j : Nat) (x ls out : Term) (d : Bool) (a b : State)
    (h : MemS (solveAt (defs ord) pf (M + 1)) b (solveAt (defs ord) pf j (.call ⟨.rember, [x, ls, out], d⟩) a))
    (hp : b.panic.isSome = false) (hg : Good a) (γ : Subst) (hγ : StateSem γ b) (xs : List Term)
    (hl : apply γ ls = ofList xs) : apply γ out = ofList (xs.erase (apply γ x)) := by
  have := ((C24_sound ord ho pf M j _ a b h hp hg).2 γ hγ).2
  simp only [RelSem] at this
  rw [hl] at this
  exact (remT_ofList _ _ _).1 this

/-- `distinct(l)`: in every answer `l` is a proper list whose elements pairwise differ -/
theorem C24_distinct_sound (ord : Order) (ho : OrderOK ord) (pf M j : Nat) (l : Term) (d : Bool) (a b : State)
    (h : MemS (solveAt (defs ord) pf (M + 1)) b (solveAt (defs ord) pf j (.call ⟨.distinct, [l], d⟩) a))
    (hp : b.panic.isSome = false) (hg : Good a) (γ : Subst) (hγ : StateSem γ b) :
    ∃ xs : List Term, apply γ l = ofList xs ∧ xs.Nodup :=
  (distT_iff _).1 ((C24_sound ord ho pf M j _ a b h hp hg).2 γ hγ).2

/-- `permute(xl, yl)`: every answer satisfies the clause-level specification `PermT`; every permutation of a
    proper list satisfies it (`C24_permute_spec`), and so does — KNOWN FINDING D20 — `permute([1,2],[2])` -/
theorem C24_permute_sound (ord : Order) (ho : OrderOK ord) (pf M j : Nat) (xl yl : Term) (d : Bool) (a b : State)
    (h : MemS (solveAt (defs ord) pf (M + 1)) b (solveAt (defs ord) pf j (.call ⟨.permute, [xl, yl], d⟩) a))
    (hp : b.panic.isSome = false) (hg : Good a) (γ : Subst) (hγ : StateSem γ b) : PermT (apply γ xl) (apply γ yl) :=
  ((C24_sound ord ho pf M j _ a b h hp hg).2 γ hγ).2

theorem C24_permute_spec (xs ys : List Term) (h : xs.Perm ys) : PermT (ofList xs) (ofList ys) := permT_of_perm xs ys h
theorem C24_permute_D20 : PermT (ofList [Term.num 1, Term.num 2]) (ofList [Term.num 2]) := permT_sublist_witness

/-- the specifications on proper lists are the `List` functions -/
theorem C24_append_spec (xs ys : List Term) (r : Term) : AppT (ofList xs) (ofList ys) r ↔ r = ofList (xs ++ ys) :=
  appT_ofList xs ys r
theorem C24_member_spec (x : Term) (xs : List Term) : MemT x (ofList xs) ↔ x ∈ xs := memT_ofList x xs
theorem C24_member1_spec (x : Term) (xs : List Term) : Mem1T x (ofList xs) ↔ x ∈ xs := mem1T_ofList x xs
theorem C24_rember_spec (x : Term) (xs : List Term) (out : Term) : RemT x (ofList xs) out ↔ out = ofList (xs.erase x) :=
  remT_ofList x xs out
theorem C24_distinct_spec (l : Term) : DistT l ↔ ∃ xs : List Term, l = ofList xs ∧ xs.Nodup := distT_iff l

/-- COMPLETENESS, all six relations, all argument modes: from a good unpoisoned state that says nothing about the
    variables at or above its counter (`RInv`: the empty state, and every state `==`/`!=` goals reach from it —
    `C24_invariant`), with argument terms below the counter: every valuation `γ` the state describes under which
    the arguments are in the documented relation is described — after extension to the fresh variables of the
    unfolding, i.e. up to `Agree a.nextVar` — by a state in the engine's stream for the call, at every nesting
    level, interleaving or depth-first variant, any hash order; or the model ran out of unification fuel, which
    leaves a FUEL-poisoned state in the stream. -/
theorem C24_complete (ord : Order) (ho : OrderOK ord) (pf M j : Nat) (c : Call) (a : State) (γ : Subst)
    (hb : ∀ t ∈ c.args, Below a.nextVar t) (hp : a.panic.isSome = false) (hi : RInv a) (hγ : StateSem γ a)
    (h : RelSem c γ) :
    ∃ b, MemS (solveAt (defs ord) pf (M + 1)) b (solveAt (defs ord) pf j (.call c) a) ∧
      (b.panic.isSome = true ∨ ∃ γ', Agree a.nextVar γ γ' ∧ StateSem γ' b) :=
  (rel_complete ho pf M j c a γ hb hp hi hγ h).imp fun _ hb => ⟨hb.1, hb.2.desc⟩

/-- the invariant: the empty state has it, `==`/`!=` over existing variables keep it (and the counter) -/
theorem C24_invariant (ord : Order) (ho : OrderOK ord) :
    (∀ n, RInv (State.empty n)) ∧
    (∀ (u v : Term) (a b : State), Below a.nextVar u → Below a.nextVar v → RInv a →
      (a.unify ord u v = .ok b ∨ a.disunify ord u v = .ok b) → RInv b ∧ b.nextVar = a.nextVar) :=
  ⟨rinv_empty, fun u v a b bu bv hi h => by
    rcases h with h | h
    · exact rinv_postAtom ho (.eq u v) ⟨bu, bv⟩ hi h
    · exact rinv_postAtom ho (.neq u v) ⟨bu, bv⟩ hi h⟩

/-- SOUND + COMPLETE = EXACT: for a call from such a state, the valuations described by the unpoisoned states of
    the engine's stream, seen on the variables below the counter, are exactly the valuations of the start state
    under which the arguments are in the relation (when no state of the stream is FUEL-poisoned) -/
theorem C24_exact (ord : Order) (ho : OrderOK ord) (pf M j : Nat) (c : Call) (a : State) (γ : Subst)
    (hb : ∀ t ∈ c.args, Below a.nextVar t) (hp : a.panic.isSome = false) (hi : RInv a) (hγ : StateSem γ a)
    (hnf : ∀ b, MemS (solveAt (defs ord) pf (M + 1)) b (solveAt (defs ord) pf j (.call c) a) → b.panic.isSome = false) :
    RelSem c γ ↔ ∃ b γ', MemS (solveAt (defs ord) pf (M + 1)) b (solveAt (defs ord) pf j (.call c) a) ∧
      Agree a.nextVar γ γ' ∧ StateSem γ' b := by
  constructor
  · intro h
    obtain ⟨b, hm, hb'⟩ := C24_complete ord ho pf M j c a γ hb hp hi hγ h
    rcases hb' with p | ⟨γ', hag, sb⟩
    · rw [hnf b hm] at p; cases p
    · exact ⟨b, γ', hm, hag, sb⟩
  · rintro ⟨b, γ', hm, hag, sb⟩
    -- the relation only looks at the arguments, whose variables are below the counter
    exact relSem_agree c hb hag.symm ((C24_sound ord ho pf M j c a b hm (hnf b hm) hi.1).2 γ' sb).2

/-- `append`, list level: if under a described valuation `l` is the proper list `xs` and `ls` is `xs` followed
    by `s`, the stream holds a state describing it -/
theorem C24_append_complete (ord : Order) (ho : OrderOK ord) (pf M j : Nat) (l s ls : Term) (d : Bool) (a : State) (γ : Subst)
    (bl : Below a.nextVar l) (bs : Below a.nextVar s) (bls : Below a.nextVar ls) (hp : a.panic.isSome = false) (hi : RInv a)
    (hγ : StateSem γ a) (xs : List Term) (h1 : apply γ l = ofList xs) (h2 : apply γ ls = improperOfList xs (apply γ s)) :
    ∃ b, MemS (solveAt (defs ord) pf (M + 1)) b (solveAt (defs ord) pf j (.call ⟨.append, [l, s, ls], d⟩) a) ∧
      (b.panic.isSome = true ∨ ∃ γ', Agree a.nextVar γ γ' ∧ StateSem γ' b) :=
  C24_complete ord ho pf M j _ a γ
    (List.forall_mem_cons.2 ⟨bl, List.forall_mem_cons.2 ⟨bs, List.forall_mem_singleton.2 bls⟩⟩)
    hp hi hγ ((appT_iff _ _ _).2 ⟨xs, h1, h2⟩)

/-- `member`, list level: if under a described valuation `x` is an element of the proper list `l` -/
theorem C24_member_complete (ord : Order) (ho : OrderOK ord) (pf M j : Nat) (x l : Term) (d : Bool) (a : State) (γ : Subst)
    (bx : Below a.nextVar x) (bl : Below a.nextVar l) (hp : a.panic.isSome = false) (hi : RInv a)
    (hγ : StateSem γ a) (xs : List Term) (h1 : apply γ l = ofList xs) (h2 : apply γ x ∈ xs) :
    ∃ b, MemS (solveAt (defs ord) pf (M + 1)) b (solveAt (defs ord) pf j (.call ⟨.member, [x, l], d⟩) a) ∧
      (b.panic.isSome = true ∨ ∃ γ', Agree a.nextVar γ γ' ∧ StateSem γ' b) :=
  C24_complete ord ho pf M j _ a γ
    (List.forall_mem_cons.2 ⟨bx, List.forall_mem_singleton.2 bl⟩)
    hp hi hγ (show MemT (apply γ x) (apply γ l) from h1 ▸ (memT_ofList _ _).2 h2)

/-- `permute`, list level: every permutation of a proper list is found -/
theorem C24_permute_complete (ord : Order) (ho : OrderOK ord) (pf M j : Nat) (xl yl : Term) (d : Bool) (a : State) (γ : Subst)
    (bx : Below a.nextVar xl) (by' : Below a.nextVar yl) (hp : a.panic.isSome = false) (hi : RInv a)
    (hγ : StateSem γ a) (xs ys : List Term) (h1 : apply γ xl = ofList xs) (h2 : apply γ yl = ofList ys) (h : xs.Perm ys) :
    ∃ b, MemS (solveAt (defs ord) pf (M + 1)) b (solveAt (defs ord) pf j (.call ⟨.permute, [xl, yl], d⟩) a) ∧
      (b.panic.isSome = true ∨ ∃ γ', Agree a.nextVar γ γ' ∧ StateSem γ' b) :=
  C24_complete ord ho pf M j _ a γ
    (List.forall_mem_cons.2 ⟨bx, List.forall_mem_singleton.2 by'⟩)
    hp hi hγ (show PermT (apply γ xl) (apply γ yl) from h1 ▸ h2 ▸ permT_of_perm xs ys h)

section Examples
/-- non-vacuity: `append([1], y, [1, 2])` from the empty state — the engine (interleaving, nesting level 2)
    terminates with one unpoisoned answer, and that answer binds `y` to `[2]` -/
example : (drainF (solveAt (defs Order.default) 5 2) 60
      (solveAt (defs Order.default) 5 2 (.call ⟨.append, [ofList [Term.num 1], .var 0, ofList [Term.num 1, Term.num 2]], false⟩)
        (State.empty 1))).map (fun ys => ys.map fun s => (s.panic.isSome, apply s.σ (.var 0))) =
    some [(false, ofList [Term.num 2])] := by decide +kernel
end Examples

end Pv
