/-
  C12 — for/everyg is the conjunction of its body over the collection.

  Model: `Everyg::solve` builds `InferredConj::from_iter(coll.map(g))` and solves it: `Goal.conjOfIter`
  (folds left, so the conjunction is built in REVERSE collection order, `succeed` innermost).
-/
import PvModel.Proofs.Stream
import PvModel.Props.C04
namespace Pv
open Goal Strm

variable {St K : Type}

/-- `for x in coll { body }` IS the explicit conjunction of the bodies, taken in reverse collection order -/
theorem C12_def (gs : List (Goal St K)) : conjOfIter gs = conjOfList gs.reverse := by
  rw [conjOfIter, conjOfIter_aux, conjOfList_foldr]

/-- an empty collection succeeds exactly once, leaving the state as it is -/
theorem C12_empty (defs : K → St → St × Goal St K) (top : Goal St K → St → Strm St K) (pf : Nat) (a : St) :
    start defs top pf (conjOfIter ([] : List (Goal St K))) a = .unit a := by
  simp [conjOfIter, start]

/-- one element that is neither `succeed` nor `fail`: syntactically the body conjoined with `succeed` -/
theorem C12_single (g : Goal St K) (hs : g.isSucceed = false) (hf : g.isFail = false) :
    conjOfIter [g] = .conj g .succeed := by
  show mkConj g .succeed = _
  unfold mkConj
  rw [hs, hf]
  rfl

/-- the same multiset of answers as the forward conjunction, for ==/!= bodies: the two differ only in the
    order of the conjuncts (C04_tree) -/
theorem C12_answers_tree (o1 o2 : Order) (h1 : OrderOK o1) (h2 : OrderOK o2) (n : Nat) (as : List TAtom) :
    (∀ s1 s2, postAll o1 (State.empty n) as = .ok s1 → postAll o2 (State.empty n) as.reverse = .ok s2 →
        ∀ γ : Subst, StateSem γ s1 ↔ StateSem γ s2) ∧
    (∀ s1, postAll o1 (State.empty n) as = .ok s1 → postAll o2 (State.empty n) as.reverse = .fail →
        ∀ γ : Subst, ¬ StateSem γ s1) ∧
    (postAll o1 (State.empty n) as = .fail → ∀ s2, postAll o2 (State.empty n) as.reverse = .ok s2 →
        ∀ γ : Subst, ¬ StateSem γ s2) :=
  C04_tree o1 o2 h1 h2 n as as.reverse (List.reverse_perm as).symm

/-- a conjunction of constraint programs (the bodies of a `for`, one per element), right-nested -/
def conjProg : List FProg → FProg
  | [] => .succeed
  | p :: ps => .conj p (conjProg ps)

/-- its solutions: the valuations that are solutions of EVERY body -/
theorem fsols_conjProg (ps : List FProg) (γ : Subst) : FSols (conjProg ps) γ ↔ ∀ p ∈ ps, FSols p γ := by
  induction ps with
  | nil =>
    simp only [conjProg, List.not_mem_nil, false_imp_iff, implies_true, iff_true]
    exact ⟨[], by simp [FProg.paths], fun _ h => nomatch h⟩
  | cons p ps ih =>
    have hc : FSols (.conj p (conjProg ps)) γ ↔ (FSols p γ ∧ FSols (conjProg ps) γ) := by
      unfold FSols
      simp only [FProg.paths, List.mem_flatMap, List.mem_map]
      constructor
      · rintro ⟨_, ⟨x, hx, y, hy, rfl⟩, h⟩
        exact ⟨⟨x, hx, fun c hc => h c (List.mem_append.2 (.inl hc))⟩, ⟨y, hy, fun c hc => h c (List.mem_append.2 (.inr hc))⟩⟩
      · rintro ⟨⟨x, hx, h1⟩, ⟨y, hy, h2⟩⟩
        exact ⟨x ++ y, ⟨x, hx, y, hy, rfl⟩, fun c hc => (List.mem_append.1 hc).elim (h1 c) (h2 c)⟩
    simp only [conjProg, hc, ih, List.mem_cons, forall_eq_or_imp]

/-- only which bodies occur matters, not their order or multiplicity -/
theorem fsols_conjProg_congr {ps qs : List FProg} (h : ∀ p, p ∈ ps ↔ p ∈ qs) {γ : Subst} :
    FSols (conjProg ps) γ ↔ FSols (conjProg qs) γ := by
  rw [fsols_conjProg, fsols_conjProg]
  exact forall_congr' fun p => imp_congr_left (h p)

/-- `for` over constraint bodies (any nesting of conjunction / conde / fresh inside each body): building the
    conjunction in REVERSE collection order (what `Everyg` does, `C12_def`) has exactly the solutions of the
    forward conjunction — and of any other order of the elements -/
theorem C12_order_irrelevant (ps qs : List FProg) (h : ps.Perm qs) (γ : Subst) :
    FSols (conjProg ps) γ ↔ FSols (conjProg qs) γ :=
  fsols_conjProg_congr fun _ => h.mem_iff

theorem C12_reverse (ps : List FProg) (γ : Subst) : FSols (conjProg ps.reverse) γ ↔ FSols (conjProg ps) γ :=
  C12_order_irrelevant ps.reverse ps (List.reverse_perm ps) γ

end Pv
