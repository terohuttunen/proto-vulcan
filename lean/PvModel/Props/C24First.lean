/-
  C24 — `cons`, `first`, `rest`, `empty` on the engine: sound and complete in every argument mode.
-/
import PvModel.Props.C24Sem
namespace Pv
open Strm Goal State Term

section
variable {ord : Order}

theorem big_single (d : Bool) (g : G) (a b : State) :
    Big (defs ord) (if d then conjDOfList [g] else conjOfList [g]) a b ↔ Big (defs ord) g a b :=
  (big_conjLOf d [g] a b).trans ⟨fun ⟨_, h, e⟩ => e ▸ h, fun h => ⟨b, h, rfl⟩⟩

theorem big_first (d : Bool) (l x : Term) (a b : State) :
    Big (defs ord) (firstG ord d l x) a b ↔
      Big (defs ord) (eqG ord (.cons x (.var a.nextVar)) l) { a with nextVar := a.nextVar + 1 } b :=
  big_dyn.trans (big_fresh.trans (big_single d _ _ b))

theorem big_rest (d : Bool) (l x : Term) (a b : State) :
    Big (defs ord) (restG ord d l x) a b ↔
      Big (defs ord) (eqG ord (.cons (.var a.nextVar) x) l) { a with nextVar := a.nextVar + 1 } b :=
  big_dyn.trans (big_fresh.trans (big_single d _ _ b))

/-- a goal `g` that draws a variable from the counter and then unifies `pat`, which may mention that variable, with
    `l`: SOUND — every answer describes only valuations that equate the two; COMPLETE — a valuation of the start
    state that some value `t` of the new variable extends to one equating the two is described by an answer -/
theorem eq_fresh (ho : OrderOK ord) (g : G) (pat l : Term) (a : State)
    (hg : ∀ b, Big (defs ord) g a b ↔ Big (defs ord) (eqG ord pat l) { a with nextVar := a.nextVar + 1 } b) :
    (∀ b, Big (defs ord) g a b → b.panic.isSome = false → Good a →
      Good b ∧ ∀ γ, StateSem γ b → StateSem γ a ∧ apply γ pat = apply γ l) ∧
    (∀ γ t, Below (a.nextVar + 1) pat → Below a.nextVar l → a.panic.isSome = false → RInv a → StateSem γ a →
      apply (setV γ a.nextVar t) pat = apply γ l →
      ∃ b, Big (defs ord) g a b ∧ (b.panic.isSome = true ∨ ∃ γ', Agree a.nextVar γ γ' ∧ StateSem γ' b)) := by
  constructor
  · intro b hb hp hga
    obtain ⟨n, hn⟩ := (hg b).1 hb
    exact (den_atom ho n (.eq pat l) n (Nat.le_refl _) _ b hn).2 hp hga
  · intro γ t bp bl hp hi hγ e
    have hag : Agree a.nextVar γ (setV γ a.nextVar t) := agree_setV γ t (Nat.le_refl _)
    obtain ⟨b, hb, post⟩ := (complete_eq ho bp (bl.mono (Nat.le_add_right _ _)) (e.trans (apply_of_agree bl hag))).run
      (a := { a with nextVar := a.nextVar + 1 }) hp (rinv_bump 1 hi) (hi.2 _ _ hag hγ)
    exact ⟨b, (hg b).2 hb, (post_trans (Nat.le_add_right _ 1) hag post).desc⟩

end

/-- `first(list, x)`: SOUND — every answer describes only valuations under which `list` is `[x | _]`; COMPLETE — every
    such valuation of the start state is described by the answer (extended to the fresh tail variable) -/
theorem C24_first (ord : Order) (ho : OrderOK ord) (d : Bool) (l x : Term) (a : State) :
    (∀ b, Big (defs ord) (firstG ord d l x) a b → b.panic.isSome = false → Good a →
      Good b ∧ ∀ γ, StateSem γ b → StateSem γ a ∧ ∃ t, apply γ l = .cons (apply γ x) t) ∧
    (∀ γ t, Below a.nextVar l → Below a.nextVar x → a.panic.isSome = false → RInv a → StateSem γ a →
      apply γ l = .cons (apply γ x) t →
      ∃ b, Big (defs ord) (firstG ord d l x) a b ∧ (b.panic.isSome = true ∨ ∃ γ', Agree a.nextVar γ γ' ∧ StateSem γ' b)) := by
  obtain ⟨sound, complete⟩ := eq_fresh ho _ (.cons x (.var a.nextVar)) l a (big_first d l x a)
  constructor
  · intro b hb hp hg
    obtain ⟨gb, sem⟩ := sound b hb hp hg
    exact ⟨gb, fun γ hγ => ⟨(sem γ hγ).1, γ a.nextVar, (sem γ hγ).2.symm⟩⟩
  · intro γ t bl bx hp hi hγ e
    refine complete γ t (below_cons (bx.mono (Nat.le_add_right _ _)) (below_var (Nat.lt_succ_self _))) bl hp hi hγ ?_
    simp only [apply, setV_self, ← apply_of_agree bx (agree_setV γ t (Nat.le_refl _)), e]

/-- `rest(list, x)`: sound and complete for "`list` is `[_ | x]`" -/
theorem C24_rest (ord : Order) (ho : OrderOK ord) (d : Bool) (l x : Term) (a : State) :
    (∀ b, Big (defs ord) (restG ord d l x) a b → b.panic.isSome = false → Good a →
      Good b ∧ ∀ γ, StateSem γ b → StateSem γ a ∧ ∃ h, apply γ l = .cons h (apply γ x)) ∧
    (∀ γ h, Below a.nextVar l → Below a.nextVar x → a.panic.isSome = false → RInv a → StateSem γ a →
      apply γ l = .cons h (apply γ x) →
      ∃ b, Big (defs ord) (restG ord d l x) a b ∧ (b.panic.isSome = true ∨ ∃ γ', Agree a.nextVar γ γ' ∧ StateSem γ' b)) := by
  obtain ⟨sound, complete⟩ := eq_fresh ho _ (.cons (.var a.nextVar) x) l a (big_rest d l x a)
  constructor
  · intro b hb hp hg
    obtain ⟨gb, sem⟩ := sound b hb hp hg
    exact ⟨gb, fun γ hγ => ⟨(sem γ hγ).1, γ a.nextVar, (sem γ hγ).2.symm⟩⟩
  · intro γ h bl bx hp hi hγ e
    refine complete γ h (below_cons (below_var (Nat.lt_succ_self _)) (bx.mono (Nat.le_add_right _ _))) bl hp hi hγ ?_
    simp only [apply, setV_self, ← apply_of_agree bx (agree_setV γ h (Nat.le_refl _)), e]

/-- `cons(f, r, out)` / `empty(s)` are one unification each (`consG f r out` is `eqG (.cons f r) out`, `emptyG s` is
    `eqG .nil s`): a unification `u == v` is sound and complete for "`u` and `v` are equal" -/
theorem C24_cons_empty (ord : Order) (ho : OrderOK ord) (u v : Term) (a : State) :
    (∀ b, Big (defs ord) (eqG ord u v) a b → b.panic.isSome = false → Good a →
      Good b ∧ ∀ γ, StateSem γ b → StateSem γ a ∧ apply γ u = apply γ v) ∧
    (∀ γ, Below a.nextVar u → Below a.nextVar v → a.panic.isSome = false → RInv a → StateSem γ a → apply γ u = apply γ v →
      ∃ b, Big (defs ord) (eqG ord u v) a b ∧ (b.panic.isSome = true ∨ StateSem γ b)) := by
  constructor
  · intro b ⟨n, hn⟩ hp hg
    exact (den_atom ho n (.eq u v) n (Nat.le_refl _) a b hn).2 hp hg
  · intro γ bu bv hp hi hγ e
    obtain ⟨b, hb, post⟩ := atom_run ho (.eq u v) ⟨bu, bv⟩ hp hi hγ e
    exact ⟨b, hb, post.imp id fun h => h.2.2⟩

section Examples
/-- non-vacuity: `first([1, 2], x)` from the empty state over one variable — the engine delivers one unpoisoned state with x = 1 -/
example : ((runF (solveAt (defs Order.default) 5 2) 20 (solveAt (defs Order.default) 5 2
    (firstG Order.default false (ofList [Term.num 1, Term.num 2]) (.var 0)) (State.empty 1))).map
      fun s => (s.panic.isSome, apply s.σ (.var 0))) = [(false, Term.num 1)] := by decide +kernel
end Examples

end Pv
