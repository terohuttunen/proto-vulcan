/-
  C16 / C17 / C04 — THE WHOLE QUERY ON THE ENGINE, FINITE DOMAINS INCLUDED.  `queryG` is
  `fresh(__query__) [__query__ == [q0, …], body, reify(__query__)]`, and `reify` starts with
  `enforce_constraints_fd` (labelling of the query term, `verify_all_bound`, the `onceo` over the remaining domain
  variables).  For a body `p` of `==`, `!=`, domain and FD-constraint atoms under conjunction, `conde` and `fresh`:
  the engine terminates and the delivered states are — as a multiset — the SUM OVER THE PATHS of the body, for each
  path state `s` the states `B s` that `enforce_constraints_fd` delivers from it, each reified.

  `C17_enforce_exactly_once` (Props/C17Enforce.lean) supplies `B s` and its properties (one closed state per block of the
  labelling that has a solution, none for the others); `C17_assignments_bijection` / `C17_answer_values` identify the
  blocks with the assignments of the query variables.  `C17_query_program` is the step those leave open: the sum over the
  paths of a program, the `fresh(__query__)` wrapper and the reification atom.
-/
import PvModel.Proofs.QueryGoal
import PvModel.Props.C02Query
import PvModel.Props.C17Enforce
namespace Pv
open Strm Goal State Term

attribute [local instance] Mode.strict

/-- The engine on the whole query goal, from any start state whose query equation succeeds with `s1`: if from every path state
    `s` of the body `enforce_constraints_fd` delivers the unpoisoned states `B s`, the engine terminates and its answers are — as
    a multiset — the reified `B s` over all path states. -/
theorem C17_query_program (ord : Order) (dfs : Call → State → State × G) (pf M : Nat)
    (p : FProg) (qv : Term) (qs : List Term) (s0 s1 : State) (B : State → List State)
    (h1 : (liftRes fun st => postAtom ord st (.eq qv (Term.ofList qs))) s0 = some s1)
    (hE : ∀ s ∈ pathStates ord p s1,
      AnsS (solveAt dfs pf (M + 2)) (solveAt dfs pf (M + 2) (enforceFd ord qv) s) (B s) ∧ ∀ b ∈ B s, b.panic = none) :
    ∃ k zs, drainF (solveAt dfs pf (M + 2)) k (solveAt dfs pf (M + 2) (queryG ord qv qs [p.goal ord]) s0) = some zs ∧
      ((pathStates ord p s1).flatMap fun s => (B s).map fun b => reifyState ord b qv).Perm zs := by
  obtain ⟨N, hx⟩ := evalRef_pathStates ord dfs p s1
  refine query_drain dfs pf M N (p.goal ord) qv qs s0 s1 _ (fun s => (B s).map fun b => reifyState ord b qv) h1 hx fun s hsx => ?_
  obtain ⟨hA, hp⟩ := hE s hsx
  exact reifyG_of_enforce (ord := ord) dfs pf (M + 1) qv s (B s) hA hp

/-- every unpoisoned path state of a query run from the EMPTY state, whose body posts well-formed domains and propagators
    and no CLP(Z) constraint, has the labelling invariants (`LInv`: well-formed, the state-machine invariant, every domain
    key unbound, every propagator live) -/
theorem C17_path_state_invariants {ord : Order} (ho : OrderOK ord) (n : Nat) (p : FProg) (hok : p.OK)
    (hnz : ∀ path ∈ p.paths, ∀ a ∈ path, a.NoZ) (qv : Term) (qs : List Term) (s1 : State)
    (h1 : postAtom ord (State.empty n) (.eq qv (Term.ofList qs)) = .ok s1)
    (s : State) (hs : s ∈ pathStates ord p s1) (hp : s.panic = none) : LInv s := by
  obtain ⟨path, hpath, hfull⟩ := pathStates_from_empty ord n p qv qs s1 h1 s hs hp
  exact linv_of_atoms ho n (.eq qv (Term.ofList qs) :: path) (List.forall_mem_cons.2 ⟨trivial, FProg.paths_ok p hok path hpath⟩)
    (List.forall_mem_cons.2 ⟨trivial, hnz path hpath⟩) s hfull

/-- The whole query with its blocks, under ONE drain: the setting and the conclusions of `C17_query_exactly_once`, and for the
    same `k`, `zs`, `blocks` the answers of each path state give the query term pairwise different values. -/
theorem query_once {ord : Order} (ho : OrderOK ord) (dfs : Call → State → State × G) (pf M : Nat)
    (p : FProg) (qv : Term) (qs : List Term) (s0 s1 : State)
    (h1 : (liftRes fun st => postAtom ord st (.eq qv (Term.ofList qs))) s0 = some s1)
    (NOf : State → Nat) (xsOf : State → List State) (N2 : State → State → Nat) (dsOf ysOf : State → State → List State)
    (hs : ∀ s ∈ pathStates ord p s1, LInv s ∧ s.panic = none ∧ OpsOK s ∧
      evalRef dfs (NOf s) (forceAns ord forceFuel qv) s = some (xsOf s) ∧ (∀ c ∈ xsOf s, c.panic = none) ∧
      ∀ c ∈ xsOf s, BlockHypU ord dfs pf M (N2 s c) c (dsOf s c) (ysOf s c)) :
    ∃ (k : Nat) (zs : List State) (blocks : State → List State),
      drainF (solveAt dfs pf (M + 2)) k (solveAt dfs pf (M + 2) (queryG ord qv qs [p.goal ord]) s0) = some zs ∧
      (∀ s ∈ pathStates ord p s1, (xsOf s).Perm (blocks s)) ∧
      ((pathStates ord p s1).flatMap fun s =>
        ((blocks s).flatMap fun c => ((ysOf s c).head?).toList).map fun b => reifyState ord b qv).Perm zs ∧
      (∀ s ∈ pathStates ord p s1, ∀ c ∈ xsOf s,
        (∀ b, (ysOf s c).head? = some b → b.dstore = [] ∧ (∀ q ∈ b.store, q.2.isDiseq = true) ∧ ∀ γ, Sem NoI γ b → Sem NoI γ c) ∧
        ((∃ γ, Sem NoI γ c) → ((ysOf s c).head?).isSome = true)) ∧
      (∀ s ∈ pathStates ord p s1, ((blocks s).flatMap fun c => ((ysOf s c).head?).toList).Pairwise
        (fun a b => ∀ γa γb, Sem NoI γa a → Sem NoI γb b → apply γa qv ≠ apply γb qv)) := by
  classical
  have each : ∀ s, s ∈ pathStates ord p s1 → _ := fun s hsm => by
    obtain ⟨li, hp, ops, hx, hall, hblk⟩ := hs s hsm
    exact C17_each_assignment_once ho dfs pf M qv s (NOf s) (xsOf s) li hp ops hx hall (N2 s) (dsOf s) (ysOf s)
      (fun c hc => (hblk c hc).block)
  have facts : ∀ s, s ∈ pathStates ord p s1 → _ := fun s hsm => by
    obtain ⟨li, hp, ops, hx, hall, hblk⟩ := hs s hsm
    exact (C17_enforce_exactly_once ho dfs pf M qv s (NOf s) (xsOf s) li hp ops hx hall (N2 s) (dsOf s) (ysOf s)
      (fun c hc => (hblk c hc).block)).2
  let blocks : State → List State := fun s =>
    if h : s ∈ pathStates ord p s1 then Classical.choose (each s h) else []
  have hblocks : ∀ s (h : s ∈ pathStates ord p s1), (xsOf s).Perm (blocks s) ∧
      AnsS (solveAt dfs pf (M + 2)) (solveAt dfs pf (M + 2) (enforceFd ord qv) s)
        ((blocks s).flatMap fun c => ((ysOf s c).head?).toList) ∧
      ((blocks s).flatMap fun c => ((ysOf s c).head?).toList).Pairwise
        (fun a b => ∀ γa γb, Sem NoI γa a → Sem NoI γb b → apply γa qv ≠ apply γb qv) := by
    intro s h
    have := Classical.choose_spec (each s h)
    simp only [blocks, h, dif_pos]
    exact ⟨this.1, this.2.1, this.2.2.1⟩
  have hE : ∀ s ∈ pathStates ord p s1,
      AnsS (solveAt dfs pf (M + 2)) (solveAt dfs pf (M + 2) (enforceFd ord qv) s)
        ((blocks s).flatMap fun c => ((ysOf s c).head?).toList) ∧
      ∀ b ∈ (blocks s).flatMap fun c => ((ysOf s c).head?).toList, b.panic = none := by
    intro s hsm
    refine ⟨(hblocks s hsm).2.1, fun b hb => ?_⟩
    obtain ⟨c, hc, hbc⟩ := List.mem_flatMap.1 hb
    have hcx : c ∈ xsOf s := (hblocks s hsm).1.mem_iff.2 hc
    obtain ⟨_, _, _, _, _, hblk⟩ := hs s hsm
    exact (hblk c hcx).unpoisoned b (List.mem_of_mem_head? (Option.mem_toList.1 hbc))
  obtain ⟨k, zs, hk, pz⟩ := C17_query_program ord dfs pf M p qv qs s0 s1
    (fun s => (blocks s).flatMap fun c => ((ysOf s c).head?).toList) h1 hE
  exact ⟨k, zs, blocks, hk, fun s hsm => (hblocks s hsm).1, pz,
    fun s hsm c hc => ⟨(facts s hsm c hc).1, (facts s hsm c hc).2.1⟩, fun s hsm => (hblocks s hsm).2.2⟩

/-- `C17_enforce_exactly_once` and `C17_query_program` IN ONE STATEMENT.  For every path state `s`
    of the body with the labelling invariants, whose labelling of the query term delivers the blocks `xsOf s` and whose
    blocks pass `verify_all_bound` and have their hidden labelling drained, unpoisoned, within the peek fuel (`ysOf s c`): the engine
    terminates on the whole query goal, and its answers are — as a multiset — the reified heads `(ysOf s c).head?` over all
    paths `s` and all blocks `c`: AT MOST ONE answer per block, ONE for every block that describes a valuation, each answer a
    closed state describing only valuations of its block. -/
theorem C17_query_exactly_once {ord : Order} (ho : OrderOK ord) (dfs : Call → State → State × G) (pf M : Nat)
    (p : FProg) (qv : Term) (qs : List Term) (s0 s1 : State)
    (h1 : (liftRes fun st => postAtom ord st (.eq qv (Term.ofList qs))) s0 = some s1)
    (NOf : State → Nat) (xsOf : State → List State) (N2 : State → State → Nat) (dsOf ysOf : State → State → List State)
    (hs : ∀ s ∈ pathStates ord p s1, LInv s ∧ s.panic = none ∧ OpsOK s ∧
      evalRef dfs (NOf s) (forceAns ord forceFuel qv) s = some (xsOf s) ∧ (∀ c ∈ xsOf s, c.panic = none) ∧
      ∀ c ∈ xsOf s, c.allBound = true ∧ c.dstore.length < forceFuel ∧
        evalRef dfs (N2 s c) (forceAns ord forceFuel (Term.ofList ((ord.ds c.dstore).map fun q => Term.var q.1))) c = some (dsOf s c) ∧
        (∀ t ∈ dsOf s c, t.panic = none) ∧
        drainF (solveAt dfs pf (M + 1)) pf
          (start dfs (solveAt dfs pf (M + 1)) pf
            (Goal.conjOfList [forceAns ord forceFuel (Term.ofList ((ord.ds c.dstore).map fun q => Term.var q.1))]) c) = some (ysOf s c) ∧
        (∀ t ∈ ysOf s c, t.panic = none)) :
    ∃ (k : Nat) (zs : List State) (blocks : State → List State),
      drainF (solveAt dfs pf (M + 2)) k (solveAt dfs pf (M + 2) (queryG ord qv qs [p.goal ord]) s0) = some zs ∧
      (∀ s ∈ pathStates ord p s1, (xsOf s).Perm (blocks s)) ∧
      ((pathStates ord p s1).flatMap fun s =>
        ((blocks s).flatMap fun c => ((ysOf s c).head?).toList).map fun b => reifyState ord b qv).Perm zs ∧
      (∀ s ∈ pathStates ord p s1, ∀ c ∈ xsOf s,
        (∀ b, (ysOf s c).head? = some b → b.dstore = [] ∧ (∀ q ∈ b.store, q.2.isDiseq = true) ∧ ∀ γ, Sem NoI γ b → Sem NoI γ c) ∧
        ((∃ γ, Sem NoI γ c) → ((ysOf s c).head?).isSome = true)) := by
  obtain ⟨k, zs, blocks, hk, hbl, pz, hprops, _⟩ := query_once ho dfs pf M p qv qs s0 s1 h1 NOf xsOf N2 dsOf ysOf hs
  exact ⟨k, zs, blocks, hk, hbl, pz, hprops⟩

/-- NO SOLUTION IS LOST, FOR THE WHOLE QUERY, ON THE ENGINE.  In the setting of `C17_query_exactly_once`:
    for every path state `s` of the body and every valuation `γ` it describes (every solution of that path: `postAllF_sem`),
    the block `c` of the query-term labelling that contains `γ` has an answer — the engine delivers the reified head of its
    hidden labelling.  (With `C17_assignments_bijection`: that answer gives the query term the value `γ` gives it.) -/
theorem C17_query_complete {ord : Order} (ho : OrderOK ord) (dfs : Call → State → State × G) (pf M : Nat)
    (p : FProg) (qv : Term) (qs : List Term) (s0 s1 : State)
    (h1 : (liftRes fun st => postAtom ord st (.eq qv (Term.ofList qs))) s0 = some s1)
    (NOf : State → Nat) (xsOf : State → List State) (N2 : State → State → Nat) (dsOf ysOf : State → State → List State)
    (hs : ∀ s ∈ pathStates ord p s1, LInv s ∧ s.panic = none ∧ OpsOK s ∧
      evalRef dfs (NOf s) (forceAns ord forceFuel qv) s = some (xsOf s) ∧ (∀ c ∈ xsOf s, c.panic = none) ∧
      ∀ c ∈ xsOf s, c.allBound = true ∧ c.dstore.length < forceFuel ∧
        evalRef dfs (N2 s c) (forceAns ord forceFuel (Term.ofList ((ord.ds c.dstore).map fun q => Term.var q.1))) c = some (dsOf s c) ∧
        (∀ t ∈ dsOf s c, t.panic = none) ∧
        drainF (solveAt dfs pf (M + 1)) pf
          (start dfs (solveAt dfs pf (M + 1)) pf
            (Goal.conjOfList [forceAns ord forceFuel (Term.ofList ((ord.ds c.dstore).map fun q => Term.var q.1))]) c) = some (ysOf s c) ∧
        (∀ t ∈ ysOf s c, t.panic = none)) :
    ∃ (k : Nat) (zs : List State),
      drainF (solveAt dfs pf (M + 2)) k (solveAt dfs pf (M + 2) (queryG ord qv qs [p.goal ord]) s0) = some zs ∧
      ∀ s ∈ pathStates ord p s1, ∀ γ, Sem NoI γ s →
        ∃ c ∈ xsOf s, Sem NoI γ c ∧ ∃ b, (ysOf s c).head? = some b ∧ reifyState ord b qv ∈ zs := by
  obtain ⟨k, zs, blocks, hk, hbl, pz, hprops, _⟩ := query_once ho dfs pf M p qv qs s0 s1 h1 NOf xsOf N2 dsOf ysOf hs
  refine ⟨k, zs, hk, fun s hsm γ hγ => ?_⟩
  obtain ⟨hi, hp, _, hx, hall, _⟩ := hs s hsm
  have part := forceAns_part dfs ho forceFuel qv (NOf s) s (xsOf s) ⟨hi.w, hi.i⟩ hp hx hall
  obtain ⟨c, hc, hsc⟩ := part.2.1 γ hγ
  obtain ⟨b, hh⟩ := Option.isSome_iff_exists.1 ((hprops s hsm c hc).2 ⟨γ, hsc⟩)
  refine ⟨c, hc, hsc, b, hh, pz.mem_iff.1 ?_⟩
  exact List.mem_flatMap.2 ⟨s, hsm, List.mem_map_of_mem
    (List.mem_flatMap.2 ⟨c, (hbl s hsm).mem_iff.1 hc, Option.mem_toList.2 hh⟩)⟩

/-- NO ASSIGNMENT IS ANSWERED TWICE ALONG ONE PATH, FOR THE WHOLE QUERY, ON THE ENGINE.  In the setting
    of `C17_query_exactly_once`: the closed states behind the answers that come from one path state give the query term PAIRWISE
    DIFFERENT values — whatever valuation one describes and whatever valuation another describes.  (Two PATHS of a `conde` may
    answer the same assignment once each: that is the multiplicity "per path" of the property.) -/
theorem C17_query_no_duplicates {ord : Order} (ho : OrderOK ord) (dfs : Call → State → State × G) (pf M : Nat)
    (p : FProg) (qv : Term) (qs : List Term) (s0 s1 : State)
    (h1 : (liftRes fun st => postAtom ord st (.eq qv (Term.ofList qs))) s0 = some s1)
    (NOf : State → Nat) (xsOf : State → List State) (N2 : State → State → Nat) (dsOf ysOf : State → State → List State)
    (hs : ∀ s ∈ pathStates ord p s1, LInv s ∧ s.panic = none ∧ OpsOK s ∧
      evalRef dfs (NOf s) (forceAns ord forceFuel qv) s = some (xsOf s) ∧ (∀ c ∈ xsOf s, c.panic = none) ∧
      ∀ c ∈ xsOf s, c.allBound = true ∧ c.dstore.length < forceFuel ∧
        evalRef dfs (N2 s c) (forceAns ord forceFuel (Term.ofList ((ord.ds c.dstore).map fun q => Term.var q.1))) c = some (dsOf s c) ∧
        (∀ t ∈ dsOf s c, t.panic = none) ∧
        drainF (solveAt dfs pf (M + 1)) pf
          (start dfs (solveAt dfs pf (M + 1)) pf
            (Goal.conjOfList [forceAns ord forceFuel (Term.ofList ((ord.ds c.dstore).map fun q => Term.var q.1))]) c) = some (ysOf s c) ∧
        (∀ t ∈ ysOf s c, t.panic = none)) :
    ∃ (k : Nat) (zs : List State) (blocks : State → List State),
      drainF (solveAt dfs pf (M + 2)) k (solveAt dfs pf (M + 2) (queryG ord qv qs [p.goal ord]) s0) = some zs ∧
      ((pathStates ord p s1).flatMap fun s =>
        ((blocks s).flatMap fun c => ((ysOf s c).head?).toList).map fun b => reifyState ord b qv).Perm zs ∧
      ∀ s ∈ pathStates ord p s1, ((blocks s).flatMap fun c => ((ysOf s c).head?).toList).Pairwise
        (fun a b => ∀ γa γb, Sem NoI γa a → Sem NoI γb b → apply γa qv ≠ apply γb qv) := by
  obtain ⟨k, zs, blocks, hk, _, pz, _, hpw⟩ := query_once ho dfs pf M p qv qs s0 s1 h1 NOf xsOf N2 dsOf ysOf hs
  exact ⟨k, zs, blocks, hk, pz, hpw⟩

/-- C16 FOR THE WHOLE QUERY, ON THE ENGINE.  A query run from the empty state whose body posts
    well-formed domains and propagators (no CLP(Z) constraint), in the setting of `C17_query_exactly_once`: the engine
    terminates, and EVERY answer it delivers is the reified form of a closed state `b` (no domain left) reached along one path
    of the body, and — when `b` holds no tree disequality — every atom of that path (domains, FD constraints, `==`) and the
    query equation hold under `b`'s own substitution: each constrained variable is an integer of its domain and every
    posted constraint is satisfied. -/
theorem C16_query_answers_sound {ord : Order} (ho : OrderOK ord) (dfs : Call → State → State × G) (pf M n : Nat)
    (p : FProg) (hok : p.OK) (hnz : ∀ path ∈ p.paths, ∀ a ∈ path, a.NoZ) (qv : Term) (qs : List Term) (s1 : State)
    (h1 : postAtom ord (State.empty n) (.eq qv (Term.ofList qs)) = .ok s1)
    (NOf : State → Nat) (xsOf : State → List State) (N2 : State → State → Nat) (dsOf ysOf : State → State → List State)
    (hs : ∀ s ∈ pathStates ord p s1, s.panic = none ∧ OpsOK s ∧
      evalRef dfs (NOf s) (forceAns ord forceFuel qv) s = some (xsOf s) ∧ (∀ c ∈ xsOf s, c.panic = none) ∧
      ∀ c ∈ xsOf s, c.allBound = true ∧ c.dstore.length < forceFuel ∧
        evalRef dfs (N2 s c) (forceAns ord forceFuel (Term.ofList ((ord.ds c.dstore).map fun q => Term.var q.1))) c = some (dsOf s c) ∧
        (∀ t ∈ dsOf s c, t.panic = none) ∧
        drainF (solveAt dfs pf (M + 1)) pf
          (start dfs (solveAt dfs pf (M + 1)) pf
            (Goal.conjOfList [forceAns ord forceFuel (Term.ofList ((ord.ds c.dstore).map fun q => Term.var q.1))]) c) = some (ysOf s c) ∧
        (∀ t ∈ ysOf s c, t.panic = none)) :
    ∃ (k : Nat) (zs : List State),
      drainF (solveAt dfs pf (M + 2)) k (solveAt dfs pf (M + 2) (queryG ord qv qs [p.goal ord]) (State.empty n)) = some zs ∧
      ∀ z ∈ zs, ∃ path ∈ p.paths, ∃ b : State, z = reifyState ord b qv ∧ b.dstore = [] ∧
        (b.store = [] → (TAtom.eq qv (Term.ofList qs)).Sat b.σ ∧ ∀ a ∈ path, a.Sat b.σ) := by
  have hs' : ∀ s ∈ pathStates ord p s1, LInv s ∧ _ := fun s hsm =>
    ⟨C17_path_state_invariants ho n p hok hnz qv qs s1 h1 s hsm (hs s hsm).1, hs s hsm⟩
  obtain ⟨k, zs, blocks, hk, hbl, pz, hprops, _⟩ :=
    query_once ho dfs pf M p qv qs (State.empty n) s1 (liftRes_of_ok rfl h1) NOf xsOf N2 dsOf ysOf hs'
  refine ⟨k, zs, hk, fun z hz => ?_⟩
  obtain ⟨s, hsm, hzs⟩ := List.mem_flatMap.1 (pz.mem_iff.2 hz)
  obtain ⟨b, hb, rfl⟩ := List.mem_map.1 hzs
  obtain ⟨c, hc, hbc⟩ := List.mem_flatMap.1 hb
  have hcx : c ∈ xsOf s := (hbl s hsm).mem_iff.2 hc
  have hh : (ysOf s c).head? = some b := Option.mem_toList.1 hbc
  obtain ⟨hp, hops, hx, hall, hblk⟩ := hs s hsm
  obtain ⟨path, hpath, hfull⟩ := pathStates_from_empty ord n p qv qs s1 h1 s hsm hp
  refine ⟨path, hpath, b, rfl, ((hprops s hsm c hcx).1 b hh).1, fun hst => ?_⟩
  have key := C16_enforce_answers_sound ho dfs pf M n (.eq qv (Term.ofList qs) :: path) (List.forall_mem_cons.2 ⟨trivial, FProg.paths_ok p hok path hpath⟩)
    (List.forall_mem_cons.2 ⟨trivial, hnz path hpath⟩) qv s hfull (NOf s) (xsOf s) hp hops hx hall (N2 s) (dsOf s) (ysOf s)
    (fun c hc => BlockHypU.block (hblk c hc)) c hcx b hh hst
  exact ⟨key _ List.mem_cons_self, fun a ha => key a (List.mem_cons_of_mem _ ha)⟩

/-- the number of answers of the query is the sum over the paths of the number of states `enforce_constraints_fd` delivers -/
theorem C17_query_count (ord : Order) (dfs : Call → State → State × G) (pf M : Nat)
    (p : FProg) (qv : Term) (qs : List Term) (s0 s1 : State) (B : State → List State)
    (h1 : (liftRes fun st => postAtom ord st (.eq qv (Term.ofList qs))) s0 = some s1)
    (hE : ∀ s ∈ pathStates ord p s1,
      AnsS (solveAt dfs pf (M + 2)) (solveAt dfs pf (M + 2) (enforceFd ord qv) s) (B s) ∧ ∀ b ∈ B s, b.panic = none) :
    ∃ k zs, drainF (solveAt dfs pf (M + 2)) k (solveAt dfs pf (M + 2) (queryG ord qv qs [p.goal ord]) s0) = some zs ∧
      zs.length = ((pathStates ord p s1).map fun s => (B s).length).sum := by
  obtain ⟨k, zs, hk, pz⟩ := C17_query_program ord dfs pf M p qv qs s0 s1 B h1 hE
  refine ⟨k, zs, hk, ?_⟩
  rw [← pz.length_eq, List.length_flatMap]
  simp only [List.length_map]

/-- BRANCHES DO NOT SEE EACH OTHER, FOR THE WHOLE QUERY, ON THE ENGINE.  A query whose body is
    `conde { p ; q }` (tree and FD atoms, nested `conde`/`fresh` inside `p` and `q`) has — as a multiset — exactly the answers of
    the query with body `p` together with the answers of the query with body `q`: nothing a branch posts (bindings, domains,
    propagators, disequalities) reaches the other branch's answers, through labelling and reification included. -/
theorem C10_query_branch_isolation (ord : Order) (dfs : Call → State → State × G) (pf M : Nat)
    (p q : FProg) (qv : Term) (qs : List Term) (s0 s1 : State) (B : State → List State)
    (h1 : (liftRes fun st => postAtom ord st (.eq qv (Term.ofList qs))) s0 = some s1)
    (hE : ∀ s ∈ pathStates ord (.alt p q) s1,
      AnsS (solveAt dfs pf (M + 2)) (solveAt dfs pf (M + 2) (enforceFd ord qv) s) (B s) ∧ ∀ b ∈ B s, b.panic = none) :
    ∃ k kp kq zs zp zq,
      drainF (solveAt dfs pf (M + 2)) k (solveAt dfs pf (M + 2) (queryG ord qv qs [(FProg.alt p q).goal ord]) s0) = some zs ∧
      drainF (solveAt dfs pf (M + 2)) kp (solveAt dfs pf (M + 2) (queryG ord qv qs [p.goal ord]) s0) = some zp ∧
      drainF (solveAt dfs pf (M + 2)) kq (solveAt dfs pf (M + 2) (queryG ord qv qs [q.goal ord]) s0) = some zq ∧
      zs.Perm (zp ++ zq) := by
  obtain ⟨k, zs, hk, pz⟩ := C17_query_program ord dfs pf M (.alt p q) qv qs s0 s1 B h1 hE
  obtain ⟨kp, zp, hkp, pzp⟩ := C17_query_program ord dfs pf M p qv qs s0 s1 B h1
    (fun s hs => hE s (by rw [pathStates_alt]; exact List.mem_append_left _ hs))
  obtain ⟨kq, zq, hkq, pzq⟩ := C17_query_program ord dfs pf M q qv qs s0 s1 B h1
    (fun s hs => hE s (by rw [pathStates_alt]; exact List.mem_append_right _ hs))
  refine ⟨k, kp, kq, zs, zp, zq, hk, hkp, hkq, ?_⟩
  rw [pathStates_alt, List.flatMap_append] at pz
  exact pz.symm.trans (pzp.append pzq)

/-- the same for `==` / `!=` programs run from the empty state, with no hypothesis on the states (`C02_query_tree`) -/
theorem C10_query_branch_isolation_tree (ord : Order) (ho : OrderOK ord) (dfs : Call → State → State × G) (pf M n : Nat)
    (p q : FProg) (hp : p.TreeOnly) (hq : q.TreeOnly) (qv : Term) (qs : List Term) (s1 : State)
    (h1 : postAtom ord (State.empty n) (.eq qv (Term.ofList qs)) = .ok s1)
    (hnf : ∀ path ∈ (FProg.alt p q).paths, postAllF ord s1 path ≠ .fuel)
    (hsz : ∀ path ∈ (FProg.alt p q).paths, ∀ s, postAllF ord s1 path = .ok s → (apply s.σ qv).size ≤ forceFuel) :
    ∃ k kp kq zs zp zq,
      drainF (solveAt dfs (pf + 2) (M + 2)) k (solveAt dfs (pf + 2) (M + 2) (queryG ord qv qs [(FProg.alt p q).goal ord]) (State.empty n)) = some zs ∧
      drainF (solveAt dfs (pf + 2) (M + 2)) kp (solveAt dfs (pf + 2) (M + 2) (queryG ord qv qs [p.goal ord]) (State.empty n)) = some zp ∧
      drainF (solveAt dfs (pf + 2) (M + 2)) kq (solveAt dfs (pf + 2) (M + 2) (queryG ord qv qs [q.goal ord]) (State.empty n)) = some zq ∧
      zs.Perm (zp ++ zq) := by
  have hpaths : (FProg.alt p q).paths = p.paths ++ q.paths := rfl
  obtain ⟨k, zs, hk, pz⟩ := C02_query_tree ord ho dfs pf M n (.alt p q) ⟨hp, hq⟩ qv qs s1 h1 hnf hsz
  obtain ⟨kp, zp, hkp, pzp⟩ := C02_query_tree ord ho dfs pf M n p hp qv qs s1 h1
    (fun path h => hnf path (by rw [hpaths]; exact List.mem_append_left _ h))
    (fun path h => hsz path (by rw [hpaths]; exact List.mem_append_left _ h))
  obtain ⟨kq, zq, hkq, pzq⟩ := C02_query_tree ord ho dfs pf M n q hq qv qs s1 h1
    (fun path h => hnf path (by rw [hpaths]; exact List.mem_append_right _ h))
    (fun path h => hsz path (by rw [hpaths]; exact List.mem_append_right _ h))
  refine ⟨k, kp, kq, zs, zp, zq, hk, hkp, hkq, ?_⟩
  rw [pathStates_alt, List.map_append] at pz
  exact pz.symm.trans (pzp.append pzq)

/-- C04's reading of `C17_query_program` for REORDERED CLAUSES: two bodies whose lists of path states are permutations of
    each other (swapping the clauses of a `conde`, at any depth, permutes the paths and leaves each path's atoms — hence
    its state — unchanged) have the same answer multiset on the engine.  (Swapping CONJUNCTS changes the order in which a
    path's atoms are posted, so the path states are only semantically equal: that case is `C04_fd_answer_values_perm`
    per path, and `C04_tree_reorder_multiset` for `==`/`!=` programs.) -/
theorem C04_fd_query_reorder (ord : Order) (dfs : Call → State → State × G) (pf M : Nat)
    (p p' : FProg) (qv : Term) (qs : List Term) (s0 s1 : State) (B : State → List State)
    (h1 : (liftRes fun st => postAtom ord st (.eq qv (Term.ofList qs))) s0 = some s1)
    (hperm : (pathStates ord p s1).Perm (pathStates ord p' s1))
    (hE : ∀ s ∈ pathStates ord p s1,
      AnsS (solveAt dfs pf (M + 2)) (solveAt dfs pf (M + 2) (enforceFd ord qv) s) (B s) ∧ ∀ b ∈ B s, b.panic = none) :
    ∃ k k' zs zs', drainF (solveAt dfs pf (M + 2)) k (solveAt dfs pf (M + 2) (queryG ord qv qs [p.goal ord]) s0) = some zs ∧
      drainF (solveAt dfs pf (M + 2)) k' (solveAt dfs pf (M + 2) (queryG ord qv qs [p'.goal ord]) s0) = some zs' ∧
      zs.Perm zs' := by
  obtain ⟨k, zs, hk, pz⟩ := C17_query_program ord dfs pf M p qv qs s0 s1 B h1 hE
  obtain ⟨k', zs', hk', pz'⟩ := C17_query_program ord dfs pf M p' qv qs s0 s1 B h1
    (fun s hs => hE s (hperm.mem_iff.2 hs))
  exact ⟨k, k', zs, zs', hk, hk', pz.symm.trans ((hperm.flatMap_right _).trans pz')⟩

/-! ### the hypotheses as ONE Boolean check, for any FD query (the NonVacuity section below is an instance) -/
section Checked
variable (ord : Order) (dfs : Call → State → State × G) (pf M N : Nat) (qv : Term)

/-- the labelling data the theorems quantify over, computed -/
def ckKeys (c : State) : Term := Term.ofList ((ord.ds c.dstore).map fun q => Term.var q.1)
def ckXs (s : State) : List State := (evalRef dfs N (forceAns ord forceFuel qv) s).getD []
def ckDs (_ c : State) : List State := (evalRef dfs N (forceAns ord forceFuel (ckKeys ord c)) c).getD []
def ckYs (_ c : State) : List State :=
  (drainF (solveAt dfs pf (M + 1)) pf (start dfs (solveAt dfs pf (M + 1)) pf
    (Goal.conjOfList [forceAns ord forceFuel (ckKeys ord c)]) c)).getD []

def ckBlockOK (c : State) : Bool :=
  c.panic.isNone && c.allBound && decide (c.dstore.length < forceFuel) &&
  (match evalRef dfs N (forceAns ord forceFuel (ckKeys ord c)) c with
   | some ds => ds.all (·.panic.isNone)
   | none => false) &&
  (drainF (solveAt dfs pf (M + 1)) pf (start dfs (solveAt dfs pf (M + 1)) pf
    (Goal.conjOfList [forceAns ord forceFuel (ckKeys ord c)]) c)).isSome &&
  (ckYs ord dfs pf M c c).all (·.panic.isNone)

def ckStateOK (s : State) : Bool :=
  s.panic.isNone && s.allBound &&
  (s.store.all fun q => q.2.isDiseq || (operandsOf q.2).all fun u => (walk s.σ u).isVar || (walk s.σ u).isNum) &&
  (match evalRef dfs N (forceAns ord forceFuel qv) s with
   | some xs => xs.all (ckBlockOK ord dfs pf M N)
   | none => false)

/-- the whole check: the query equation succeeds and every path state passes -/
def queryFdOK (n : Nat) (p : FProg) (qs : List Term) : Bool :=
  match postAtom ord (State.empty n) (.eq qv (Term.ofList qs)) with
  | .ok s1 => (pathStates ord p s1).all (ckStateOK ord dfs pf M N qv)
  | _ => false

theorem queryFdOK_start (n : Nat) (p : FProg) (qs : List Term) (hc : queryFdOK ord dfs pf M N qv n p qs = true) :
    ∃ s1, postAtom ord (State.empty n) (.eq qv (Term.ofList qs)) = .ok s1 := by
  unfold queryFdOK at hc
  split at hc
  · rename_i s1 h1
    exact ⟨s1, h1⟩
  · cases hc

/-- from the check to the hypotheses of `C16_query_answers_sound` / `C17_query_exactly_once` -/
theorem queryFdOK_hyps (ho : OrderOK ord) (n : Nat) (p : FProg) (hok : p.OK) (hnz : ∀ path ∈ p.paths, ∀ a ∈ path, a.NoZ)
    (qs : List Term) (s1 : State) (h1 : postAtom ord (State.empty n) (.eq qv (Term.ofList qs)) = .ok s1)
    (hc : queryFdOK ord dfs pf M N qv n p qs = true) :
    ∀ s ∈ pathStates ord p s1, s.panic = none ∧ OpsOK s ∧
      evalRef dfs N (forceAns ord forceFuel qv) s = some (ckXs ord dfs N qv s) ∧ (∀ c ∈ ckXs ord dfs N qv s, c.panic = none) ∧
      ∀ c ∈ ckXs ord dfs N qv s, c.allBound = true ∧ c.dstore.length < forceFuel ∧
        evalRef dfs N (forceAns ord forceFuel (Term.ofList ((ord.ds c.dstore).map fun q => Term.var q.1))) c = some (ckDs ord dfs N s c) ∧
        (∀ t ∈ ckDs ord dfs N s c, t.panic = none) ∧
        drainF (solveAt dfs pf (M + 1)) pf
          (start dfs (solveAt dfs pf (M + 1)) pf
            (Goal.conjOfList [forceAns ord forceFuel (Term.ofList ((ord.ds c.dstore).map fun q => Term.var q.1))]) c) = some (ckYs ord dfs pf M s c) ∧
        (∀ t ∈ ckYs ord dfs pf M s c, t.panic = none) := by
  unfold queryFdOK at hc
  rw [h1] at hc
  intro s hsm
  have hst := List.all_eq_true.1 hc s hsm
  unfold ckStateOK at hst
  simp only [Bool.and_eq_true] at hst
  obtain ⟨⟨⟨hp, hab⟩, hkind⟩, hx⟩ := hst
  have hpn : s.panic = none := Option.isNone_iff_eq_none.1 hp
  have hi := C17_path_state_invariants ho n p hok hnz qv qs s1 h1 s hsm hpn
  have hops : OpsOK s := C17_opsOK_of_allBound s hab hi.z (kindCheck_spec hkind)
  split at hx
  · rename_i xs h2
    have eX : ckXs ord dfs N qv s = xs := by unfold ckXs; rw [h2]; rfl
    rw [eX]
    have blk : ∀ c ∈ xs, c.panic = none ∧ BlockHypU ord dfs pf M N c (ckDs ord dfs N s c) (ckYs ord dfs pf M s c) := by
      intro c hc'
      have hb := List.all_eq_true.1 hx c hc'
      unfold ckBlockOK at hb
      obtain ⟨hb, b6⟩ := Bool.and_eq_true_iff.1 hb
      obtain ⟨b1, b2, b3, b4, b4', b5⟩ := blockCheck_spec hb
      exact ⟨b1, b2, b3, b4, b4', b5, fun t ht => Option.isNone_iff_eq_none.1 (List.all_eq_true.1 b6 t ht)⟩
    exact ⟨hpn, hops, h2, fun c hc' => (blk c hc').1, fun c hc' => (blk c hc').2⟩
  · cases hx

/-- for ANY FD query run from the empty state whose body posts well-formed domains and propagators and no
    CLP(Z) constraint: if the Boolean check passes, the engine terminates on the query goal and EVERY answer is the reified form of
    a closed state along one path whose own substitution satisfies every atom of that path (C16), and every valuation a path state
    describes lies in a block whose answer the engine delivers (C17).  The two parts are stated with a drain each; `query_once`
    gives the facts behind both under one drain. -/
theorem C16_query_checked (ho : OrderOK ord) (n : Nat) (p : FProg) (hok : p.OK) (hnz : ∀ path ∈ p.paths, ∀ a ∈ path, a.NoZ)
    (qs : List Term) (hc : queryFdOK ord dfs pf M N qv n p qs = true) :
    ∃ s1, postAtom ord (State.empty n) (.eq qv (Term.ofList qs)) = .ok s1 ∧
    (∃ (k : Nat) (zs : List State),
      drainF (solveAt dfs pf (M + 2)) k (solveAt dfs pf (M + 2) (queryG ord qv qs [p.goal ord]) (State.empty n)) = some zs ∧
      ∀ z ∈ zs, ∃ path ∈ p.paths, ∃ b : State, z = reifyState ord b qv ∧ b.dstore = [] ∧
        (b.store = [] → (TAtom.eq qv (Term.ofList qs)).Sat b.σ ∧ ∀ a ∈ path, a.Sat b.σ)) ∧
    (∃ (k : Nat) (zs : List State),
      drainF (solveAt dfs pf (M + 2)) k (solveAt dfs pf (M + 2) (queryG ord qv qs [p.goal ord]) (State.empty n)) = some zs ∧
      ∀ s ∈ pathStates ord p s1, ∀ γ, Sem NoI γ s →
        ∃ c ∈ ckXs ord dfs N qv s, Sem NoI γ c ∧ ∃ b, (ckYs ord dfs pf M s c).head? = some b ∧ reifyState ord b qv ∈ zs) := by
  obtain ⟨s1, h1⟩ := queryFdOK_start ord dfs pf M N qv n p qs hc
  have hyp := queryFdOK_hyps ord dfs pf M N qv ho n p hok hnz qs s1 h1 hc
  refine ⟨s1, h1, ?_, ?_⟩
  · exact C16_query_answers_sound ho dfs pf M n p hok hnz qv qs s1 h1 (fun _ => N) (ckXs ord dfs N qv) (fun _ _ => N)
      (ckDs ord dfs N) (ckYs ord dfs pf M) hyp
  · exact C17_query_complete ho dfs pf M p qv qs (State.empty n) s1 (liftRes_of_ok rfl h1) (fun _ => N) (ckXs ord dfs N qv) (fun _ _ => N)
      (ckDs ord dfs N) (ckYs ord dfs pf M)
      (fun s hsm => ⟨C17_path_state_invariants ho n p hok hnz qv qs s1 h1 s hsm (hyp s hsm).1, hyp s hsm⟩)

end Checked

/-! NON-VACUITY of `C17_query_exactly_once` by instantiation: `|x| { x in 1..2, y in 1..2, x != y }` (FD `!=`; `y` hidden,
    `__query__` = `x2`).  Every Boolean side condition is computed by ONE `decide +kernel`; the labelling invariants come from
    `C17_path_state_invariants`, `OpsOK` from `C17_opsOK_of_allBound`; the theorem is then applied. -/
section NonVacuity
private def qDfs : Call → State → State × G := fun _ a => (a, .fail)
private def qP : FProg := .conj (.atom (.dom (.var 0) (.interval 1 2)))
  (.conj (.atom (.dom (.var 1) (.interval 1 2))) (.atom (.cst (.diseqfd (.var 0) (.var 1)))))
private def qV : Term := .var 2
private def qKeys (c : State) : Term := Term.ofList ((Order.default.ds c.dstore).map fun q => Term.var q.1)
private def qXs (s : State) : List State := (evalRef qDfs 40 (forceAns Order.default forceFuel qV) s).getD []
private def qDs (_ c : State) : List State := (evalRef qDfs 40 (forceAns Order.default forceFuel (qKeys c)) c).getD []
private def qYs (_ c : State) : List State :=
  (drainF (solveAt qDfs 30 2) 30 (start qDfs (solveAt qDfs 30 2) 30
    (Goal.conjOfList [forceAns Order.default forceFuel (qKeys c)]) c)).getD []

/-- the check of this query, and that its body has exactly one path state: the hypotheses below do not range over nothing -/
private def qSideOK : Bool :=
  queryFdOK Order.default qDfs 30 1 40 qV 3 qP [.var 0] &&
  match postAtom Order.default (State.empty 3) (.eq qV (Term.ofList [.var 0])) with
  | .ok s1 => (pathStates Order.default qP s1).length == 1
  | _ => false

private theorem qSideOK_true : qSideOK = true := by decide +kernel

private theorem qCheck : queryFdOK Order.default qDfs 30 1 40 qV 3 qP [.var 0] = true :=
  (Bool.and_eq_true_iff.1 qSideOK_true).1

private theorem qOK : qP.OK := ⟨by show (1 : Int) ≤ 2; decide, by show (1 : Int) ≤ 2; decide, trivial⟩
private theorem qNoZ : ∀ path ∈ qP.paths, ∀ a ∈ path, a.NoZ := by
  intro path hpath a ha
  simp only [qP, FProg.paths, List.flatMap_cons, List.flatMap_nil, List.map_cons, List.map_nil, List.append_nil,
    List.cons_append, List.nil_append, List.mem_singleton] at hpath
  subst hpath
  simp only [List.mem_cons, List.mem_nil_iff, or_false] at ha
  rcases ha with rfl | rfl | rfl <;> first | trivial | rfl

private theorem qHyps (s1 : State) (h1 : postAtom Order.default (State.empty 3) (.eq qV (Term.ofList [.var 0])) = .ok s1) :
    ∀ s ∈ pathStates Order.default qP s1, s.panic = none ∧ OpsOK s ∧
      evalRef qDfs 40 (forceAns Order.default forceFuel qV) s = some (qXs s) ∧ (∀ c ∈ qXs s, c.panic = none) ∧
      ∀ c ∈ qXs s, c.allBound = true ∧ c.dstore.length < forceFuel ∧
        evalRef qDfs 40 (forceAns Order.default forceFuel (Term.ofList ((Order.default.ds c.dstore).map fun q => Term.var q.1))) c = some (qDs s c) ∧
        (∀ t ∈ qDs s c, t.panic = none) ∧
        drainF (solveAt qDfs 30 2) 30
          (start qDfs (solveAt qDfs 30 2) 30
            (Goal.conjOfList [forceAns Order.default forceFuel (Term.ofList ((Order.default.ds c.dstore).map fun q => Term.var q.1))]) c) = some (qYs s c) ∧
        (∀ t ∈ qYs s c, t.panic = none) :=
  queryFdOK_hyps Order.default qDfs 30 1 40 qV orderOK_default 3 qP qOK qNoZ [.var 0] s1 h1 qCheck

private theorem qH1 : ∃ s1, postAtom Order.default (State.empty 3) (.eq qV (Term.ofList [.var 0])) = .ok s1 :=
  queryFdOK_start Order.default qDfs 30 1 40 qV 3 qP [.var 0] qCheck

/-- `C17_query_exactly_once` applies -/
example : ∃ (s1 : State) (k : Nat) (zs : List State) (blocks : State → List State),
    postAtom Order.default (State.empty 3) (.eq qV (Term.ofList [.var 0])) = .ok s1 ∧
    drainF (solveAt qDfs 30 3) k (solveAt qDfs 30 3 (queryG Order.default qV [.var 0] [qP.goal Order.default]) (State.empty 3)) = some zs ∧
    ((pathStates Order.default qP s1).flatMap fun s =>
      ((blocks s).flatMap fun c => ((qYs s c).head?).toList).map fun b => reifyState Order.default b qV).Perm zs := by
  obtain ⟨s1, h1⟩ := qH1
  obtain ⟨k, zs, blocks, hk, _, pz, _⟩ := C17_query_exactly_once orderOK_default qDfs 30 1 qP qV [.var 0] (State.empty 3) s1 (liftRes_of_ok rfl h1)
    (fun _ => 40) qXs (fun _ _ => 40) qDs qYs
    (fun s hsm => ⟨C17_path_state_invariants orderOK_default 3 qP qOK qNoZ qV [.var 0] s1 h1 s hsm (qHyps s1 h1 s hsm).1, qHyps s1 h1 s hsm⟩)
  exact ⟨s1, k, zs, blocks, h1, hk, pz⟩

/-- `C16_query_answers_sound` applies: every answer of the engine is the reified form of a closed state along the body's path -/
example : ∃ (k : Nat) (zs : List State),
    drainF (solveAt qDfs 30 3) k (solveAt qDfs 30 3 (queryG Order.default qV [.var 0] [qP.goal Order.default]) (State.empty 3)) = some zs ∧
    ∀ z ∈ zs, ∃ path ∈ qP.paths, ∃ b : State, z = reifyState Order.default b qV ∧ b.dstore = [] ∧
      (b.store = [] → (TAtom.eq qV (Term.ofList [.var 0])).Sat b.σ ∧ ∀ a ∈ path, a.Sat b.σ) := by
  obtain ⟨s1, h1⟩ := qH1
  exact C16_query_answers_sound orderOK_default qDfs 30 1 3 qP qOK qNoZ qV [.var 0] s1 h1 (fun _ => 40) qXs (fun _ _ => 40) qDs qYs
    (qHyps s1 h1)
/-- `C17_query_complete` and `C17_query_no_duplicates` apply -/
example : ∃ (s1 : State) (k : Nat) (zs : List State),
    drainF (solveAt qDfs 30 3) k (solveAt qDfs 30 3 (queryG Order.default qV [.var 0] [qP.goal Order.default]) (State.empty 3)) = some zs ∧
    ∀ s ∈ pathStates Order.default qP s1, ∀ γ, Sem NoI γ s →
      ∃ c ∈ qXs s, Sem NoI γ c ∧ ∃ b, (qYs s c).head? = some b ∧ reifyState Order.default b qV ∈ zs := by
  obtain ⟨s1, h1⟩ := qH1
  obtain ⟨k, zs, hk, hc⟩ := C17_query_complete orderOK_default qDfs 30 1 qP qV [.var 0] (State.empty 3) s1 (liftRes_of_ok rfl h1)
    (fun _ => 40) qXs (fun _ _ => 40) qDs qYs
    (fun s hsm => ⟨C17_path_state_invariants orderOK_default 3 qP qOK qNoZ qV [.var 0] s1 h1 s hsm (qHyps s1 h1 s hsm).1, qHyps s1 h1 s hsm⟩)
  exact ⟨s1, k, zs, hk, hc⟩
example : ∃ (s1 : State) (k : Nat) (zs : List State) (blocks : State → List State),
    drainF (solveAt qDfs 30 3) k (solveAt qDfs 30 3 (queryG Order.default qV [.var 0] [qP.goal Order.default]) (State.empty 3)) = some zs ∧
    ∀ s ∈ pathStates Order.default qP s1, ((blocks s).flatMap fun c => ((qYs s c).head?).toList).Pairwise
      (fun a b => ∀ γa γb, Sem NoI γa a → Sem NoI γb b → apply γa qV ≠ apply γb qV) := by
  obtain ⟨s1, h1⟩ := qH1
  obtain ⟨k, zs, blocks, hk, _, hpw⟩ := C17_query_no_duplicates orderOK_default qDfs 30 1 qP qV [.var 0] (State.empty 3) s1 (liftRes_of_ok rfl h1)
    (fun _ => 40) qXs (fun _ _ => 40) qDs qYs
    (fun s hsm => ⟨C17_path_state_invariants orderOK_default 3 qP qOK qNoZ qV [.var 0] s1 h1 s hsm (qHyps s1 h1 s hsm).1, qHyps s1 h1 s hsm⟩)
  exact ⟨s1, k, zs, blocks, hk, hpw⟩
/-- `C16_query_checked` on a query with TWO paths and a hidden variable: `|x| { x in 1..3, y in 1..3, conde { x + y = 4 ; [x != 2, y <= 1] } }`
    — one `decide +kernel`, then soundness and completeness of the engine's answers for this query are theorems -/
private def qP2 : FProg := .conj (.atom (.dom (.var 0) (.interval 1 3))) (.conj (.atom (.dom (.var 1) (.interval 1 3)))
  (.alt (.atom (.cst (.plusfd (.var 0) (.var 1) (Term.num 4))))
    (.conj (.atom (.cst (.diseqfd (.var 0) (Term.num 2)))) (.atom (.cst (.ltefd (.var 1) (Term.num 1)))))))
example := C16_query_checked Order.default qDfs 30 1 60 (.var 2) orderOK_default 3 qP2
  ⟨by show (1 : Int) ≤ 3; decide, by show (1 : Int) ≤ 3; decide, trivial, trivial, trivial⟩
  (by
    intro path hpath a ha
    simp only [qP2, FProg.paths, List.flatMap_cons, List.flatMap_nil, List.map_cons, List.map_nil, List.append_nil,
      List.cons_append, List.nil_append, List.mem_cons, List.mem_nil_iff, or_false] at hpath
    rcases hpath with rfl | rfl <;> simp only [List.mem_cons, List.mem_nil_iff, or_false] at ha <;>
      rcases ha with rfl | rfl | rfl | rfl <;> first | trivial | rfl)
  [.var 0] (by decide +kernel)
end NonVacuity

section Examples
/-- `|q| { q in 1..3, conde { q != 2 ; q <= 1 } }` (FD): the engine on the whole query goal delivers 1, 3 (first clause) and 1
    (second clause) — the sum over the two paths -/
private def exQ : FProg := .conj (.atom (.dom (.var 0) (.interval 1 3)))
  (.alt (.atom (.cst (.diseqfd (.var 0) (Term.num 2)))) (.atom (.cst (.ltefd (.var 0) (Term.num 1)))))
example : ((drainF (solveAt (defs Order.default) 30 4) 400
    (solveAt (defs Order.default) 30 4 (queryG Order.default (.var 1) [.var 0] [exQ.goal Order.default]) (State.empty 2))).map
      (fun zs => (zs.map fun s => apply s.σ (.var 0)))).map (fun l => (l.length, l.contains (Term.num 1), l.contains (Term.num 3), l.contains (Term.num 2))) =
    some (3, true, true, false) := by decide +kernel
end Examples

end Pv
