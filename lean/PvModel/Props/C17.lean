/-
  C17 — CLP(FD) labelling returns every solution exactly once.

  Model: `forceAns` (`force_ans`: a variable with a domain becomes the `mplus/delay` chain of `x == k` over
  the domain's values; lists and compound fields are labelled element-wise), `enforceFd` — Model/Goals.lean; `map_sum`
  (`Goal.altOfList`) — Model/Stream.lean; the narrowing intervals of the propagators — Model/State.lean.

  Proved here, for ALL domains / bounds / sign combinations: labelling offers exactly the members of the
  domain, each once, in increasing order (`C17_label_values`); the `map_sum` chain delivers exactly the
  answers of its branches, nothing lost or duplicated (`C17_map_sum`); no propagator's narrowing removes a
  value that takes part in a solution within the current bounds (`C17_plus_bounds`, `C17_minus_bounds`,
  `C17_times_signs` — four-corner products for all signs, quotient bounds only for non-negative
  operands —, `C17_lte_bounds`).  GLOBALLY, through the re-entrant propagation loop: every valuation that
  satisfies all posted atoms is still described by the state reached (`C17_no_solution_lost`), and on the
  engine every solution of every path is described by a delivered state (`C17_program_complete`).
-/
import PvModel.Proofs.FDLocal
import PvModel.Proofs.FD
import PvModel.Proofs.Stream
import PvModel.Model.Goals
import PvModel.Proofs.FDExact
import PvModel.Proofs.FDProgram
namespace Pv
open Term State Strm Goal

/-- Labelling a variable offers exactly the members of its domain, each exactly once, smallest first. -/
theorem C17_label_values (d : FD) (h : FD.WF d) :
    (∀ k, k ∈ d.iter ↔ d.Mem k) ∧ d.iter.Pairwise (· < ·) ∧ d.iter.Nodup :=
  ⟨FD.iter_mem d h, FD.iter_pw d h, (FD.iter_pw d h).imp (fun hlt heq => by omega)⟩

/-- The `map_sum` chain (`mplus(f(d₁), delay(mplus(f(d₂), …)))`): its finite answer list is the
    concatenation of the branches' answer lists up to permutation — one branch per value, none twice. -/
theorem C17_map_sum {St K : Type} (defs : K → St → St × Goal St K) (top : Goal St K → St → Strm St K) (pf : Nat)
    (a : St) : ∀ (gx : List (Goal St K × List St)),
      (∀ p ∈ gx, AnsS top (start defs top pf p.1 a) p.2) →
      ∃ zs, AnsS top (start defs top pf (altOfList (gx.map (·.1))) a) zs ∧ (gx.map (·.2)).flatten.Perm zs
  | [], _ => ⟨[], by simp only [List.map, altOfList, start]; exact .empty, by simp⟩
  | (g, xs) :: gx, h => by
    obtain ⟨zs, hz, pz⟩ := C17_map_sum defs top pf a gx (fun p hp => h p (List.mem_cons_of_mem _ hp))
    have h1 : AnsS top (start defs top pf g a) xs := h (g, xs) List.mem_cons_self
    obtain ⟨ws, hw, pw⟩ := mplus_ans h1 (AnsL.delay hz)
    refine ⟨ws, by simp only [List.map, altOfList, start]; exact hw, ?_⟩
    simp only [List.map, List.flatten_cons]
    exact (List.Perm.append_left _ pz).trans pw

/-- No solution is cut off by `plusfd`'s narrowing … -/
theorem C17_plus_bounds (u v w umin umax vmin vmax wmin wmax : Int)
    (hu : umin ≤ u ∧ u ≤ umax) (hv : vmin ≤ v ∧ v ≤ vmax) (hw : wmin ≤ w ∧ w ≤ wmax) (h : u + v = w) :
    (umin + vmin ≤ w ∧ w ≤ umax + vmax) ∧ (wmin - vmax ≤ u ∧ u ≤ wmax - vmin) ∧
    (wmin - umax ≤ v ∧ v ≤ wmax - umin) := plus_bounds u v w umin umax vmin vmax wmin wmax hu hv hw h

/-- … by `minusfd`'s … -/
theorem C17_minus_bounds (u v w umin umax vmin vmax wmin wmax : Int)
    (hu : umin ≤ u ∧ u ≤ umax) (hv : vmin ≤ v ∧ v ≤ vmax) (hw : wmin ≤ w ∧ w ≤ wmax) (h : u - v = w) :
    (umin - vmax ≤ w ∧ w ≤ umax - vmin) ∧ (wmin + vmin ≤ u ∧ u ≤ wmax + vmax) ∧
    (umin - wmax ≤ v ∧ v ≤ umax - wmin) := minus_bounds u v w umin umax vmin vmax wmin wmax hu hv hw h

/-- … by `timesfd`'s, for every combination of signs (the four-corner bounds; D14) … -/
theorem C17_times_signs (u v w umin umax vmin vmax wmin wmax : Int)
    (hu : umin ≤ u ∧ u ≤ umax) (hv : vmin ≤ v ∧ v ≤ vmax) (hw : wmin ≤ w ∧ w ≤ wmax) (h : u * v = w) :
    (timesBounds umin umax vmin vmax wmin wmax).1.Mem w ∧
    (timesBounds umin umax vmin vmax wmin wmax).2.1.Mem u ∧
    (timesBounds umin umax vmin vmax wmin wmax).2.2.Mem v :=
  timesBounds_sound u v w umin umax vmin vmax wmin wmax hu hv hw h

/-- … or by `ltefd`'s (`copy_before(> vmax)` on `u`, `drop_before(>= umin)` on `v`). -/
theorem C17_lte_bounds (u v umin vmax : Int) (hu : umin ≤ u) (hv : v ≤ vmax) (h : u ≤ v) :
    ¬ (vmax < u) ∧ umin ≤ v := lte_bounds u v umin vmax hu hv h

/-- The thresholds `ltefd` uses are monotone, so `copy_before`/`drop_before` keep exactly the values on the
    right side of the threshold (C18): nothing else is removed. -/
theorem C17_lte_narrow (d c : FD) (h : FD.WF d) (t : Int) :
    (d.copyBefore (fun a => decide (t < a)) = some c → ∀ x, c.Mem x ↔ (d.Mem x ∧ ¬ t < x)) ∧
    (d.dropBefore (fun b => decide (t ≤ b)) = some c → ∀ x, c.Mem x ↔ (d.Mem x ∧ t ≤ x)) := by
  refine ⟨fun hc x => ?_, fun hc x => ?_⟩
  · rw [FD.copyBefore_mono d c h (fun a => decide (t < a))
      (fun x y hx hxy => decide_eq_true (Int.lt_of_lt_of_le (of_decide_eq_true hx) hxy)) hc x, decide_eq_false_iff_not]
  · rw [FD.dropBefore_mono d c h (fun b => decide (t ≤ b))
      (fun x y hx hxy => decide_eq_true (Int.le_trans (of_decide_eq_true hx) hxy)) hc x, decide_eq_true_iff]

/-! ### the global theorems: propagation loses no solution.  Stated for both modes of Spec/FDSem.lean: with
    `[Mode]` strict, `FAtom.OK` excludes `distinctfd`; lax, `distinctfd` on a proper list term is allowed
    (`C17_distinctfd_*`). -/
section Global
variable [Mode]

/-- COMPLETENESS OF PROPAGATION, every posting order, sign, aliasing and hash-iteration order: every
    valuation that satisfies all posted atoms is still described by the state reached — bounds narrowing,
    singleton domains turned into bindings, the nested re-runs and the finite-domain extension of `==`
    never discard a solution.  (Labelling then enumerates each remaining domain: `C17_label_values`.) -/
theorem C17_no_solution_lost {ord : Order} (ho : OrderOK ord) (n : Nat) (as : List FAtom) (hok : ∀ a ∈ as, a.OK)
    (st' : State) (h : postAllF ord (State.empty n) as = .ok st') (γ : Subst) (hγ : ∀ a ∈ as, a.Sat γ) :
    Sem NoI γ st' := (fd_exact_ok ho n as hok st' h γ).2 hγ

/-- a conjunction that FAILS during propagation has no solution at all: no answer is lost to a failure -/
theorem C17_fail_means_unsat {ord : Order} (ho : OrderOK ord) (n : Nat) (as : List FAtom) (hok : ∀ a ∈ as, a.OK)
    (h : postAllF ord (State.empty n) as = .fail) : ¬ ∃ γ, ∀ a ∈ as, a.Sat γ := fd_exact_fail ho n as hok h

/-- `==` between finite-domain variables (the step labelling performs for every value): unification, the
    re-run of the store and `process_extension_fd` together describe exactly the valuations that satisfy
    the equation -/
theorem C17_unify_exact {ord : Order} (ho : OrderOK ord) (st : State) (w : WFS st) (hi : Inv st) (u v : Term) :
    Ref0 NoI (fun γ => apply γ u = apply γ v) st (unify ord st u v) :=
  unify_sem ho (iok_noI st) w hi u v


/-- PROGRAMS ON THE ENGINE (completeness): for every constraint program (conjunction, `conde`, `fresh` over
    atoms of the fragment) the search terminates and every solution of every path of the program is
    described by one of the delivered states — no solution is lost by propagation or by the search
    (a path whose own run exhausts the model's unification fuel is reported as FUEL by the driver). -/
theorem C17_program_complete {ord : Order} (ho : OrderOK ord) (dfs : Call → State → State × G) (pf M nv : Nat)
    (p : FProg) (hok : p.OK) :
    ∃ k ys, drainF (solveAt dfs pf (M + 1)) k (solveAt dfs pf (M + 1) (p.goal ord) (State.empty nv)) = some ys ∧
      ∀ path ∈ p.paths, ∀ γ, (∀ a ∈ path, a.Sat γ) → postAllF ord (State.empty nv) path ≠ .fuel →
        ∃ s ∈ ys, Sem NoI γ s := by
  obtain ⟨k, ys, h1, _, _, h4⟩ := fd_program ho dfs pf M nv p hok
  exact ⟨k, ys, h1, h4⟩


/-- LABELLING PARTITIONS THE SOLUTIONS: for a variable with a stored domain, every valuation the state
    describes gives the variable exactly one of the values `force_ans` enumerates — so every solution lies in
    exactly one of the branches `x == k`, and (`C17_unify_exact`) that branch's state describes exactly the
    solutions with `x = k`: labelling one variable neither loses nor duplicates a solution. -/
theorem C17_label_partition (st : State) (w : WFS st) (x : Nat) (d : FD) (h : st.dget x = some d)
    (γ : Subst) (hs : Sem NoI γ st) :
    ∃ k, (k ∈ d.iter ∧ NumAt γ (.var x) k) ∧ ∀ k', (k' ∈ d.iter ∧ NumAt γ (.var x) k') → k' = k := by
  obtain ⟨n, hn, hnd⟩ := hs.2.2 (x, d) (dget_mem h) (fun f => f.elim)
  refine ⟨n, ⟨(FD.iter_mem d (w.dwf _ (dget_mem h)) n).2 hnd, hn⟩, fun k' hk => numAt_unique hk.2 hn⟩

end Global

/-- COMPLETENESS WITH `distinctfd`: every valuation that satisfies all posted atoms — `distinctfd` on proper
    list terms included — is still described by the state reached: the duplicate scan, the binary insertion
    into the collected constants and the exclusion of those constants from the remaining domains (which
    reads the domain store once, before its loop) never discard a solution. -/
theorem C17_distinctfd_no_solution_lost {ord : Order} (ho : OrderOK ord) (n : Nat) (as : List FAtom)
    (hok : ∀ a ∈ as, @FAtom.OK Mode.lax a)
    (st' : State) (h : postAllF ord (State.empty n) as = .ok st') (γ : Subst) (hγ : ∀ a ∈ as, a.Sat γ) :
    Sem NoI γ st' := @C17_no_solution_lost Mode.lax ord ho n as hok st' h γ hγ

/-- a failure — or a PANIC at one of `distinctfd`'s panic sites — happens only when there is no solution -/
theorem C17_distinctfd_fail_means_unsat {ord : Order} (ho : OrderOK ord) (n : Nat) (as : List FAtom)
    (hok : ∀ a ∈ as, @FAtom.OK Mode.lax a) :
    (postAllF ord (State.empty n) as = .fail → ¬ ∃ γ, ∀ a ∈ as, a.Sat γ) ∧
    (∀ s, postAllF ord (State.empty n) as = .panic s → ¬ ∃ γ, ∀ a ∈ as, a.Sat γ) :=
  ⟨@C17_fail_means_unsat Mode.lax ord ho n as hok, fun s h => (@fd_panic_refuted Mode.lax ord ho n as hok s h).2.2⟩

section Examples
attribute [local instance] Mode.lax
/-- D14 witness: with `u, v ∈ -2..=2` and `w = -2` the four-corner bounds keep all four solutions -/
example : (timesBounds (-2) 2 (-2) 2 (-2) (-2)) = (.interval (-4) 4, .interval (-2) 2, .interval (-2) 2) := by decide
example : (FD.interval (-1) 2).iter = [-1, 0, 1, 2] := by decide
/-- non-vacuity: `==` between two finite-domain variables (interval 1..5, sparse {2,4,7}) moves the domain
    through `process_extension_fd`; with `!= 2` the only solution 4 is found by propagation alone -/
private def progU : List FAtom :=
  [.dom (.var 0) (.interval 1 5), .dom (.var 1) (.sparse [2, 4, 7]), .eq (.var 0) (.var 1),
   .cst (.diseqfd (.var 1) (Term.num 2))]
example : ∀ a ∈ progU, a.OK := by
  intro a ha
  simp only [progU, List.mem_cons, List.not_mem_nil, or_false] at ha
  rcases ha with rfl | rfl | rfl | rfl <;> simp [FAtom.OK, FD.WF, FD.StrictSorted, CstOK]
example : (match postAllF Order.default (State.empty 2) progU with
    | .ok st => st.store.isEmpty && st.dstore.isEmpty && (st.σ 0 == Term.num 4) && (st.σ 1 == Term.num 4)
    | _ => false) = true := by decide
end Examples

end Pv
