/-
  C23 — Solving well-formed programs never panics.

  Model: every `panic!` / `unwrap` / `assert!` reachable from solving is a `Res.panic site` result in
  Model/State.lean and Model/Goals.lean (`assert-operand`: the constraint constructors' operand asserts;
  `unbound-domain`: `verify_all_bound`; `distinctfd-const` / `distinctfd-term` / `distinctfd-value`;
  `fd-minmax`: `min`/`max` of an empty sparse domain).  A panic poisons the state and is reported.

  Proved here per FRAGMENT, then assembled: `C23_state_machine` (any list of well-formed atoms, through the
  re-entrant FD propagation loop; `C23_state_machine_distinctfd` with `distinctfd`), and for whole programs
  with relation calls `C23_rel_no_panic` (Props/C23Rel.lean).  The fragments:
  * tree fragment: `==` / `!=` never panic on any reachable tree state (`C23_tree`), for every iteration order;
  * CLP(Z): `plusz` / `timesz` have no panicking arm (`C23_clpz`) — in particular no division by zero;
  * operand guard: with operands that are variables or numbers the FD / Z goal constructors are the constraint
    itself (`C23_operand_guard`); with any other operand `assertG` (Model/Goals.lean) makes the goal the
    `assert-operand` panic — the well-formedness boundary for "operands of the kinds the relation documents";
  * domains: every `FiniteDomain` operation on well-formed domains returns a well-formed domain or `none`,
    `min`/`max` are defined (C18), so `fd-minmax` is unreachable from well-formed stores (`C23_minmax`);
  * search operators: `start` / `step` / `next` are total functions — the engine has no panicking arm
    (`C23_engine_total`: by construction; the depth-first/BFS type dispatch `unreachable!()` arms are not
    representable in the model's single goal type).
  `project` reached twice panics: KNOWN FINDING D16 (see C11).
-/
import PvModel.Props.C02
import PvModel.Props.C19
import PvModel.Props.C18
import PvModel.Model.Goals
namespace Pv
open State

/-- `==` and `!=` never panic on reachable tree states, whatever the hash-iteration order -/
theorem C23_tree (ord : Order) (ho : OrderOK ord) (st : State) (a : TAtom) (hg : Good st) (site : String) :
    postAtom ord st a ≠ .panic site := C02_no_panic ord ho st a hg site

/-- `plusz` / `timesz`: no panicking arm (no unchecked division) -/
theorem C23_clpz (rc : State → Res State) (ord : Order) (id : Nat) (st : State) (u v w : Term)
    (hrc : ∀ s' site, rc s' ≠ .panic site) (site : String) :
    runPlusZ rc ord id u v w st ≠ .panic site ∧ runTimesZ rc ord id u v w st ≠ .panic site :=
  C19_total rc ord id st u v w hrc site

/-- the constructors' operand guard: a goal built from operands that are variables or numbers is the
    constraint itself (the other half — any other operand kind gives the `assert-operand` panic — is the
    definition of `assertG` and is not stated here) -/
theorem C23_operand_guard (ord : Order) (u v w : Term) :
    (operandOk u = true → operandOk v = true → operandOk w = true →
        plusfdG ord u v w = cstG ord (.plusfd u v w) ∧ timesfdG ord u v w = cstG ord (.timesfd u v w) ∧
        minusfdG ord u v w = cstG ord (.minusfd u v w) ∧ pluszG ord u v w = cstG ord (.plusz u v w) ∧
        timeszG ord u v w = cstG ord (.timesz u v w)) ∧
    (operandOk u = true → operandOk v = true →
        ltefdG ord u v = cstG ord (.ltefd u v) ∧ diseqfdG ord u v = cstG ord (.diseqfd u v)) := by
  refine ⟨fun h1 h2 h3 => ?_, fun h1 h2 => ?_⟩
  · simp [plusfdG, timesfdG, minusfdG, pluszG, timeszG, assertG, h1, h2, h3]
  · simp [ltefdG, diseqfdG, assertG, h1, h2]

/-- `min` / `max` of a well-formed domain are defined: the `fd-minmax` site needs an ill-formed domain -/
theorem C23_minmax (d : FD) (h : FD.WF d) : (∃ m, d.min? = some m) ∧ (∃ m, d.max? = some m) := by
  obtain ⟨m, hm, _⟩ := FD.C18_min d h
  obtain ⟨m', hm', _⟩ := FD.C18_max d h
  exact ⟨⟨m, hm⟩, ⟨m', hm'⟩⟩

/-- the engine is total by construction: `step` and `nextF` are total functions of the model, and this
    statement holds of any function in their place -/
theorem C23_engine_total {St K : Type} (top : Goal St K → St → Strm St K) (l : Lz St K) (n : Nat) (s : Strm St K) :
    (∃ s', step top l = s') ∧ (nextF top n s = none ∨ ∃ r, nextF top n s = some r) :=
  ⟨⟨_, rfl⟩, Option.eq_none_or_eq_some _⟩

/-- ASSEMBLY for the constraint state machine: posting ANY list of well-formed atoms (`==`, `!=`, `infd`
    with a well-formed domain, CLP(Z) and CLP(FD) constraints of every kind except distinctfd), in any order,
    under any hash-iteration order, through the re-entrant propagation loop, NEVER reaches a panic site —
    in particular `fd-minmax` (min/max of an empty domain, src/state/fd.rs:17,33) is unreachable because
    every stored domain stays non-empty and sorted; an unsatisfiable conjunction simply fails. -/
theorem C23_state_machine {ord : Order} (ho : OrderOK ord) (n : Nat) (as : List FAtom)
    (hok : ∀ a ∈ as, @FAtom.OK Mode.strict a)
    (s : String) : postAllF ord (State.empty n) as ≠ .panic s := fd_no_panic ho n as hok s

/-- … and with `distinctfd` (on proper list terms) the only panic sites that remain reachable are its own
    three (`Invalid constant constraint` / `Invalid value` / `Invalid LTerm`: a list element that is, or has
    been bound to, something that is not an integer — an operand of a kind the relation does not document),
    and they are reached only from conjunctions that have no solution -/
theorem C23_state_machine_distinctfd {ord : Order} (ho : OrderOK ord) (n : Nat) (as : List FAtom)
    (hok : ∀ a ∈ as, @FAtom.OK Mode.lax a) (s : String) (h : postAllF ord (State.empty n) as = .panic s) :
    DP s ∧ ¬ ∃ γ, ∀ a ∈ as, a.Sat γ := (@fd_panic_refuted Mode.lax ord ho n as hok s h).2

section Examples
open Term
private def o : Order := Order.default
/-- an unsatisfiable well-formed program: no answer, no panic -/
example : (match (State.unify o (State.empty 1) (.var 0) (num 1)).bind fun st => State.unify o st (.var 0) (num 2) with
    | .fail => true | _ => false) = true := by decide +kernel
/-- the boundary: an FD operand that is a list -/
example : operandOk (.cons (num 1) .nil) = false := by decide
end Examples

end Pv
