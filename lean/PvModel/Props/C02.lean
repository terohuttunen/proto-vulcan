/-
  C02 — Disequality constraints (CLP(Tree)) are sound, complete and order-free.

  The model: `State.unify` / `State.disunify` with the constraint store, `DisequalityConstraint::run`,
  `subsumes`, `with_constraint` with its normalisation by subsumption and `run_constraints` (Model/State.lean).
  Semantics: a valuation γ (ANY substitution; ground valuations are a special case) is described by a
  state when it is an instance of the substitution and makes every stored disequality true.
  All theorems hold for every hash-iteration order (`OrderOK ord`: the order functions are permutations).
-/
import PvModel.Proofs.Tree
namespace Pv

/-- Posting atoms from the empty state: if it succeeds, the final state describes EXACTLY the
    valuations satisfying all atoms (sound and complete) … -/
theorem C02_invariant_ok (ord : Order) (ho : OrderOK ord) (n : Nat) (as : List TAtom) (st : State)
    (h : postAll ord (State.empty n) as = .ok st) :
    ∀ γ : Subst, StateSem γ st ↔ ∀ a ∈ as, a.Sat γ := by
  intro γ
  have := (postAll_ok ord ho _ _ as (good_empty n) h).2 γ
  rw [this]
  exact ⟨fun h => h.2, fun h => ⟨stateSem_empty n γ, h⟩⟩

/-- … and if it fails, the atoms have no solution at all. -/
theorem C02_invariant_fail (ord : Order) (ho : OrderOK ord) (n : Nat) (as : List TAtom)
    (h : postAll ord (State.empty n) as = .fail) :
    ∀ γ : Subst, ¬ ∀ a ∈ as, a.Sat γ := by
  intro γ hs
  exact postAll_fail ord ho _ as (good_empty n) h γ ⟨stateSem_empty n γ, hs⟩

/-- One posting step on any reachable (good) state, success and failure. -/
theorem C02_step_ok (ord : Order) (ho : OrderOK ord) (st st' : State) (a : TAtom) (hg : Good st)
    (h : postAtom ord st a = .ok st') :
    Good st' ∧ ∀ γ : Subst, StateSem γ st' ↔ (StateSem γ st ∧ a.Sat γ) := postAtom_ok ord ho st st' a hg h

theorem C02_step_fail (ord : Order) (ho : OrderOK ord) (st : State) (a : TAtom) (hg : Good st)
    (h : postAtom ord st a = .fail) :
    ∀ γ : Subst, ¬ (StateSem γ st ∧ a.Sat γ) := postAtom_fail ord ho st a hg h

/-- Order-free: any permutation of the atoms, under any two iteration orders, gives failure in both
    cases or two states describing the same valuations (whenever both runs finish). -/
theorem C02_order_free (o1 o2 : Order) (h1 : OrderOK o1) (h2 : OrderOK o2) (n : Nat)
    (as bs : List TAtom) (hp : as.Perm bs) :
    (∀ s1 s2, postAll o1 (State.empty n) as = .ok s1 → postAll o2 (State.empty n) bs = .ok s2 →
        ∀ γ : Subst, StateSem γ s1 ↔ StateSem γ s2) ∧
    (∀ s1, postAll o1 (State.empty n) as = .ok s1 → postAll o2 (State.empty n) bs = .fail →
        ∀ γ : Subst, ¬ StateSem γ s1) ∧
    (postAll o1 (State.empty n) as = .fail → ∀ s2, postAll o2 (State.empty n) bs = .ok s2 →
        ∀ γ : Subst, ¬ StateSem γ s2) :=
  postAll_order_free o1 o2 h1 h2 (good_empty n) fun _ => hp.mem_iff

/-- eq/neq never panic on reachable tree states. -/
theorem C02_no_panic (ord : Order) (ho : OrderOK ord) (st : State) (a : TAtom) (hg : Good st)
    (site : String) : postAtom ord st a ≠ .panic site := postAtom_no_panic ord ho st a hg site

/-! Non-vacuity: the D7 witness program is decided correctly by the model (no answer), and a
    satisfiable program ends in a good state with a non-empty store. -/
section Examples
open Term
private def x : Term := .var 0
private def y : Term := .var 1
private def d7 : List TAtom :=
  [.neq x (num 5), .neq (.cons x (.cons y .nil)) (.cons (num 5) (.cons (num 6) .nil)), .eq x (num 5), .eq y (num 7)]
example : (match postAll Order.default (State.empty 2) d7 with | .fail => true | _ => false) = true := by decide
example : (match postAll Order.default (State.empty 2) (d7.take 2) with
    | .ok st => st.store.length == 1 | _ => false) = true := by decide
example : OrderOK Order.default := ⟨fun _ => .refl _, fun _ => .refl _, fun _ => .refl _⟩
end Examples

end Pv
