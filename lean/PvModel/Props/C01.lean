/-
  C01 — Unification computes a most general unifier, with occurs check.

  Theorems about `unifyF` (model of `unify_rec`, src/state/unification.rs) for ALL terms (literals of
  every kind, variables, proper/improper lists, compounds), ALL solved substitutions σ (the prior
  bindings), ALL fuel values.  `Ext σ θ` reads "θ is consistent with the prior bindings σ"
  (θ = θ ∘ σ); `Unifies θ u v` reads "both sides resolve to the identical term under θ".
-/
import PvModel.Proofs.Unify

namespace Pv
open Term

/-- On success both sides resolve to the identical term, the result extends the prior bindings and is
    again a solved form (so the theorems apply to the next unification: "all prior substitutions
    reachable by earlier unifications"). -/
theorem C01_sound (n : Nat) (σ σ' : Subst) (e e' : Ext1) (u v : Term) (hs : Solved σ)
    (h : unifyF n σ e u v = some (some (σ', e'))) :
    Solved σ' ∧ Ext σ σ' ∧ Unifies σ' u v := unifyF_sound n σ σ' e e' u v hs h

/-- The answer is most general: any other unifier consistent with the prior bindings is an instance. -/
theorem C01_mgu (n : Nat) (σ σ' : Subst) (e e' : Ext1) (u v : Term) (hs : Solved σ)
    (h : unifyF n σ e u v = some (some (σ', e'))) :
    ∀ θ : Subst, Ext σ θ → Unifies θ u v → Ext σ' θ := unifyF_mgu n σ σ' e e' u v hs h

/-- `u == v` fails only when the two terms have no finite unifier consistent with the bindings. -/
theorem C01_fail_complete (n : Nat) (σ : Subst) (e : Ext1) (u v : Term) (hs : Solved σ)
    (h : unifyF n σ e u v = some none) :
    ¬ ∃ θ : Subst, Ext σ θ ∧ Unifies θ u v := unifyF_fail n σ e u v hs h

/-- "succeeds exactly when": together with `C01_sound` (success ⇒ a unifier exists, namely σ'),
    whenever the run finishes, success is equivalent to the existence of a consistent unifier. -/
theorem C01_succeeds_iff (n : Nat) (σ : Subst) (e : Ext1) (u v : Term) (hs : Solved σ)
    (r : Option (Subst × Ext1)) (h : unifyF n σ e u v = some r) :
    r.isSome = true ↔ ∃ θ : Subst, Ext σ θ ∧ Unifies θ u v := by
  cases r with
  | none => exact ⟨nofun, fun hex => absurd hex (unifyF_fail n σ e u v hs h)⟩
  | some p =>
    obtain ⟨_, h2, h3⟩ := unifyF_sound n σ p.1 e p.2 u v hs h
    exact ⟨fun _ => ⟨p.1, h2, h3⟩, fun _ => rfl⟩

/-- No reachable substitution is cyclic: a bound variable never occurs in its own image, so walking
    terminates and no answer contains a cyclic term. -/
theorem C01_acyclic (n : Nat) (σ σ' : Subst) (e e' : Ext1) (u v : Term) (hs : Solved σ)
    (h : unifyF n σ e u v = some (some (σ', e'))) (x : Nat) :
    σ' x = .var x ∨ occurs x (σ' x) = false :=
  solved_acyclic (unifyF_sound n σ σ' e e' u v hs h).1 x

/-- A binding that would make a term contain itself is refused. -/
theorem C01_occurs_refused (n : Nat) (σ : Subst) (e : Ext1) (x : Nat) (t : Term)
    (hx : σ x = .var x) (hnv : (walk σ t).isVar = false) (ho : occurs x (apply σ t) = true) :
    unifyF (n + 1) σ e (.var x) t = some none := by
  have ho' : occurs x (apply σ (walk σ t)) = true := by
    cases t with
    | var z =>
      exact occurs_iff.2 (mem_vars_apply.2 ⟨x, occurs_iff.1 ho, by rw [hx]; exact List.mem_singleton_self x⟩)
    | _ => exact ho
  unfold unifyF
  rw [show walk σ (.var x) = .var x from hx]
  generalize walk σ t = wt at *
  cases wt
  case var => cases hnv
  all_goals simp only [ho', if_true]

/-- The extension (the bindings added by this unification) is exactly the information gained. -/
theorem C01_extension (n : Nat) (σ σ' : Subst) (e e' : Ext1) (u v : Term) (hs : Solved σ)
    (h : unifyF n σ e u v = some (some (σ', e'))) :
    ∃ δ : Ext1, e' = δ ++ e ∧
      (∀ θ : Subst, Ext σ θ → (Ext σ' θ ↔ ∀ p ∈ δ, apply θ (.var p.1) = apply θ p.2)) ∧
      (∀ p ∈ δ, σ p.1 = .var p.1) ∧
      (δ = [] → σ' = σ) := unifyF_ext n σ σ' e e' u v hs h

/-- The outcome does not depend on the fuel once the run finishes. -/
theorem C01_fuel_mono (n k : Nat) (σ : Subst) (e : Ext1) (u v : Term) (r : Option (Subst × Ext1))
    (h : unifyF n σ e u v = some r) : unifyF (n + k) σ e u v = some r :=
  unifyF_fuel_mono n k σ e u v r h

/-- Unification always terminates: for every solved prior substitution and every pair of terms some
    amount of fuel suffices (so the driver's `FUEL` outcome never arises with enough fuel, and
    "succeeds exactly when" above has no silent third case). -/
theorem C01_terminates (σ : Subst) (e : Ext1) (u v : Term) (hs : Solved σ) :
    ∃ n, unifyF n σ e u v ≠ none := unifyF_terminates σ e u v hs

/-- The prior bindings quantified over are reachable: the empty substitution is solved, and
    (`C01_sound`) every successful unification keeps solvedness. -/
theorem C01_prior_reachable : Solved Subst.id := solved_id

/-! Non-vacuity: a reachable three-binding substitution with a compound and an improper list. -/
section Examples
private def t1 : Term := .cons (.var 0) (.var 1)                 -- [x0 | x1]
private def t2 : Term := .cons (.comp 7 (.cons (.var 2) .nil)) (.cons (num 5) .nil)  -- [C7(x2), 5]
example : (match unifyF 10 Subst.id [] t1 t2 with
    | some (some (σ', e')) => e'.length == 2 && apply σ' t1 == apply σ' t2 | _ => false) = true := by decide
/-- occurs check through a list and a compound -/
example : (match unifyF 10 Subst.id [] (.var 0) (.cons (num 1) (.comp 3 (.cons (.var 0) .nil))) with
    | some none => true | _ => false) = true := by decide
end Examples

end Pv
