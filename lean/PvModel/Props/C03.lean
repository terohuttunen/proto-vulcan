/-
  C03 — Answers are fully reified, closed and carry their relevant constraints.

  Model (Model/Goals.lean): `reifyMap`/`reifySubst` (`smap.reify(walk*(x))` composed with the
  substitution), `reifyFinal` (the last goal of `reify(x)`), `purified` / `normalizedCs` / `walkCst`
  (`ConstraintStore::purify(r).normalize().walk_star(r)` in `ResultIterator::next`; `purify` keeps a constraint
  only if every variable in it is reified: finding D10), `relevantTo` / `anyvars` / `cstOperands`
  (`LResult::constraints`; variables inside compound terms count: finding D9), `mkAnswer`.
  Theorems hold for ALL substitutions, terms, stores and counters.
-/
import PvModel.Model.Goals
import PvModel.Proofs.Reify
namespace Pv
open Term

/-- CLOSED: every variable of an answer term is a reified `_` variable — one of the `any` variables
    `base … base + n - 1` created by `reify` — provided the term's walked variables occur in the walked
    query term (true of every query variable: the query term is the list of the query variables). -/
theorem C03_closed (σ : Subst) (x : Term) (base : Nat) (t : Term)
    (hsub : ∀ y ∈ (apply σ t).vars, y ∈ (apply σ x).vars) :
    ∀ z ∈ (apply (reifySubst σ x base) t).vars, base ≤ z ∧ z < base + (freeVars (apply σ x)).length := by
  intro z hz
  rw [apply_reifySubst] at hz
  obtain ⟨y, hy, hz⟩ := mem_vars_apply.1 hz
  have hy' : y ∈ freeVars (apply σ x) := (mem_freeVars _ _).2 (hsub y hy)
  cases hi : (freeVars (apply σ x)).idxOf? y with
  | none => exact absurd hy' (List.idxOf?_eq_none_iff.1 hi)
  | some i =>
    simp only [reifyMap, hi, Term.vars, List.mem_singleton] at hz
    obtain ⟨hlt, _⟩ := List.idxOf?_eq_some_iff.1 hi
    omega

/-- every element of the query list satisfies the hypothesis of `C03_closed` -/
theorem C03_closed_query (σ : Subst) (qs : List Term) (q : Term) (hq : q ∈ qs) :
    ∀ y ∈ (apply σ q).vars, y ∈ (apply σ (Term.ofList qs)).vars :=
  vars_apply_mem_ofList σ hq

/-- NAMES: one reified variable per distinct unbound variable, and ONE map for the whole answer — two
    free variables of the walked query term get the same `_` variable iff they are the same variable
    (so sharing across query variables is reported exactly). -/
theorem C03_names (σ : Subst) (x : Term) (base : Nat) (y1 y2 : Nat)
    (h1 : y1 ∈ (apply σ x).vars) (h2 : y2 ∈ (apply σ x).vars) :
    reifyMap σ x base y1 = reifyMap σ x base y2 ↔ y1 = y2 := by
  constructor
  · intro h
    have m1 := (mem_freeVars _ _).2 h1
    have m2 := (mem_freeVars _ _).2 h2
    cases e1 : (freeVars (apply σ x)).idxOf? y1 with
    | none => exact absurd m1 (List.idxOf?_eq_none_iff.1 e1)
    | some i =>
      cases e2 : (freeVars (apply σ x)).idxOf? y2 with
      | none => exact absurd m2 (List.idxOf?_eq_none_iff.1 e2)
      | some j =>
        simp only [reifyMap, e1, e2, Term.var.injEq] at h
        have hij : i = j := by omega
        obtain ⟨_, g1, _⟩ := List.idxOf?_eq_some_iff.1 e1
        obtain ⟨_, g2, _⟩ := List.idxOf?_eq_some_iff.1 e2
        subst hij
        rw [← g1, ← g2]
  · intro h; rw [h]

/-- a variable that is NOT free in the walked query term keeps its binding: it is never renamed -/
theorem C03_untouched (σ : Subst) (x : Term) (base y : Nat) (h : y ∉ (apply σ x).vars) :
    reifyMap σ x base y = σ y := by
  have : (freeVars (apply σ x)).idxOf? y = none := List.idxOf?_eq_none_iff.2 (fun m => h ((mem_freeVars _ _).1 m))
  simp only [reifyMap, this]

/-- CONSTRAINTS ARE CLOSED: every constraint that survives purification mentions only variables that the
    reified state maps to another variable (its `_` variable) — no variable that is not part of the
    answer is reported (D10). -/
theorem C03_constraints_closed (st : State) (c : Ext1) (hc : c ∈ purified st) :
    ∀ q ∈ c, (∀ y ∈ (Term.var q.1).vars, ∃ z, st.σ y = .var z ∧ z ≠ y) ∧
             (∀ y ∈ q.2.vars, ∃ z, st.σ y = .var z ∧ z ≠ y) := by
  simp only [purified, List.mem_filter, List.all_eq_true, Bool.and_eq_true] at hc
  intro q hq
  obtain ⟨h1, h2⟩ := hc.2 q hq
  have key : ∀ t : Term, allReified st t = true → ∀ y ∈ t.vars, ∃ z, st.σ y = .var z ∧ z ≠ y := by
    intro t ht y hy
    simp only [allReified, List.all_eq_true] at ht
    have := ht y hy
    split at this
    · rename_i z hz; exact ⟨z, hz, by simpa using this⟩
    · simp at this
  exact ⟨key _ h1, key _ h2⟩

/-- `anyvars` sees every variable of a term, at any depth: through list elements, improper tails and
    compound fields (D9).  The model's `anyvars` is `Term.vars`, so this is how `occurs` and `vars` agree. -/
theorem C03_anyvars_complete (t : Term) (y : Nat) : y ∈ anyvars t ↔ occurs y t = true :=
  occurs_iff.symm

/-- RELEVANT CONSTRAINTS ARE COMPLETE: `constraints()` of a result returns EVERY reported constraint one of
    whose operands occurs in the result's term, however deeply nested (and nothing else). -/
theorem C03_relevant_complete (walked : List Ext1) (t : Term) (i : Nat) (c : Ext1) (hi : walked[i]? = some c) :
    i ∈ relevantTo walked t ↔ ∃ o ∈ cstOperands c, occurs o t = true := by
  have hlt : i < walked.length := by
    rcases Nat.lt_or_ge i walked.length with h | h
    · exact h
    · rw [List.getElem?_eq_none h] at hi; cases hi
  simp only [relevantTo, List.mem_filter, List.mem_range, hi, hlt, true_and, List.any_eq_true,
    List.contains_iff_mem]
  constructor
  · rintro ⟨o, ho, hm⟩; exact ⟨o, ho, (C03_anyvars_complete t o).1 hm⟩
  · rintro ⟨o, ho, hm⟩; exact ⟨o, ho, (C03_anyvars_complete t o).2 hm⟩

/-- the answer reports, per query variable, exactly `relevantTo` of its reified term -/
theorem C03_answer_shape (ord : Order) (qs : List Term) (st : State) :
    (mkAnswer ord qs st).terms = qs.map (apply st.σ) ∧
    (mkAnswer ord qs st).relevant = (qs.map (apply st.σ)).map (relevantTo (mkAnswer ord qs st).constraints) := by
  simp [mkAnswer]

section Examples
/-- `p == (1, x), x != 3`: the constraint on `x` is relevant to `p` although `x` sits inside a compound (D9) -/
example : relevantTo [[(5, Term.num 3)]] (.comp 0 (.cons (Term.num 1) (.cons (.var 5) .nil))) = [0] := by decide
/-- the reification map of `[x3, [x3 | x1]]` numbers the free variables by first occurrence -/
example : (reifyMap Subst.id (.cons (.var 3) (.cons (.cons (.var 3) (.var 1)) .nil)) 10 3,
           reifyMap Subst.id (.cons (.var 3) (.cons (.cons (.var 3) (.var 1)) .nil)) 10 1) = (.var 10, .var 11) := by decide
end Examples

end Pv
