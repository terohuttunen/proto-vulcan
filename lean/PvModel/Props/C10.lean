/-
  C10 — Search branches are isolated from each other.

  Model: `Conde::solve` gives every clause the SAME state value (`state.clone()`), streams hold state
  values, `step` touches one sub-stream (Model/Stream.lean).  Lean values cannot alias, so these theorems
  state the algebraic law the Rust code (`Rc::make_mut` clone-on-write) must refine; that the code does
  refine it is what the combined-vs-separate correspondence runs check (PARTIAL: a theorem about a
  value-semantics model cannot exhibit an aliasing bug).
-/
import PvModel.Proofs.Stream
import PvModel.Proofs.FDProgram
namespace Pv
open Strm Goal

variable {St K : Type}

/-- The answers of `conde { A, B }` from a state are the answers of A alone from that state together with
    the answers of B alone from that state, as a multiset (finite search). -/
theorem C10_union (defs : K → St → St × Goal St K) (top : Goal St K → St → Strm St K) (pf : Nat)
    (A B : Goal St K) (a : St) (xs ys : List St)
    (hA : AnsS top (start defs top pf A a) xs) (hB : AnsS top (start defs top pf B a) ys) :
    ∃ zs, AnsS top (start defs top pf (.alt A B) a) zs ∧ (xs ++ ys).Perm zs := alt_union defs top pf A B a xs ys hA hB

/-- … and conversely every finite answer list of the disjunction splits into the two branch lists. -/
theorem C10_union_inv (defs : K → St → St × Goal St K) (top : Goal St K → St → Strm St K) (pf : Nat)
    (A B : Goal St K) (a : St) (zs : List St) (h : AnsS top (start defs top pf (.alt A B) a) zs) :
    ∃ xs ys, AnsS top (start defs top pf A a) xs ∧ AnsS top (start defs top pf B a) ys ∧ (xs ++ ys).Perm zs :=
  alt_inv defs top pf A B a zs h

/-- Exactly the union for ARBITRARY (infinite, diverging, interleaved) branches: `b` is an answer of the
    disjunction iff it is an answer of A alone or of B alone, from the same state. -/
theorem C10_union_mem (defs : K → St → St × Goal St K) (top : Goal St K → St → Strm St K) (pf : Nat)
    (A B : Goal St K) (a b : St) :
    MemS top b (start defs top pf (.alt A B) a) ↔
      MemS top b (start defs top pf A a) ∨ MemS top b (start defs top pf B a) := by
  simp only [start, mem_mplus_iff, memL_delay_iff]

/-- depth-first disjunction: the concatenation -/
theorem C10_union_dfs (defs : K → St → St × Goal St K) (top : Goal St K → St → Strm St K) (pf : Nat)
    (A B : Goal St K) (a : St) (xs ys : List St)
    (hA : AnsS top (start defs top pf A a) xs) (hB : AnsS top (start defs top pf B a) ys) :
    AnsS top (start defs top pf (.altD A B) a) (xs ++ ys) := altD_union defs top pf A B a xs ys hA hB

/-- Frame: an engine step of a disjunction node works on one branch; the other branch (its states, its
    pending goals) is carried over syntactically unchanged.  These are the defining equations of `step`. -/
theorem C10_frame (top : Goal St K → St → Strm St K) (l1 l2 : Lz St K) :
    step top (.mplus l1 l2) = Strm.mplus (step top l1) l2 ∧
    step top (.mplusD l1 l2) = Strm.mplusD (step top l1) l2 := ⟨rfl, rfl⟩

/-- `mplus` never modifies the states of either argument: every state in the result is a state of an argument -/
theorem C10_mplus_states (top : Goal St K → St → Strm St K) (s : Strm St K) (l : Lz St K) (b : St) :
    MemS top b (Strm.mplus s l) ↔ MemS top b s ∨ MemL top b l := mem_mplus_iff

section FDLeak
variable [Mode]

/-- NO LEAK BETWEEN CLAUSES, for constraint programs (tree, CLP(FD), CLP(Z) atoms; nested conjunction /
    conde / fresh): every (unpoisoned) state the engine delivers for `conde { p, q }` — posted after any
    common prefix `pre` — describes exactly the solutions of `pre` followed by a path of `p`, or of `pre`
    followed by a path of `q`: a constraint posted, a domain narrowed or a variable bound in one clause never
    shows up in a state of the other.  (Value semantics of the model; that the `Rc` clone-on-write code
    refines it is what the combined-vs-separate runs check.) -/
theorem C10_no_leak {ord : Order} (ho : OrderOK ord) (dfs : Call → State → State × G) (pf M nv : Nat)
    (pre p q : FProg) (hok : (FProg.conj pre (FProg.alt p q)).OK) :
    ∃ k ys, drainF (solveAt dfs pf (M + 1)) k
        (solveAt dfs pf (M + 1) ((FProg.conj pre (FProg.alt p q)).goal ord) (State.empty nv)) = some ys ∧
      ∀ s ∈ ys, s.panic = none →
        ∃ x ∈ pre.paths, ∃ y ∈ p.paths ++ q.paths, ∀ γ, Sem NoI γ s ↔ ∀ a ∈ x ++ y, a.Sat γ := by
  obtain ⟨k, ys, h1, _, h3, _⟩ := fd_program ho dfs pf M nv _ hok
  refine ⟨k, ys, h1, fun s hs hp => ?_⟩
  obtain ⟨path, hpth, hsem⟩ := h3 s hs hp
  simp only [FProg.paths, List.mem_flatMap, List.mem_map] at hpth
  obtain ⟨x, hx, y, hy, rfl⟩ := hpth
  exact ⟨x, hx, y, hy, hsem⟩

end FDLeak

section Examples
private def defs0 : Unit → Nat → Nat × Goal Nat Unit := fun _ a => (a, .fail)
private def A : Goal Nat Unit := .conj (.atom fun a => some (a + 1)) (.alt (.atom fun a => some (a * 2)) (.alt (.atom fun a => some (a * 3)) .fail))
private def B : Goal Nat Unit := .atom fun a => some (a + 100)
example : runF (solveAt defs0 5 3) 40 (solveAt defs0 5 3 A 5) = [12, 18] := by decide
example : runF (solveAt defs0 5 3) 40 (solveAt defs0 5 3 B 5) = [105] := by decide
example : runF (solveAt defs0 5 3) 40 (solveAt defs0 5 3 (.alt A (.alt B .fail)) 5) = [105, 12, 18] := by decide
end Examples

end Pv
