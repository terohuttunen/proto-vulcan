/-
  C24 — MULTIPLICITIES: "`member` yields one answer per matching position.  `member1` yields exactly one answer
  per distinct matching value."  (Proofs/RelCount.lean, Proofs/EvalR.lean)

  The answer LIST of the reference semantics `evalRef` (Prolog order, with multiplicities) is characterised; the
  interleaving engine delivers a permutation of it and terminates (C06_ref), the depth-first engine exactly it
  (C05_prolog).
-/
import PvModel.Proofs.RelCountApp
import PvModel.Proofs.RelCountSplit
import PvModel.Props.C06
namespace Pv
open Strm Goal State Term

/-- `member(x, l)`, any argument terms, from any state that determines the length `n` of `l` (`ListLen`), is good,
    says nothing about fresh variables (`RInv`) and has its disequalities in normal form (`DNF` — every state
    `==`/`!=` goals reach from the empty state): the engine terminates, and its answers are — as a multiset —
    exactly ONE STATE PER MATCHING POSITION: `ps` lists the positions `i < n` at which `x` can stand in `l` under
    some described valuation, in increasing order; the `i`-th answer of the reference list `ys` describes
    exactly the valuations of the start state that put `x` at position `ps[i]` (so a value occurring twice in
    `l` is answered twice).  Assumes no FUEL-poisoned answer (see Proofs/RelCount.lean). -/
theorem C24_member_one_per_position (ord : Order) (ho : OrderOK ord) (pf M : Nat) (d : Bool) (n : Nat) (x l : Term) (a : State)
    (bx : Below a.nextVar x) (bl : Below a.nextVar l) (hp : a.panic.isSome = false) (hi : RInv a) (hd : DNF a)
    (hlen : ListLen n l a)
    (hnf : ∀ b, Big (defs ord) (.call ⟨.member, [x, l], d⟩) a b → b.panic.isSome = false) :
    ∃ (ys : List State) (ps : List Nat) (k : Nat) (zs : List State),
      drainF (solveAt (defs ord) pf (M + 1)) k (solveAt (defs ord) pf (M + 1) (.call ⟨.member, [x, l], d⟩) a) = some zs ∧
      ys.Perm zs ∧ ps.Pairwise (· < ·) ∧
      (∀ i, i ∈ ps ↔ (i < n ∧ ∃ γ, StateSem γ a ∧ At x l i γ)) ∧
      Zip2 (fun b i => Describes a (At x l i) b) ys ps := by
  obtain ⟨ys, ps, ⟨m, hm⟩, pw, mem, z⟩ := member_count ho d n x l a bx bl hp hi hd hlen hnf
  obtain ⟨k, zs, hk, perm⟩ := C06_ref (defs ord) pf M m _ a ys hm
  exact ⟨ys, ps, k, zs, hk, perm, pw, mem, z⟩

/-- `member1(x, l)`: ONE STATE PER FIRST OCCURRENCE — `ps` lists the positions `i < n` at which `x` can stand in
    `l` with no earlier element equal to it, under some described valuation: one answer per distinct matching
    value, however often the value occurs -/
theorem C24_member1_one_per_value (ord : Order) (ho : OrderOK ord) (pf M : Nat) (d : Bool) (n : Nat) (x l : Term) (a : State)
    (bx : Below a.nextVar x) (bl : Below a.nextVar l) (hp : a.panic.isSome = false) (hi : RInv a) (hd : DNF a)
    (hlen : ListLen n l a)
    (hnf : ∀ b, Big (defs ord) (.call ⟨.member1, [x, l], d⟩) a b → b.panic.isSome = false) :
    ∃ (ys : List State) (ps : List Nat) (k : Nat) (zs : List State),
      drainF (solveAt (defs ord) pf (M + 1)) k (solveAt (defs ord) pf (M + 1) (.call ⟨.member1, [x, l], d⟩) a) = some zs ∧
      ys.Perm zs ∧ ps.Pairwise (· < ·) ∧
      (∀ i, i ∈ ps ↔ (i < n ∧ ∃ γ, StateSem γ a ∧ At1 x l i γ)) ∧
      Zip2 (fun b i => Describes a (At1 x l i) b) ys ps := by
  obtain ⟨ys, ps, ⟨m, hm⟩, H⟩ := member1_count ho d n x l a bx bl ⟨hp, hi, hd⟩ hlen hnf
  obtain ⟨k, zs, hk, perm⟩ := C06_ref (defs ord) pf M m _ a ys hm
  exact ⟨ys, ps, k, zs, hk, perm, H.sorted, H.mem, H.zip⟩

/-- `append(l, s, ls)` whose FIRST argument has a length the start state determines is a FUNCTION of it: the
    engine terminates with AT MOST ONE answer; that answer describes exactly the valuations of the start state
    under which `ls` is `l` followed by `s`; and there is no answer only when no described valuation satisfies
    that.  (Any terms for `s` and `ls`, bound or not; the other modes of `append` enumerate splits and are
    covered by `C24_append_complete`.) -/
theorem C24_append_functional (ord : Order) (ho : OrderOK ord) (pf M : Nat) (d : Bool) (n : Nat) (l s ls : Term) (a : State)
    (bl : Below a.nextVar l) (bs : Below a.nextVar s) (bls : Below a.nextVar ls)
    (hp : a.panic.isSome = false) (hi : RInv a) (hd : DNF a) (hlen : ListLen n l a)
    (hnf : ∀ b, Big (defs ord) (.call ⟨.append, [l, s, ls], d⟩) a b → b.panic.isSome = false) :
    ∃ (k : Nat) (zs : List State),
      drainF (solveAt (defs ord) pf (M + 1)) k (solveAt (defs ord) pf (M + 1) (.call ⟨.append, [l, s, ls], d⟩) a) = some zs ∧
      zs.length ≤ 1 ∧
      (∀ b ∈ zs, Describes a (fun γ => AppT (apply γ l) (apply γ s) (apply γ ls)) b) ∧
      (zs = [] → ∀ γ, StateSem γ a → ¬ AppT (apply γ l) (apply γ s) (apply γ ls)) := by
  obtain ⟨ys, ⟨m, hm⟩, A⟩ := append_count ho d n l s ls a bl bs bls ⟨hp, hi, hd⟩ hlen hnf
  obtain ⟨k, zs, hk, perm⟩ := C06_ref (defs ord) pf M m _ a ys hm
  refine ⟨k, zs, hk, perm.length_eq ▸ A.le_one, fun b hb => A.desc b (perm.mem_iff.2 hb), fun hz => A.unsat ?_⟩
  subst hz
  exact perm.eq_nil

/-- a strictly increasing list of positions `≤ n` has at most `n + 1` entries -/
theorem C24_increasing_bounded : ∀ (ps : List Nat) (m n : Nat), ps.Pairwise (· < ·) → (∀ i ∈ ps, m ≤ i ∧ i ≤ n) →
    ps.length ≤ n + 1 - m := by
  intro ps
  induction ps with
  | nil => exact fun _ _ _ _ => Nat.zero_le _
  | cons p ps ih =>
    intro m n pw hb
    have hp := hb p List.mem_cons_self
    have pw' := List.pairwise_cons.1 pw
    have := ih (p + 1) n pw'.2 fun i hi => ⟨pw'.1 i hi, (hb i (List.mem_cons_of_mem _ hi)).2⟩
    simp only [List.length_cons]
    omega

theorem C24_zip2_length {α β : Type} {R : α → β → Prop} {as : List α} {bs : List β} (h : Zip2 R as bs) : as.length = bs.length :=
  h.length_eq

/-- `append(l, s, ls)` IN ENUMERATING MODE — the THIRD argument has a length `n` the start state determines (`l`, `s`
    any terms, bound or not): the engine terminates, and its answers are — as a multiset — exactly ONE STATE PER
    SPLIT POSITION: `ps` lists the positions `i ≤ n` at which some described valuation splits `ls` into `l` (the
    first `i` elements) and `s`, in increasing order; the `i`-th answer of the reference list describes exactly the
    valuations of the start state that split at `ps[i]` (`SplitAt`; the position is determined by the valuation,
    `splitAt_unique`, so no ground split is answered twice); hence at most `n + 1` answers.
    Assumes no FUEL-poisoned answer (see Proofs/RelCount.lean). -/
theorem C24_append_one_per_split (ord : Order) (ho : OrderOK ord) (pf M : Nat) (d : Bool) (n : Nat) (l s ls : Term) (a : State)
    (bl : Below a.nextVar l) (bs : Below a.nextVar s) (bls : Below a.nextVar ls)
    (hp : a.panic.isSome = false) (hi : RInv a) (hd : DNF a) (hlen : ListLen n ls a)
    (hnf : ∀ b, Big (defs ord) (.call ⟨.append, [l, s, ls], d⟩) a b → b.panic.isSome = false) :
    ∃ (ys : List State) (ps : List Nat) (k : Nat) (zs : List State),
      drainF (solveAt (defs ord) pf (M + 1)) k (solveAt (defs ord) pf (M + 1) (.call ⟨.append, [l, s, ls], d⟩) a) = some zs ∧
      ys.Perm zs ∧ ps.Pairwise (· < ·) ∧
      (∀ i, i ∈ ps ↔ (i ≤ n ∧ ∃ γ, StateSem γ a ∧ SplitAt l s ls i γ)) ∧
      Zip2 (fun b i => Describes a (SplitAt l s ls i) b) ys ps ∧
      zs.length ≤ n + 1 := by
  obtain ⟨ys, ps, ⟨m, hm⟩, pw, mem, z⟩ := append_split_count ho d n l s ls a bl bs bls hp hi hd hlen hnf
  obtain ⟨k, zs, hk, perm⟩ := C06_ref (defs ord) pf M m _ a ys hm
  refine ⟨ys, ps, k, zs, hk, perm, pw, mem, z, ?_⟩
  rw [← perm.length_eq, z.length_eq]
  exact C24_increasing_bounded ps 0 n pw (fun i hi => ⟨Nat.zero_le _, ((mem i).1 hi).1⟩)

/-- two answers of the enumerating mode never share a described valuation of the start state's variables: a
    valuation splits `ls` at one position only -/
theorem C24_append_splits_disjoint {l s ls : Term} {i j : Nat} {a b b' : State}
    (hb : Describes a (SplitAt l s ls i) b) (hb' : Describes a (SplitAt l s ls j) b') {γ : Subst}
    (h : StateSem γ b) (h' : StateSem γ b') : i = j :=
  splitAt_unique (hb.snd γ h).2 (hb'.snd γ h').2

/-- a literal list has its length in every state -/
theorem C24_listLen_literal (xs : List Term) (a : State) : ListLen xs.length (ofList xs) a := by
  intro γ _
  refine ⟨xs.map (apply γ), by simp, ?_⟩
  induction xs with
  | nil => rfl
  | cons y ys ih => simp only [ofList, apply, List.map_cons, ih]

/-- the empty state has the invariants the theorems above ask for -/
theorem C24_count_start (nv : Nat) : (State.empty nv).panic.isSome = false ∧ RInv (State.empty nv) ∧ DNF (State.empty nv) :=
  ⟨rfl, rinv_empty nv, fun q hq => nomatch hq⟩

section Examples
/-- non-vacuity: from the empty state, `member(x, [1, 2, 1])` has three answers and `member1(x, [1, 2, 1])` two,
    none poisoned -/
example : (evalRef (defs Order.default) 40 (.call ⟨.member, [.var 0, ofList [Term.num 1, Term.num 2, Term.num 1]], false⟩)
    (State.empty 1)).map (fun ys => ys.map fun s => (s.panic.isSome, apply s.σ (.var 0))) =
    some [(false, Term.num 1), (false, Term.num 2), (false, Term.num 1)] := by decide +kernel
example : (evalRef (defs Order.default) 40 (.call ⟨.member1, [.var 0, ofList [Term.num 1, Term.num 2, Term.num 1]], false⟩)
    (State.empty 1)).map (fun ys => ys.map fun s => (s.panic.isSome, apply s.σ (.var 0))) =
    some [(false, Term.num 1), (false, Term.num 2)] := by decide +kernel
example : (evalRef (defs Order.default) 40 (.call ⟨.append, [ofList [Term.num 1, Term.num 2], ofList [Term.num 3], .var 0], false⟩)
    (State.empty 1)).map (·.length) = some 1 := by decide +kernel
/-- enumerating mode: `append(x, y, [1, 2, 3])` has the four splits, in order of the length of `x`, none poisoned -/
example : (evalRef (defs Order.default) 60 (.call ⟨.append, [.var 0, .var 1, ofList [Term.num 1, Term.num 2, Term.num 3]], false⟩)
    (State.empty 2)).map (fun ys => ys.map fun s => (s.panic.isSome, apply s.σ (.var 0))) =
    some [(false, ofList []), (false, ofList [Term.num 1]), (false, ofList [Term.num 1, Term.num 2]),
      (false, ofList [Term.num 1, Term.num 2, Term.num 3])] := by decide +kernel
end Examples

end Pv
