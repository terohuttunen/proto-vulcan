/-
  C04 (and C02 / C06 / C10 / C24) for PROGRAMS WITH RELATION CALLS: programs of `==`, `!=`, conjunction, `conde`,
  fresh and calls of the library relations (recursive, possibly with infinitely many answers).
-/
import PvModel.Proofs.RelProgram
import PvModel.Proofs.Scoped
namespace Pv
open Strm Goal State Term

/-- EXACTNESS: the unpoisoned states in the engine's stream describe only solutions of the program, and every
    solution is described — on the program's variables — by a state of the stream (or a FUEL-poisoned state
    is in the stream); at every nesting level, under every hash-iteration order -/
theorem C04_rel_program_exact (ord : Order) (ho : OrderOK ord) (pf M j nv : Nat) (p : RProg) (w : p.WF nv) :
    (∀ b, MemS (solveAt (defs ord) pf (M + 1)) b (solveAt (defs ord) pf j (p.goal ord) (State.empty nv)) →
      b.panic.isSome = false → ∀ γ, StateSem γ b → p.Sem γ) ∧
    (∀ γ, p.Sem γ → ∃ b, MemS (solveAt (defs ord) pf (M + 1)) b (solveAt (defs ord) pf j (p.goal ord) (State.empty nv)) ∧
      (b.panic.isSome = true ∨ ∃ γ', Agree nv γ γ' ∧ StateSem γ' b)) :=
  prog_exact ho pf M j nv p w

/-- REORDERING IN GENERAL: two programs, the solutions of the first being solutions of the second — in particular two
    programs with the same declarative meaning — under possibly different hash orders, at different nesting levels:
    every valuation described by an answer of the first is described, on the programs' variables, by an answer of the
    second (or the second's stream holds a FUEL-poisoned state) -/
theorem C04_rel_equiv (ord ord' : Order) (ho : OrderOK ord) (ho' : OrderOK ord') (pf M j j' nv : Nat) (p p' : RProg)
    (w' : p'.WF nv) (heq : ∀ γ, p.Sem γ → p'.Sem γ)
    (b : State) (hm : MemS (solveAt (defs ord) pf (M + 1)) b (solveAt (defs ord) pf j (p.goal ord) (State.empty nv)))
    (hp : b.panic.isSome = false) (γ : Subst) (hγ : StateSem γ b) :
    ∃ b', MemS (solveAt (defs ord') pf (M + 1)) b' (solveAt (defs ord') pf j' (p'.goal ord') (State.empty nv)) ∧
      (b'.panic.isSome = true ∨ ∃ γ', Agree nv γ γ' ∧ StateSem γ' b') :=
  (prog_exact ho' pf M j' nv p' w').2 γ (heq γ (prog_sound ho pf M j nv p b hm hp γ hγ))

/-- the order of two conjuncts does not matter for the described solutions, through relation calls too -/
theorem C04_rel_conj_comm (ord ord' : Order) (ho : OrderOK ord) (ho' : OrderOK ord') (pf M j j' nv : Nat) (p q : RProg)
    (wp : p.WF nv) (wq : q.WF nv)
    (b : State) (hm : MemS (solveAt (defs ord) pf (M + 1)) b (solveAt (defs ord) pf j ((RProg.conj p q).goal ord) (State.empty nv)))
    (hp : b.panic.isSome = false) (γ : Subst) (hγ : StateSem γ b) :
    ∃ b', MemS (solveAt (defs ord') pf (M + 1)) b' (solveAt (defs ord') pf j' ((RProg.conj q p).goal ord') (State.empty nv)) ∧
      (b'.panic.isSome = true ∨ ∃ γ', Agree nv γ γ' ∧ StateSem γ' b') :=
  C04_rel_equiv ord ord' ho ho' pf M j j' nv (.conj p q) (.conj q p) ⟨wq, wp⟩ (fun _ h => ⟨h.2, h.1⟩) b hm hp γ hγ

/-- the order of two clauses does not matter for the described solutions -/
theorem C04_rel_alt_comm (ord ord' : Order) (ho : OrderOK ord) (ho' : OrderOK ord') (pf M j j' nv : Nat) (p q : RProg)
    (wp : p.WF nv) (wq : q.WF nv)
    (b : State) (hm : MemS (solveAt (defs ord) pf (M + 1)) b (solveAt (defs ord) pf j ((RProg.alt p q).goal ord) (State.empty nv)))
    (hp : b.panic.isSome = false) (γ : Subst) (hγ : StateSem γ b) :
    ∃ b', MemS (solveAt (defs ord') pf (M + 1)) b' (solveAt (defs ord') pf j' ((RProg.alt q p).goal ord') (State.empty nv)) ∧
      (b'.panic.isSome = true ∨ ∃ γ', Agree nv γ γ' ∧ StateSem γ' b') :=
  C04_rel_equiv ord ord' ho ho' pf M j j' nv (.alt p q) (.alt q p) ⟨wq, wp⟩ (fun _ h => h.symm) b hm hp γ hγ

/-- C10 for such programs: the solutions of `conde { p ; q }` are the union of the solutions of `p` and of `q` — this is
    how `RProg.Sem` is defined; that the engine's answers describe these solutions is `C04_rel_program_exact` -/
theorem C10_rel_union (p q : RProg) (γ : Subst) : (RProg.alt p q).Sem γ ↔ (p.Sem γ ∨ q.Sem γ) := Iff.rfl

section Examples
/-- non-vacuity: `append(x, y, [1, 2]), member(z, x)` is a well-formed program over 3 variables -/
private def progRel : RProg :=
  .conj (.call ⟨.append, [.var 0, .var 1, ofList [Term.num 1, Term.num 2]], false⟩) (.call ⟨.member, [.var 2, .var 0], false⟩)
example : progRel.WF 3 := by
  simp only [progRel, RProg.WF, Call.Valid, List.forall_mem_cons, List.not_mem_nil, false_imp_iff, implies_true,
    ofList, Term.num, below_var_iff, below_cons_iff, below_val, below_nil, and_true, true_and]
  decide
/-- … it has the solution x = [1], y = [2], z = 1 -/
example : progRel.Sem (fun v => if v = 0 then ofList [Term.num 1] else if v = 1 then ofList [Term.num 2] else Term.num 1) :=
  ⟨(appT_ofList [Term.num 1] [Term.num 2] _).2 rfl, .head _ _⟩
end Examples

end Pv
