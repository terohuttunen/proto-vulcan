/-
  C02 / C03 — THE REPORTED ANSWER: "an answer's ground instances are the ones that instantiate its free variables
  consistently with the disequalities attached to it.  These instances are exactly the program's ground solutions."

  `C02_answer_instances` (Props/C02Decide.lean) characterises the SEMANTIC answer (walked query terms + the stored
  disequalities over their variables).  Here the last step: what `reify` and `ResultIterator::next` actually REPORT —
  `_` variables for the unbound variables of the walked query term, the store emptied and re-filled with the walked
  disequalities (normalised on insertion), then `purify(r).normalize().walk_star(r)` — denotes the same thing.
  (Proofs/Reify.lean; Proofs/Scoped.lean: every variable a reached state mentions is below its counter, so the `_`
  variables are new.)
-/
import PvModel.Proofs.Reify
import PvModel.Props.C02
import PvModel.Proofs.EnforceBlocks
import PvModel.Proofs.QueryBind
namespace Pv
open Term

/-- THE REPORTED ANSWER IS EXACT, for every program of `==` / `!=` atoms (any order, any hash-iteration order) over
    variables below `n`, every list `qs` of query terms, and `x` the term `reify` is called on (anything that walks to
    the list of the query terms): let `A` be the answer `ResultIterator::next` builds from the state `reify` leaves.
    A tuple `ts` is an instance of the reported terms `A.terms` under an assignment `δ` of the `_` variables that
    satisfies every reported disequality `A.constraints`  IF AND ONLY IF  it is the value of the query terms under a
    SOLUTION of the program.  (`ts`, `δ`, the solutions: arbitrary terms and substitutions; ground ones are a special
    case — and `C02_satisfiable` shows there always is a ground one.) -/
theorem C02_reported_answer (ord : Order) (ho : OrderOK ord) (n : Nat) (as : List TAtom) (hb : ∀ a ∈ as, a.Below n)
    (st : State) (h : postAll ord (State.empty n) as = .ok st) (qs : List Term) (hq : ∀ q ∈ qs, Below n q)
    (x : Term) (hx : apply st.σ x = apply st.σ (Term.ofList qs)) (ts : List Term) :
    (∃ δ : Subst, (∀ c ∈ (mkAnswer ord qs (reifyState ord st x)).constraints, DiseqHolds δ c) ∧
        ts = (mkAnswer ord qs (reifyState ord st x)).terms.map (apply δ)) ↔
    (∃ γ : Subst, (∀ a ∈ as, a.Sat γ) ∧ ts = qs.map (apply γ)) := by
  have hg := (postAll_ok ord ho _ _ as (good_empty n) h).1
  have hd := postAll_dnf ho as (State.empty n) st (good_empty n) (fun _ hq0 => by simp [State.empty] at hq0) h
  have hnv : st.nextVar = n := postAll_nv ho as _ _ (good_empty n) h
  have hsc : Scoped st.nextVar st := by
    rw [hnv]; exact postAll_scoped ho as _ _ (good_empty n) (scoped_empty n n) hb h
  rw [reifyState_congr ord st hx, reported_answer_exact ho hg hd hsc qs (by rw [hnv]; exact hq) ts]
  refine exists_congr fun γ => and_congr_left fun _ => ?_
  rw [C02_invariant_ok ord ho n as st h γ]

theorem reify_goal_good (ord : Order) (ho : OrderOK ord) (dfs : Call → State → State × G) (pf M : Nat)
    (st : State) (hg : Good st) (hp : st.panic = none) (x : Term)
    (hfa : ∃ N zs, evalRef dfs N (forceAns ord forceFuel x) st = some zs ∧ ∀ t ∈ zs, t.panic = none) :
    ∃ k, drainF (solveAt dfs (pf + 2) (M + 2)) k (solveAt dfs (pf + 2) (M + 2) (reifyG ord x) st) =
      some [reifyState ord st x] := by
  have a := @reifyG_tree Mode.strict ord ho dfs pf M st hg.2.1.2 hp hg.2.1.noFD x hfa
  obtain ⟨k, ys, hk, py⟩ := drain_perm _ (topOK_solveAt dfs (pf + 2) (M + 1)) a
  have : ys = [reifyState ord st x] := (List.singleton_perm.1 py).symm ▸ rfl
  exact ⟨k, by rw [← this]; exact hk⟩

/-- `reify(x)` AS A GOAL ON THE ENGINE (Proofs/ReifyGoal.lean), from the state a list of `==` / `!=` atoms reaches: at any
    solver nesting level ≥ 2 and peek fuel ≥ 2, whenever `force_ans` finishes within the model's fuel, the goal — the
    whole of `enforce_constraints_fd` (labelling, `verify_all_bound`, the `onceo` over the domain variables) followed by the
    final atom — delivers EXACTLY ONE state, the reified state `C02_reported_answer` speaks about -/
theorem C02_reify_goal (ord : Order) (ho : OrderOK ord) (dfs : Call → State → State × G) (pf M n : Nat) (as : List TAtom)
    (st : State) (h : postAll ord (State.empty n) as = .ok st) (hp : st.panic = none) (x : Term)
    (hfa : ∃ N zs, evalRef dfs N (forceAns ord forceFuel x) st = some zs ∧ ∀ t ∈ zs, t.panic = none) :
    ∃ k, drainF (solveAt dfs (pf + 2) (M + 2)) k (solveAt dfs (pf + 2) (M + 2) (reifyG ord x) st) =
      some [reifyState ord st x] := by
  exact reify_goal_good ord ho dfs pf M st (postAll_ok ord ho _ _ as (good_empty n) h).1 hp x hfa

/-- the goal `reify` ends with is the atom that computes this state -/
theorem C02_reify_is_reifyState (ord : Order) (x : Term) :
    reifyFinal ord x = .atom (liftRes fun st => .ok (reifyState ord st x)) := reifyFinal_eq ord x

/-! Non-vacuity: `q0 != 1, q1 != h, q0 == q2` with query `[q0, q1, q2]` (h = x3 hidden): the reported answer is
    `[_0, _1, _0]` with the one constraint `_0 != 1`; the constraint on the hidden variable is not reported. -/
section Examples
private def prog : List TAtom := [.neq (.var 0) (Term.num 1), .neq (.var 1) (.var 3), .eq (.var 0) (.var 2)]
example : (match postAll Order.default (State.empty 4) prog with
    | .ok st =>
      let A := mkAnswer Order.default [.var 0, .var 1, .var 2] (reifyState Order.default st (Term.ofList [.var 0, .var 1, .var 2]))
      A.terms == [.var 4, .var 5, .var 4] && A.constraints == [[(4, Term.num 1)]]
    | _ => false) = true := by decide +kernel
example : ∀ a ∈ prog, a.Below 4 := by
  intro a ha
  simp only [prog, List.mem_cons, List.mem_nil_iff, or_false] at ha
  rcases ha with rfl | rfl | rfl <;> exact ⟨by simp [Below, Term.vars, Term.num], by simp [Below, Term.vars, Term.num]⟩
end Examples

end Pv
