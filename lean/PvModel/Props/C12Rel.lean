/-
  C12 — `for x in coll { body }` (everyg) with bodies that CALL RELATIONS: the answers describe exactly the
  valuations satisfying the body for every element — the same as the forward conjunction, whatever order the
  operator conjoins the bodies in (it folds left: reverse order, `C12_def`).
-/
import PvModel.Proofs.RelProgram
import PvModel.Props.C12
import PvModel.Proofs.Scoped
namespace Pv
open Strm Goal State Term

def RProg.conjAll : List RProg → RProg
  | [] => .succeed
  | p :: ps => .conj p (RProg.conjAll ps)

theorem RProg.sem_conjAll (γ : Subst) : ∀ (ps : List RProg), (RProg.conjAll ps).Sem γ ↔ ∀ p ∈ ps, p.Sem γ
  | [] => ⟨fun _ _ h => (nomatch h), fun _ => trivial⟩
  | p :: ps => by
    simp only [RProg.conjAll, RProg.Sem, List.mem_cons, forall_eq_or_imp, RProg.sem_conjAll γ ps]

theorem RProg.wf_conjAll {m : Nat} : ∀ (ps : List RProg), (∀ p ∈ ps, p.WF m) → (RProg.conjAll ps).WF m
  | [], _ => trivial
  | p :: ps, h => ⟨h p List.mem_cons_self, RProg.wf_conjAll ps fun q hq => h q (List.mem_cons_of_mem _ hq)⟩

/-- `Conj::from_array` over the bodies has the big-step answers of the plain nested conjunction -/
theorem big_conjAll (ord : Order) : ∀ (ps : List RProg) (a b : State),
    Big (defs ord) (conjOfList (ps.map (·.goal ord))) a b ↔ Big (defs ord) ((RProg.conjAll ps).goal ord) a b
  | [], _, _ => Iff.rfl
  | _ :: ps, _, b =>
    big_mkConj.trans ((exists_congr fun m => and_congr_right fun _ => big_conjAll ord ps m b).trans big_conj.symm)

theorem mem_conjAll (ord : Order) (pf M j : Nat) (ps : List RProg) (a b : State) :
    MemS (solveAt (defs ord) pf (M + 1)) b (solveAt (defs ord) pf j (conjOfList (ps.map (·.goal ord))) a) ↔
      MemS (solveAt (defs ord) pf (M + 1)) b (solveAt (defs ord) pf j ((RProg.conjAll ps).goal ord) a) := by
  have hpl : Plain (conjOfList (ps.map (·.goal ord))) :=
    plain_conjOfList _ fun g hg => by
      obtain ⟨p, _, rfl⟩ := List.mem_map.1 hg
      exact p.plain ord
  rw [mem_iff_big (defs_plain ord) pf M j hpl, mem_iff_big (defs_plain ord) pf M j ((RProg.conjAll ps).plain ord), big_conjAll]

/-- EVERYG IS EXACT, bodies with relation calls included: `for x in coll { body }` conjoins one instance of the
    body per element (`ps`: the instances, in collection order) by a LEFT fold, i.e. in reverse order; the
    unpoisoned states in the engine's stream describe exactly the valuations that satisfy EVERY instance (or the
    stream holds a FUEL-poisoned state) — the meaning of the forward conjunction `ps[0], ps[1], …` — at every nesting
    level, under every hash order. -/
theorem C12_rel_everyg (ord : Order) (ho : OrderOK ord) (pf M j nv : Nat) (ps : List RProg) (w : ∀ p ∈ ps, p.WF nv) :
    (∀ b, MemS (solveAt (defs ord) pf (M + 1)) b (solveAt (defs ord) pf j (conjOfIter (ps.map (·.goal ord))) (State.empty nv)) →
      b.panic.isSome = false → ∀ γ, StateSem γ b → ∀ p ∈ ps, p.Sem γ) ∧
    (∀ γ, (∀ p ∈ ps, p.Sem γ) →
      ∃ b, MemS (solveAt (defs ord) pf (M + 1)) b (solveAt (defs ord) pf j (conjOfIter (ps.map (·.goal ord))) (State.empty nv)) ∧
        (b.panic.isSome = true ∨ ∃ γ', Agree nv γ γ' ∧ StateSem γ' b)) := by
  have hs : ∀ γ, (RProg.conjAll ps.reverse).Sem γ ↔ ∀ p ∈ ps, p.Sem γ := fun γ => by
    simp only [RProg.sem_conjAll, List.mem_reverse]
  rw [C12_def, ← List.map_reverse]
  simpa only [mem_conjAll, hs] using
    prog_exact ho pf M j nv (RProg.conjAll ps.reverse) (RProg.wf_conjAll _ fun p hp => w p (List.mem_reverse.1 hp))

section Examples
/-- non-vacuity: the instances of the body `member(e, qa)` for the collection `[1, 2]` -/
example : ∀ p ∈ [RProg.call ⟨.member, [Term.num 1, .var 0], false⟩, RProg.call ⟨.member, [Term.num 2, .var 0], false⟩], p.WF 1 := by
  simp only [List.forall_mem_cons, List.not_mem_nil, false_imp_iff, implies_true, RProg.WF, Call.Valid,
    Term.num, below_var_iff, below_val, and_true, true_and]
  decide
end Examples

end Pv
