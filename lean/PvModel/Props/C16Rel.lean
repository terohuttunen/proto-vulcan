/-
  C16 (and C19 / C23 soundness side) for PROGRAMS THAT MIX CONSTRAINTS AND RELATION CALLS: finite-domain and
  CLP(Z) constraints, domains, `==`, `!=`, conjunction, `conde`, fresh and calls of member / member1 / append /
  rember / permute / distinct (recursive; infinitely many answers allowed).
-/
import PvModel.Proofs.RelSemFD
namespace Pv
open Strm Goal State Term

section
variable [Mode]

/-- every unpoisoned state the engine holds for such a program — any nesting level, any hash-iteration order —
    is well-formed and describes (substitution, every stored constraint, every remaining domain) only
    valuations that satisfy the arithmetic meaning of every constraint posted on its path and put the arguments
    of every relation call on its path in the documented relation -/
theorem C16_rel_program_sound (ord : Order) (ho : OrderOK ord) (pf M j nv : Nat) (p : FRProg) (hk : p.OK) (b : State)
    (hm : MemS (solveAt (defs ord) pf (M + 1)) b (solveAt (defs ord) pf j (p.goal ord) (State.empty nv)))
    (hp : b.panic.isSome = false) : (WFS b ∧ Inv b) ∧ ∀ γ, Sem NoI γ b → p.Sem γ :=
  (frprog_sound ho pf M j p hk _ b hm hp (wfs_empty nv) (inv_empty nv)).imp id fun h γ hγ => (h γ hγ).2

/-- a relation call from ANY well-formed finite-domain state: the unpoisoned states in the engine's stream are
    well-formed and describe only valuations of the start state under which the arguments are in the relation -/
theorem C16_rel_call_sound (ord : Order) (ho : OrderOK ord) (pf M j : Nat) (c : Call) (a b : State)
    (hm : MemS (solveAt (defs ord) pf (M + 1)) b (solveAt (defs ord) pf j (.call c) a))
    (hp : b.panic.isSome = false) (w : WFS a) (hi : Inv a) :
    (WFS b ∧ Inv b) ∧ ∀ γ, Sem NoI γ b → Sem NoI γ a ∧ RelSem c γ :=
  frprog_sound ho pf M j (.call c) trivial a b hm hp w hi

end

section Examples
/-- non-vacuity: the program `x in 1..3, member(x, [2, 5])` is admissible -/
private def progFR : FRProg :=
  .conj (.atom (.dom (.var 0) (.interval 1 3)))
    (.call ⟨.member, [.var 0, ofList [Term.num 2, Term.num 5]], false⟩)
example : @FRProg.OK Mode.strict progFR := by
  refine ⟨?_, trivial⟩
  show (1 : Int) ≤ 3
  decide
end Examples

end Pv
