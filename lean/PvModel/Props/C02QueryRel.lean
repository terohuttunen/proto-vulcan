/-
  C02 / C24 — THE WHOLE QUERY WITH LIBRARY RELATION CALLS, ON THE ENGINE.  A query `|q…| { p }` whose body `p` is a program of
  `==` / `!=` atoms, conjunction, `conde`, `fresh` AND calls of the library list relations (member, member1, append, rember,
  permute, distinct — interleaving or depth-first variants), run from the empty state, whose textbook evaluation is finite
  (terminating argument modes): the engine terminates on the query goal `queryG` and delivers — as a multiset — exactly the
  reified states of the body's reference answers.  Every such state is a tree state (`big_invariant` over the relation
  bodies, `evalRef_mem_big`: the textbook list contains only big-step answers), so nothing is assumed about the states but
  the model's bounds: no answer is FUEL-poisoned, and the walked query term is within `force_ans`'s depth bound.
-/
import PvModel.Props.C02Query
import PvModel.Props.C02Rel
import PvModel.Proofs.RefBig
namespace Pv
open Strm Goal State Term

attribute [local instance] Mode.strict

theorem C02_query_rel (ord : Order) (ho : OrderOK ord) (pf M N n : Nat) (p : RProg) (w : p.WF n)
    (qv : Term) (qs : List Term) (s1 : State) (xs : List State)
    (h1 : postAtom ord (State.empty n) (.eq qv (Term.ofList qs)) = .ok s1)
    (hx : evalRef (defs ord) N (p.goal ord) s1 = some xs)
    (hun : ∀ s ∈ xs, s.panic = none)
    (hsz : ∀ s ∈ xs, (apply s.σ qv).size ≤ forceFuel) :
    ∃ k zs, drainF (solveAt (defs ord) (pf + 2) (M + 2)) k
        (solveAt (defs ord) (pf + 2) (M + 2) (queryG ord qv qs [p.goal ord]) (State.empty n)) = some zs ∧
      (xs.map fun s => reifyState ord s qv).Perm zs := by
  have hg1 : Good s1 := (postAtom_ok ord ho _ s1 _ (good_empty n) h1).1
  have hall1 : postAll ord (State.empty n) [.eq qv (Term.ofList qs)] = .ok s1 := by
    simp only [postAll, h1, Res.bind]
  have hd1 : DNF s1 := postAll_dnf ho _ (State.empty n) s1 (good_empty n) (fun _ hq0 => by simp [State.empty] at hq0) hall1
  refine C02_query_any_body ord ho (defs ord) pf M N (p.goal ord) qv qs (State.empty n) s1 xs (liftRes_of_ok rfl h1) hx fun s hs => ?_
  obtain ⟨m, hm⟩ := evalRef_mem_big (defs ord) hx hs
  have inv := big_invariant (ord := ord) (A := TreeAtom) (fun _ _ => ⟨trivial, trivial⟩) GD'
    (fun t ht a b h ha => gd_atom ho t ht a b h ha) (fun a k h => h) m _ _ s hm (rprog_npg p w) (.inr ⟨hg1, hd1⟩)
  have hp := hun s hs
  rcases inv with x | ⟨hg, _⟩
  · rw [hp] at x; cases x
  · exact ⟨hg.2.1.2, hp, hg.2.1.noFD, hg.1, hsz s hs⟩

section Examples
/-- `|x, y| { append(x, y, [1, 2]), x != [] }` as a whole query, on the engine: the two splits with a non-empty `x`, reified -/
example : (drainF (solveAt (defs Order.default) 4 4) 600
    (solveAt (defs Order.default) 4 4 (queryG Order.default (.var 2) [.var 0, .var 1]
      [.conj (.call ⟨.append, [.var 0, .var 1, Term.ofList [Term.num 1, Term.num 2]], false⟩)
        (.atom (liftRes fun st => postF Order.default st (.neq (.var 0) .nil)))]) (State.empty 3))).map
      (fun zs => zs.map fun s => (s.panic.isSome, apply s.σ (.var 0), apply s.σ (.var 1))) =
    some [(false, Term.ofList [Term.num 1], Term.ofList [Term.num 2]), (false, Term.ofList [Term.num 1, Term.num 2], Term.ofList [])] := by
  decide +kernel
end Examples

end Pv
