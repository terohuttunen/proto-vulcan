/-
  C17 — "every assignment … is returned, and each is returned EXACTLY ONCE": the hidden variables.
  After the query term is labelled, `enforce_constraints_fd` runs `onceo { force_ans(all remaining domain variables) }`:
  the hidden (non-query) FD variables must have SOME consistent value, and contribute no further answers.
  Proofs/EnforceKeys.lean (on Proofs/Tight.lean, Labelled.lean, Label.lean, the engine theorems of C06/C08):
    * labelling ALL domain variables delivers only CLOSED states (empty domain store, no propagator), which describe
      only valuations of the start state, and delivers at least one whenever the start state has a solution
      (`C17_hidden_labelling_decides`, textbook semantics);
    * on the ENGINE, `onceo` over that labelling is the stream of AT MOST ONE state: one closed state when the start state
      has a solution, none when the labelling has no answer (`C17_hidden_onceo`).
  So a labelled query term that propagation let through although the hidden variables have no consistent values yields
  NO answer, and one with consistent hidden values yields exactly ONE — independent of the strength of propagation.
  Strict mode (no `distinctfd`), no CLP(Z) constraint on an FD variable.
-/
import PvModel.Proofs.EnforceBlocks
import PvModel.Props.C16Keys
namespace Pv
open State Term Goal FD

section Strict
attribute [local instance] Mode.strict

/-- every state reached by posting atoms and then labelling equalities has the labelling invariants: well-formed,
    lifecycle invariant, domain-store keys unbound, every stored propagator live -/
theorem C17_labelling_invariants {ord : Order} (ho : OrderOK ord) (n : Nat) (as : List FAtom) (hok : ∀ a ∈ as, a.OK)
    (hnz : ∀ a ∈ as, a.NoZ) (ls : List (Int × Nat)) (s c : State)
    (h1 : postAllF ord (State.empty n) as = .ok s) (h2 : postAllF ord s (labelAtoms ls) = .ok c) : LInv c :=
  (reach_inv ho (linv_of_atoms ho n as hok hnz s h1) ⟨ls, h2⟩).1

/-- LABELLING ALL DOMAIN VARIABLES DECIDES (textbook semantics of the body of the `onceo`) -/
theorem C17_hidden_labelling_decides {ord : Order} (ho : OrderOK ord) (dfs : Call → State → State × G)
    (ks : List Nat) (n N : Nat) (c : State) (ds : List State) (hn : ks.length < n)
    (hi : LInv c) (hp : c.panic = none) (hops : OpsOK c) (hks : ∀ y, (c.dget y).isSome → y ∈ ks)
    (hko : ∀ k ∈ ks, c.σ k = .var k ∨ ∃ m, c.σ k = Term.num m)
    (h : evalRef dfs N (forceAns ord n (Term.ofList (ks.map Term.var))) c = some ds) (hall : ∀ t ∈ ds, t.panic = none) :
    (∀ d ∈ ds, d.dstore = [] ∧ (∀ p ∈ d.store, p.2.isDiseq = true) ∧ WFS d ∧ ∀ γ, Sem NoI γ d → Sem NoI γ c) ∧
    ((∃ γ, Sem NoI γ c) → ds ≠ []) :=
  keys_labelling_decides ho dfs ks n N c ds hn hi hp hops hks hko h hall

/-- THE `onceo` OVER THE HIDDEN VARIABLES, ON THE ENGINE (any nesting level ≥ 2, peek fuel `pf` that lets the labelling
    drain): at most one state; a closed one describing only valuations of `c` when `c` has a solution; none when the
    labelling has no answer -/
theorem C17_hidden_onceo {ord : Order} (ho : OrderOK ord) (dfs : Call → State → State × G) (pf m : Nat)
    (ks : List Nat) (n N : Nat) (c : State) (ds ys : List State)
    (hn : ks.length < n) (hi : LInv c) (hp : c.panic = none) (hops : OpsOK c) (hks : ∀ y, (c.dget y).isSome → y ∈ ks)
    (hko : ∀ k ∈ ks, c.σ k = .var k ∨ ∃ m, c.σ k = Term.num m)
    (h : evalRef dfs N (forceAns ord n (Term.ofList (ks.map Term.var))) c = some ds) (hall : ∀ t ∈ ds, t.panic = none)
    (hd : drainF (solveAt dfs pf (m + 1)) pf
      (start dfs (solveAt dfs pf (m + 1)) pf (Goal.conjOfList [forceAns ord n (Term.ofList (ks.map Term.var))]) c) = some ys) :
    ds.Perm ys ∧
    start dfs (solveAt dfs pf (m + 1)) pf (Goal.onceo [forceAns ord n (Term.ofList (ks.map Term.var))]) c =
      firstStrm ys.head? ∧
    (∀ b, ys.head? = some b → b.dstore = [] ∧ (∀ p ∈ b.store, p.2.isDiseq = true) ∧ ∀ γ, Sem NoI γ b → Sem NoI γ c) ∧
    ((∃ γ, Sem NoI γ c) → ys.head?.isSome = true) ∧ (ds = [] → ys.head? = none) :=
  hidden_labelling_engine ho dfs pf m ks n N c ds ys hn hi hp hops hks hko h hall hd

/-- `verify_all_bound` + the documented operand kinds give `OpsOK`: if `allBound` answers true, no CLP(Z) constraint is
    stored and every operand of every stored propagator walks to a variable or a number, then every operand is a number or
    a variable WITH A DOMAIN -/
theorem C17_opsOK_of_allBound (c : State) (hab : c.allBound = true) (hz : NoZ c)
    (hkind : ∀ p ∈ c.store, p.2.isDiseq = false → ∀ u ∈ operandsOf p.2, (walk c.σ u).isVar = true ∨ (walk c.σ u).isNum = true) :
    OpsOK c := by
  intro p hp hd u hu
  unfold State.allBound at hab
  have h1 := (List.all_eq_true.1 hab) p hp
  simp only [Cst.isFD_of_not hd (hz p hp), Bool.not_true, Bool.false_or] at h1
  have h2 := (List.all_eq_true.1 h1) u hu
  rcases hkind p hp hd u hu with hv | hn
  · cases hw : walk c.σ u with
    | var x => rw [hw] at h2; exact .inr ⟨x, rfl, h2⟩
    | _ => rw [hw] at hv; cases hv
  · cases hw : walk c.σ u with
    | val a =>
      cases a with
      | num n => exact .inl ⟨n, rfl⟩
      | _ => rw [hw] at hn; cases hn
    | _ => rw [hw] at hn; cases hn

/-- `C17_hidden_onceo` for EXACTLY the goal `enforce_constraints_fd` builds: the list of ALL keys of the domain store, in the
    hash-iteration order `ord.ds`, labelled with the model's fuel (`hn`: the keys fit it — implied by `hall`, since a
    labelling that runs out of fuel delivers a poisoned state).  The key list contains every variable with a domain and
    — the keys being unbound (`C16_domain_keys_unbound`) — only variables in the state the lemma wants -/
theorem C17_hidden_onceo_model {ord : Order} (ho : OrderOK ord) (dfs : Call → State → State × G) (pf m : Nat)
    (N : Nat) (c : State) (ds ys : List State)
    (hn : c.dstore.length < forceFuel) (hi : LInv c) (hp : c.panic = none) (hops : OpsOK c)
    (h : evalRef dfs N (forceAns ord forceFuel (Term.ofList ((ord.ds c.dstore).map fun p => Term.var p.1))) c = some ds)
    (hall : ∀ t ∈ ds, t.panic = none)
    (hd : drainF (solveAt dfs pf (m + 1)) pf
      (start dfs (solveAt dfs pf (m + 1)) pf
        (Goal.conjOfList [forceAns ord forceFuel (Term.ofList ((ord.ds c.dstore).map fun p => Term.var p.1))]) c) = some ys) :
    start dfs (solveAt dfs pf (m + 1)) pf
        (Goal.onceo [forceAns ord forceFuel (Term.ofList ((ord.ds c.dstore).map fun p => Term.var p.1))]) c =
      firstStrm ys.head? ∧
    (∀ b, ys.head? = some b → b.dstore = [] ∧ (∀ p ∈ b.store, p.2.isDiseq = true) ∧ ∀ γ, Sem NoI γ b → Sem NoI γ c) ∧
    ((∃ γ, Sem NoI γ c) → ys.head?.isSome = true) ∧ (ds = [] → ys.head? = none) := by
  obtain ⟨e1, hm, hds, e3⟩ := hidden_keys_engine ho dfs pf m N c ds ys hn hi hp hops h hall hd
  exact ⟨e1, fun b hb => let ⟨_, d, st, _, sub⟩ := hds b (hm b hb); ⟨d, st, sub⟩, e3⟩

/-- ASSEMBLY OF `enforce_constraints_fd` ON THE ENGINE (Proofs/ReifyGoal.lean `enforce_compose`): the labelling of the
    query term delivers blocks `xs`; from block `c` the `onceo` over the remaining domain variables delivers `o c`
    (`C17_hidden_onceo`: at most one closed state, one iff the block has a solution).  The whole goal then delivers, in some
    engine order of the blocks, exactly the states `o c`: ONE answer per block with a solution, NONE for the others. -/
theorem C17_enforce_assembly (ord : Order) (dfs : Call → State → State × G) (pf M : Nat) (x : Term) (s : State) (N : Nat)
    (xs : List State) (o : State → Option State)
    (h1 : evalRef dfs N (forceAns ord forceFuel x) s = some xs)
    (hb : ∀ c ∈ xs, c.panic = none ∧ c.allBound = true ∧
      start dfs (solveAt dfs pf (M + 1)) pf
        (Goal.onceo [forceAns ord forceFuel (Term.ofList ((ord.ds c.dstore).map fun p => Term.var p.1))]) c = firstStrm (o c)) :
    ∃ xs', xs.Perm xs' ∧
      AnsS (solveAt dfs pf (M + 2)) (solveAt dfs pf (M + 2) (enforceFd ord x) s) (xs'.flatMap fun c => (o c).toList) :=
  enforce_compose dfs pf M ord x s N xs o h1 hb

/-- `enforce_constraints_fd` ON THE ENGINE, END TO END.  From a state `s` with the labelling invariants (every state a
    program of FD atoms reaches: `C17_labelling_invariants`) whose propagators' operands are numbers or variables with
    domains: let the labelling of the query term `x` deliver the blocks `xs` (textbook evaluation within the model's fuel).
    For every block, `verify_all_bound` passes, and the labelling of its domain variables finishes (`dsOf c`) and drains
    within the peek fuel (`ysOf c`).  Then the goal delivers — in some engine order of the blocks — exactly the heads
    `(ysOf c).head?`: for a block that describes a valuation ONE state, closed (empty domain store, no propagator) and
    describing only valuations of the block; for a block whose labelling finds nothing NONE.  Every block that describes
    a valuation is answered once; hidden variables add no answers. -/
theorem C17_enforce_exactly_once {ord : Order} (ho : OrderOK ord) (dfs : Call → State → State × G) (pf M : Nat)
    (x : Term) (s : State) (N : Nat) (xs : List State) (hi : LInv s) (hp : s.panic = none) (hops : OpsOK s)
    (h1 : evalRef dfs N (forceAns ord forceFuel x) s = some xs) (hall1 : ∀ c ∈ xs, c.panic = none)
    (NOf : State → Nat) (dsOf ysOf : State → List State)
    (hblk : ∀ c ∈ xs, c.allBound = true ∧ c.dstore.length < forceFuel ∧
      evalRef dfs (NOf c) (forceAns ord forceFuel (Term.ofList ((ord.ds c.dstore).map fun p => Term.var p.1))) c = some (dsOf c) ∧
      (∀ t ∈ dsOf c, t.panic = none) ∧
      drainF (solveAt dfs pf (M + 1)) pf
        (start dfs (solveAt dfs pf (M + 1)) pf
          (Goal.conjOfList [forceAns ord forceFuel (Term.ofList ((ord.ds c.dstore).map fun p => Term.var p.1))]) c) = some (ysOf c)) :
    (∃ xs', xs.Perm xs' ∧
      AnsS (solveAt dfs pf (M + 2)) (solveAt dfs pf (M + 2) (enforceFd ord x) s) (xs'.flatMap fun c => ((ysOf c).head?).toList)) ∧
    (∀ c ∈ xs,
      (∀ b, (ysOf c).head? = some b → b.dstore = [] ∧ (∀ p ∈ b.store, p.2.isDiseq = true) ∧ ∀ γ, Sem NoI γ b → Sem NoI γ c) ∧
      ((∃ γ, Sem NoI γ c) → ((ysOf c).head?).isSome = true) ∧ (dsOf c = [] → (ysOf c).head? = none)) := by
  obtain ⟨ha, hk⟩ := enforce_blocks ho dfs pf M x s N xs hi hp hops h1 hall1 NOf dsOf ysOf hblk
  refine ⟨ha, fun c hc => ?_⟩
  obtain ⟨_, _, hm, hds, e3⟩ := hk c hc
  exact ⟨fun b hb => let ⟨_, d, st, _, sub⟩ := hds b (hm b hb); ⟨d, st, sub⟩, e3⟩

/-- LABELLING SEPARATES (Proofs/LabelSep.lean): two states `force_ans(x)` delivers at different positions give `x` DIFFERENT
    values, under any valuation the one describes and any the other describes -/
theorem C17_labelling_separates {ord : Order} (ho : OrderOK ord) (dfs : Call → State → State × G) (n N : Nat) (x : Term)
    (s : State) (zs : List State) (w : WFS s) (hi : Inv s) (hp : s.panic = none)
    (h : evalRef dfs N (forceAns ord n x) s = some zs) (hall : ∀ t ∈ zs, t.panic = none) :
    zs.Pairwise fun a b => ∀ γa γb, Sem NoI γa a → Sem NoI γb b → apply γa x ≠ apply γb x := by
  refine (forceAns_sep dfs ho n x N s zs w hi hp h hall).imp fun hab γa γb sa sb e => ?_
  exact hab γa γb sa sb (by simp only [List.map_cons, List.map_nil, e])

/-- EACH ASSIGNMENT OF THE QUERY TERM EXACTLY ONCE — the state-level content of C17, on the engine.  In the setting of
    `C17_enforce_exactly_once`: the answers `enforce_constraints_fd` delivers
    (1) give the query term PAIRWISE DIFFERENT values: whatever valuation one answer describes and whatever valuation another
        (at a different position) describes, they disagree on `x` — no assignment is answered twice;
    (2) cover every solution: every valuation the start state describes lies in a block of the labelling, and that block has
        an answer — no assignment that extends to a solution is lost. -/
theorem C17_each_assignment_once {ord : Order} (ho : OrderOK ord) (dfs : Call → State → State × G) (pf M : Nat)
    (x : Term) (s : State) (N : Nat) (xs : List State) (hi : LInv s) (hp : s.panic = none) (hops : OpsOK s)
    (h1 : evalRef dfs N (forceAns ord forceFuel x) s = some xs) (hall1 : ∀ c ∈ xs, c.panic = none)
    (NOf : State → Nat) (dsOf ysOf : State → List State)
    (hblk : ∀ c ∈ xs, c.allBound = true ∧ c.dstore.length < forceFuel ∧
      evalRef dfs (NOf c) (forceAns ord forceFuel (Term.ofList ((ord.ds c.dstore).map fun p => Term.var p.1))) c = some (dsOf c) ∧
      (∀ t ∈ dsOf c, t.panic = none) ∧
      drainF (solveAt dfs pf (M + 1)) pf
        (start dfs (solveAt dfs pf (M + 1)) pf
          (Goal.conjOfList [forceAns ord forceFuel (Term.ofList ((ord.ds c.dstore).map fun p => Term.var p.1))]) c) = some (ysOf c)) :
    ∃ xs', xs.Perm xs' ∧
      AnsS (solveAt dfs pf (M + 2)) (solveAt dfs pf (M + 2) (enforceFd ord x) s) (xs'.flatMap fun c => ((ysOf c).head?).toList) ∧
      (xs'.flatMap fun c => ((ysOf c).head?).toList).Pairwise
        (fun a b => ∀ γa γb, Sem NoI γa a → Sem NoI γb b → apply γa x ≠ apply γb x) ∧
      (∀ γ, Sem NoI γ s → ∃ c ∈ xs, Sem NoI γ c ∧ ∃ b, (ysOf c).head? = some b ∧
        b ∈ xs'.flatMap fun c => ((ysOf c).head?).toList) := by
  obtain ⟨⟨xs', px, ha⟩, hk⟩ := C17_enforce_exactly_once ho dfs pf M x s N xs hi hp hops h1 hall1 NOf dsOf ysOf hblk
  have sep := C17_labelling_separates ho dfs forceFuel N x s xs hi.w hi.i hp h1 hall1
  have part := forceAns_part dfs ho forceFuel x N s xs ⟨hi.w, hi.i⟩ hp h1 hall1
  have sep' : xs'.Pairwise fun a b => ∀ γa γb, Sem NoI γa a → Sem NoI γb b → apply γa x ≠ apply γb x :=
    (px.pairwise_iff (fun {a b} h γa γb sa sb e => h γb γa sb sa e.symm)).1 sep
  refine ⟨xs', px, ha, ?_, fun γ hγ => ?_⟩
  · rw [List.pairwise_flatMap]
    refine ⟨fun c _ => ?_, sep'.imp_of_mem fun {c1 c2} h1' h2' hab b1 hb1 b2 hb2 γa γb sa sb => ?_⟩
    · cases (ysOf c).head? with
      | none => exact List.Pairwise.nil
      | some b => exact List.pairwise_singleton _ _
    · -- answers of different blocks describe only valuations of their blocks, which the labelling separates
      exact hab γa γb ((hk c1 (px.mem_iff.2 h1')).1 b1 (Option.mem_toList.1 hb1) |>.2.2 γa sa)
        ((hk c2 (px.mem_iff.2 h2')).1 b2 (Option.mem_toList.1 hb2) |>.2.2 γb sb)
  · obtain ⟨c, hc, hs⟩ := part.2.1 γ hγ
    obtain ⟨b, hh⟩ := Option.isSome_iff_exists.1 ((hk c hc).2.1 ⟨γ, hs⟩)
    exact ⟨c, hc, hs, b, hh, List.mem_flatMap.2 ⟨c, px.mem_iff.1 hc, Option.mem_toList.2 hh⟩⟩

/-- C17, STATE LEVEL, COMPLETE: "every assignment of the query variables that satisfies all constraints within the domains is
    returned, and each is returned exactly once".  In the setting of `C17_enforce_exactly_once`, when every variable of the
    walked query term has a domain (Proofs/LabelGround.lean: the labelling then GROUNDS the query term in every block):
    (a) every answer gives the query term ONE value — the same under all valuations it describes;
    (b) the value ANY solution of the start state gives the query term is the value of some answer;
    (c) answers at different positions have different values (`C17_each_assignment_once`).
    So the answers are in one-to-one correspondence with the assignments of the query term that extend to a solution. -/
theorem C17_assignments_bijection {ord : Order} (ho : OrderOK ord) (dfs : Call → State → State × G) (pf M : Nat)
    (x : Term) (s : State) (N : Nat) (xs : List State) (hi : LInv s) (hp : s.panic = none) (hops : OpsOK s)
    (hdom : ∀ y ∈ (apply s.σ x).vars, (s.dget y).isSome)
    (h1 : evalRef dfs N (forceAns ord forceFuel x) s = some xs) (hall1 : ∀ c ∈ xs, c.panic = none)
    (NOf : State → Nat) (dsOf ysOf : State → List State)
    (hblk : ∀ c ∈ xs, c.allBound = true ∧ c.dstore.length < forceFuel ∧
      evalRef dfs (NOf c) (forceAns ord forceFuel (Term.ofList ((ord.ds c.dstore).map fun p => Term.var p.1))) c = some (dsOf c) ∧
      (∀ t ∈ dsOf c, t.panic = none) ∧
      drainF (solveAt dfs pf (M + 1)) pf
        (start dfs (solveAt dfs pf (M + 1)) pf
          (Goal.conjOfList [forceAns ord forceFuel (Term.ofList ((ord.ds c.dstore).map fun p => Term.var p.1))]) c) = some (ysOf c)) :
    ∃ xs', xs.Perm xs' ∧
      AnsS (solveAt dfs pf (M + 2)) (solveAt dfs pf (M + 2) (enforceFd ord x) s) (xs'.flatMap fun c => ((ysOf c).head?).toList) ∧
      (∀ b ∈ xs'.flatMap (fun c => ((ysOf c).head?).toList), ∃ v : Term, v.vars = [] ∧ ∀ γ, Sem NoI γ b → apply γ x = v) ∧
      (∀ γ, Sem NoI γ s → ∃ b ∈ xs'.flatMap (fun c => ((ysOf c).head?).toList), ∀ γ', Sem NoI γ' b → apply γ' x = apply γ x) ∧
      (xs'.flatMap fun c => ((ysOf c).head?).toList).Pairwise
        (fun a b => ∀ γa γb, Sem NoI γa a → Sem NoI γb b → apply γa x ≠ apply γb x) := by
  obtain ⟨xs', px, ha, hpw, hcov⟩ := C17_each_assignment_once ho dfs pf M x s N xs hi hp hops h1 hall1 NOf dsOf ysOf hblk
  obtain ⟨_, hk⟩ := C17_enforce_exactly_once ho dfs pf M x s N xs hi hp hops h1 hall1 NOf dsOf ysOf hblk
  have hg := blocks_ground ho dfs forceFuel N x s xs hi hp hdom h1 hall1
  refine ⟨xs', px, ha, fun b hb => ?_, fun γ hγ => ?_, hpw⟩
  · obtain ⟨c, hc, hbc⟩ := List.mem_flatMap.1 hb
    have hcx := px.mem_iff.2 hc
    obtain ⟨g1, g2⟩ := hg c hcx
    exact ⟨apply c.σ x, g1, fun γ hγ => g2 γ (((hk c hcx).1 b (Option.mem_toList.1 hbc)).2.2 γ hγ)⟩
  · obtain ⟨c, hc, hs, b, e, hb⟩ := hcov γ hγ
    obtain ⟨_, g2⟩ := hg c hc
    exact ⟨b, hb, fun γ' hγ' => by rw [g2 γ' (((hk c hc).1 b e).2.2 γ' hγ'), g2 γ hs]⟩

/-! Non-vacuity.  `x, y in 1..2, x != y` (two solutions): `onceo` over the labelling of both variables delivers ONE closed
    state.  `x, y, z in 1..2`, pairwise different (no solution, but pairwise propagation does not see it): NO state. -/
section Examples
private def dfs0 : Call → State → State × G := fun _ a => (a, .fail)
private def x : Term := .var 0
private def y : Term := .var 1
private def z : Term := .var 2
example : (match postAllF Order.default (State.empty 2)
      [.dom x (.interval 1 2), .dom y (.interval 1 2), .cst (.diseqfd x y)] with
    | .ok c =>
      let r := runF (solveAt dfs0 60 2) 400 (start dfs0 (solveAt dfs0 60 2) 60
        (Goal.onceo [forceAns Order.default 10 (Term.ofList [x, y])]) c)
      r.length == 1 && r.all (fun b => b.dstore.length == 0 && b.store.length == 0) && c.dstore.length == 2
    | _ => false) = true := by decide +kernel
example : (match postAllF Order.default (State.empty 3)
      [.dom x (.interval 1 2), .dom y (.interval 1 2), .dom z (.interval 1 2),
       .cst (.diseqfd x y), .cst (.diseqfd y z), .cst (.diseqfd x z)] with
    | .ok c =>
      let r := runF (solveAt dfs0 60 2) 600 (start dfs0 (solveAt dfs0 60 2) 60
        (Goal.onceo [forceAns Order.default 10 (Term.ofList [x, y, z])]) c)
      r.length == 0 && c.dstore.length == 3
    | _ => false) = true := by decide +kernel
/-- the whole of `enforce_constraints_fd` on the engine, query term `[x]`, hidden `y`: `x, y in 1..2, x != y` — ONE answer per
    value of `x` (the hidden `y` is labelled once, not enumerated) -/
example : (match postAllF Order.default (State.empty 2)
      [.dom x (.interval 1 2), .dom y (.interval 1 2), .cst (.diseqfd x y)] with
    | .ok c =>
      let r := runF (solveAt dfs0 60 3) 900 (solveAt dfs0 60 3 (enforceFd Order.default (Term.ofList [x])) c)
      r.length == 2 && r.all (fun b => b.dstore.length == 0 && b.store.length == 0)
    | _ => false) = true := by decide +kernel
/-- … and with hidden `y, z` that cannot be completed (three pairwise different variables over two values): NO answer -/
example : (match postAllF Order.default (State.empty 3)
      [.dom x (.interval 1 2), .dom y (.interval 1 2), .dom z (.interval 1 2),
       .cst (.diseqfd x y), .cst (.diseqfd y z), .cst (.diseqfd x z)] with
    | .ok c =>
      (runF (solveAt dfs0 60 3) 1500 (solveAt dfs0 60 3 (enforceFd Order.default (Term.ofList [x])) c)).length == 0
    | _ => false) = true := by decide +kernel
end Examples

/-- THE LIST OF ANSWER VALUES.  In the setting of `C17_assignments_bijection`, when no answer holds a tree disequality (FD
    programs without `!=`): the values `apply b.σ x` the answers report for the query term form a list WITHOUT DUPLICATES whose
    elements are exactly the values the query term takes under the valuations the start state describes. -/
theorem C17_answer_values {ord : Order} (ho : OrderOK ord) (dfs : Call → State → State × G) (pf M : Nat)
    (x : Term) (s : State) (N : Nat) (xs : List State) (hi : LInv s) (hp : s.panic = none) (hops : OpsOK s)
    (hdom : ∀ y ∈ (apply s.σ x).vars, (s.dget y).isSome)
    (h1 : evalRef dfs N (forceAns ord forceFuel x) s = some xs) (hall1 : ∀ c ∈ xs, c.panic = none)
    (NOf : State → Nat) (dsOf ysOf : State → List State)
    (hblk : ∀ c ∈ xs, c.allBound = true ∧ c.dstore.length < forceFuel ∧
      evalRef dfs (NOf c) (forceAns ord forceFuel (Term.ofList ((ord.ds c.dstore).map fun p => Term.var p.1))) c = some (dsOf c) ∧
      (∀ t ∈ dsOf c, t.panic = none) ∧
      drainF (solveAt dfs pf (M + 1)) pf
        (start dfs (solveAt dfs pf (M + 1)) pf
          (Goal.conjOfList [forceAns ord forceFuel (Term.ofList ((ord.ds c.dstore).map fun p => Term.var p.1))]) c) = some (ysOf c))
    (hnd : ∀ c ∈ xs, ∀ b, (ysOf c).head? = some b → b.store = []) :
    ∃ xs', xs.Perm xs' ∧
      AnsS (solveAt dfs pf (M + 2)) (solveAt dfs pf (M + 2) (enforceFd ord x) s) (xs'.flatMap fun c => ((ysOf c).head?).toList) ∧
      ((xs'.flatMap fun c => ((ysOf c).head?).toList).map fun b => apply b.σ x).Nodup ∧
      ∀ v, v ∈ ((xs'.flatMap fun c => ((ysOf c).head?).toList).map fun b => apply b.σ x) ↔ ∃ γ, Sem NoI γ s ∧ apply γ x = v := by
  obtain ⟨xs', px, ha, hval, hcov, hpw⟩ :=
    C17_assignments_bijection ho dfs pf M x s N xs hi hp hops hdom h1 hall1 NOf dsOf ysOf hblk
  obtain ⟨_, hk⟩ := enforce_blocks ho dfs pf M x s N xs hi hp hops h1 hall1 NOf dsOf ysOf hblk
  -- every answer describes its own substitution (it is closed and holds no disequality), and only valuations of the start state
  have hself : ∀ b ∈ xs'.flatMap (fun c => ((ysOf c).head?).toList), Sem NoI b.σ b ∧ ∀ γ, Sem NoI γ b → Sem NoI γ s := by
    intro b hbm
    obtain ⟨c, hc, hbc⟩ := List.mem_flatMap.1 hbm
    have hcx := px.mem_iff.2 hc
    have e : (ysOf c).head? = some b := Option.mem_toList.1 hbc
    obtain ⟨_, subc, hm, hds, _⟩ := hk c hcx
    obtain ⟨_, d1, _, wb, sub⟩ := hds b (hm b e)
    have hst : ∀ p ∈ b.store, CstSem b.σ p.2 := by rw [hnd c hcx b e]; exact fun _ h => nomatch h
    have hdm : DomSem NoI b.σ b := by unfold DomSem; rw [d1]; exact fun _ h => nomatch h
    exact ⟨⟨Ext.refl _ wb.solved, hst, hdm⟩, fun γ hγ => subc γ (sub γ hγ)⟩
  refine ⟨xs', px, ha, ?_, fun v => ⟨fun hv => ?_, fun ⟨γ, hγ, e⟩ => ?_⟩⟩
  · rw [List.nodup_iff_pairwise_ne, List.pairwise_map]
    exact hpw.imp_of_mem fun {a b} ha' hb' hab => hab a.σ b.σ (hself a ha').1 (hself b hb').1
  · obtain ⟨b, hbm, rfl⟩ := List.mem_map.1 hv
    exact ⟨b.σ, (hself b hbm).2 _ (hself b hbm).1, rfl⟩
  · obtain ⟨b, hbm, hsame⟩ := hcov γ hγ
    exact List.mem_map.2 ⟨b, hbm, by rw [hsame b.σ (hself b hbm).1, e]⟩

/-- C04 FOR FINITE-DOMAIN ANSWERS, per path, the combinatorial step: two duplicate-free value lists `V1`, `V2` that each hold
    exactly the values the query term takes under the valuations of `s1`, `s2` are PERMUTATIONS of each other when `s1` and
    `s2` describe the same valuations.  With `C17_answer_values` (which supplies such lists for the engine's answers) and
    `C04_fd_conj_comm` (the same conjuncts posted in two orders describe the same valuations): the multiset of answer
    values does not depend on the order of the conjuncts. -/
theorem C04_fd_answer_values_perm (x : Term) (s1 s2 : State) (V1 V2 : List Term)
    (hsem : ∀ γ, Sem NoI γ s1 ↔ Sem NoI γ s2)
    (n1 : V1.Nodup) (m1 : ∀ v, v ∈ V1 ↔ ∃ γ, Sem NoI γ s1 ∧ apply γ x = v)
    (n2 : V2.Nodup) (m2 : ∀ v, v ∈ V2 ↔ ∃ γ, Sem NoI γ s2 ∧ apply γ x = v) : V1.Perm V2 := by
  refine (List.perm_ext_iff_of_nodup n1 n2).2 fun v => ?_
  rw [m1 v, m2 v]
  exact ⟨fun ⟨γ, a, b⟩ => ⟨γ, (hsem γ).1 a, b⟩, fun ⟨γ, a, b⟩ => ⟨γ, (hsem γ).2 a, b⟩⟩

/-- C16 FOR THE ANSWERS `enforce_constraints_fd` ACTUALLY DELIVERS.  Post the atoms `as` (FD constraints, domains, `==`, `!=`;
    any order, aliasing, hash order) from the empty state, reaching `s`; run `enforce_constraints_fd` on the query term as in
    `C17_enforce_exactly_once`.  Every answer `b` that holds no tree disequality satisfies EVERY posted atom under its own
    substitution: each constrained variable is an integer of its domain and every constraint holds — for the states the
    engine really delivers (the labelling of the query term, then the first labelling of the hidden variables), not only
    for hypothetical closed states. -/
theorem C16_enforce_answers_sound {ord : Order} (ho : OrderOK ord) (dfs : Call → State → State × G) (pf M : Nat)
    (n : Nat) (as : List FAtom) (hok : ∀ a ∈ as, a.OK) (hnz : ∀ a ∈ as, a.NoZ)
    (x : Term) (s : State) (hs : postAllF ord (State.empty n) as = .ok s) (N : Nat) (xs : List State)
    (hp : s.panic = none) (hops : OpsOK s)
    (h1 : evalRef dfs N (forceAns ord forceFuel x) s = some xs) (hall1 : ∀ c ∈ xs, c.panic = none)
    (NOf : State → Nat) (dsOf ysOf : State → List State)
    (hblk : ∀ c ∈ xs, c.allBound = true ∧ c.dstore.length < forceFuel ∧
      evalRef dfs (NOf c) (forceAns ord forceFuel (Term.ofList ((ord.ds c.dstore).map fun p => Term.var p.1))) c = some (dsOf c) ∧
      (∀ t ∈ dsOf c, t.panic = none) ∧
      drainF (solveAt dfs pf (M + 1)) pf
        (start dfs (solveAt dfs pf (M + 1)) pf
          (Goal.conjOfList [forceAns ord forceFuel (Term.ofList ((ord.ds c.dstore).map fun p => Term.var p.1))]) c) = some (ysOf c)) :
    ∀ c ∈ xs, ∀ b, (ysOf c).head? = some b → b.store = [] → ∀ a ∈ as, a.Sat b.σ := by
  intro c hc b hb hst a ha
  have hi := linv_of_atoms ho n as hok hnz s hs
  obtain ⟨_, hk⟩ := enforce_blocks ho dfs pf M x s N xs hi hp hops h1 hall1 NOf dsOf ysOf hblk
  obtain ⟨rc, _, hm, hds, _⟩ := hk c hc
  obtain ⟨rb, d1, _⟩ := hds b (hm b hb)
  -- the answer is closed, and reached from the empty state by the atoms followed by labelling equalities
  obtain ⟨ls, hls⟩ := rc.trans rb
  have hall' : postAllF ord (State.empty n) (as ++ labelAtoms ls) = .ok b := by
    rw [postAllF_append', hs]; exact hls
  refine fd_closed ho n (as ++ labelAtoms ls) (fun a' ha' => ?_) b hall' hst d1 a (List.mem_append.2 (.inl ha))
  rcases List.mem_append.1 ha' with h | h
  · exact hok a' h
  · simp only [labelAtoms, List.mem_map] at h
    obtain ⟨p, _, rfl⟩ := h
    trivial

/-! ### Non-vacuity of the end-to-end theorems: every hypothesis of `C17_assignments_bijection` holds on a concrete program -/
section NonVacuity
private def nvDfs : Call → State → State × G := fun _ a => (a, .fail)
private def nvX : Term := .var 0
private def nvY : Term := .var 1
private def nvAtoms : List FAtom := [.dom nvX (.interval 1 2), .dom nvY (.interval 1 2), .cst (.diseqfd nvX nvY)]
private def nvKeys (c : State) : Term := Term.ofList ((Order.default.ds c.dstore).map fun p => Term.var p.1)
private def nvQ : Term := Term.ofList [nvX]
private def nvDsOf (c : State) : List State := (evalRef nvDfs 40 (forceAns Order.default forceFuel (nvKeys c)) c).getD []
private def nvYsOf (c : State) : List State :=
  (drainF (solveAt nvDfs 30 2) 30 (start nvDfs (solveAt nvDfs 30 2) 30
    (Goal.conjOfList [forceAns Order.default forceFuel (nvKeys c)]) c)).getD []

private def nvBlockOK (c : State) : Bool :=
  c.panic.isNone && c.allBound && decide (c.dstore.length < forceFuel) &&
  (match evalRef nvDfs 40 (forceAns Order.default forceFuel (nvKeys c)) c with
   | some ds => ds.all (·.panic.isNone)
   | none => false) &&
  (drainF (solveAt nvDfs 30 2) 30 (start nvDfs (solveAt nvDfs 30 2) 30
    (Goal.conjOfList [forceAns Order.default forceFuel (nvKeys c)]) c)).isSome &&
  (match (nvYsOf c).head? with | some b => b.store.isEmpty | none => true)

private def nvStateOK (s : State) : Bool :=
  s.panic.isNone && s.allBound &&
  (s.store.all fun p => p.2.isDiseq || (operandsOf p.2).all fun u => (walk s.σ u).isVar || (walk s.σ u).isNum) &&
  ((apply s.σ nvQ).vars.all fun v => (s.dget v).isSome)

/-- every Boolean side condition of `C17_assignments_bijection`, computed on the concrete program -/
private def nvSideOK : Bool :=
  match postAllF Order.default (State.empty 2) nvAtoms with
  | .ok s =>
    nvStateOK s &&
    (match evalRef nvDfs 40 (forceAns Order.default forceFuel nvQ) s with
     | some xs => xs.all nvBlockOK
     | none => false)
  | _ => false

private theorem nvSideOK_true : nvSideOK = true := by decide +kernel

private theorem nvOrderOK : OrderOK Order.default := orderOK_default

/-- NON-VACUITY of `C17_assignments_bijection`: ALL its hypotheses hold for `x, y in 1..2, x != y`, query term `[x]` -/
example : ∃ (s : State) (xs xs' : List State), postAllF Order.default (State.empty 2) nvAtoms = .ok s ∧ xs.Perm xs' ∧
    AnsS (solveAt nvDfs 30 3) (solveAt nvDfs 30 3 (enforceFd Order.default nvQ) s) (xs'.flatMap fun c => ((nvYsOf c).head?).toList) ∧
    (xs'.flatMap fun c => ((nvYsOf c).head?).toList).Pairwise
      (fun a b => ∀ γa γb, Sem NoI γa a → Sem NoI γb b → apply γa nvQ ≠ apply γb nvQ) := by
  have hside := nvSideOK_true
  unfold nvSideOK at hside
  split at hside
  · rename_i s h1
    simp only [Bool.and_eq_true] at hside
    obtain ⟨hst, hrest⟩ := hside
    split at hrest
    · rename_i xs h2
      have hxs := List.all_eq_true.1 hrest
      unfold nvStateOK at hst
      simp only [Bool.and_eq_true] at hst
      obtain ⟨⟨⟨hp, hab⟩, hkind⟩, hdom⟩ := hst
      have hok : ∀ a ∈ nvAtoms, a.OK := by
        intro a ha
        simp only [nvAtoms, List.mem_cons, List.mem_nil_iff, or_false] at ha
        rcases ha with rfl | rfl | rfl
        · show (1 : Int) ≤ 2; decide
        · show (1 : Int) ≤ 2; decide
        · trivial
      have hnz : ∀ a ∈ nvAtoms, a.NoZ := by
        intro a ha
        simp only [nvAtoms, List.mem_cons, List.mem_nil_iff, or_false] at ha
        rcases ha with rfl | rfl | rfl <;> first | trivial | rfl
      have hi := linv_of_atoms nvOrderOK 2 nvAtoms hok hnz s h1
      have hpn : s.panic = none := Option.isNone_iff_eq_none.1 hp
      have hops : OpsOK s := C17_opsOK_of_allBound s hab hi.z (kindCheck_spec hkind)
      have hdom' : ∀ v ∈ (apply s.σ nvQ).vars, (s.dget v).isSome := fun v hv => (List.all_eq_true.1 hdom) v hv
      have hblk : ∀ c ∈ xs, c.panic = none ∧ BlockHyp Order.default nvDfs 30 1 40 c (nvDsOf c) (nvYsOf c) := fun c hc => by
        have hb := hxs c hc
        unfold nvBlockOK at hb
        exact blockCheck_spec (Bool.and_eq_true_iff.1 hb).1
      obtain ⟨xs', px, ha, _, _, hpw⟩ := C17_assignments_bijection nvOrderOK nvDfs 30 1 nvQ s 40 xs hi hpn hops hdom' h2
        (fun c hc => (hblk c hc).1) (fun _ => 40) nvDsOf nvYsOf (fun c hc => (hblk c hc).2)
      -- … and `C17_answer_values`: no answer holds a tree disequality
      have hnd : ∀ c ∈ xs, ∀ b, (nvYsOf c).head? = some b → b.store = [] := by
        intro c hc b hb
        have hbk := hxs c hc
        unfold nvBlockOK at hbk
        have h6 := (Bool.and_eq_true_iff.1 hbk).2
        rw [hb] at h6
        exact List.isEmpty_iff.1 h6
      obtain ⟨_, _, _, hnodup, _⟩ := C17_answer_values nvOrderOK nvDfs 30 1 nvQ s 40 xs hi hpn hops hdom' h2
        (fun c hc => (hblk c hc).1) (fun _ => 40) nvDsOf nvYsOf (fun c hc => (hblk c hc).2) hnd
      exact ⟨s, xs, xs', h1, px, ha, hpw⟩
    · cases hrest
  · cases hside
private def nv2Atoms : List FAtom :=
  [.dom (.var 0) (.interval 1 3), .dom (.var 1) (.interval 1 3), .dom (.var 2) (.interval 4 4), .cst (.plusfd (.var 0) (.var 1) (.var 2))]

private def nv2Side : Bool :=
  match postAllF Order.default (State.empty 3) nv2Atoms with
  | .ok st =>
    st.allBound &&
    (st.store.all fun p => p.2.isDiseq || (operandsOf p.2).all fun u => (walk st.σ u).isVar || (walk st.σ u).isNum) &&
    (match postAllF Order.default st (labelAtoms [(3, 0)]) with
     | .ok st' => (st.dstore.all fun p => st'.σ p.1 != .var p.1) && st'.store.isEmpty
     | _ => false)
  | _ => false

private theorem nv2Side_true : nv2Side = true := by decide +kernel

/-- NON-VACUITY of `C16_labelled_answer_sound`: all hypotheses hold for `x, y in 1..3, z in 4..4, x + y = z` labelled with `3 == x`;
    the conclusion: every atom and the labelling equality hold under the answer's own substitution -/
example : ∃ st st', postAllF Order.default (State.empty 3) nv2Atoms = .ok st ∧
    postAllF Order.default st (labelAtoms [(3, 0)]) = .ok st' ∧ st'.dstore = [] ∧
    ∀ a ∈ nv2Atoms ++ labelAtoms [(3, 0)], a.Sat st'.σ := by
  have hside := nv2Side_true
  unfold nv2Side at hside
  split at hside
  · rename_i st h1
    simp only [Bool.and_eq_true] at hside
    obtain ⟨⟨hab, hkind⟩, hrest⟩ := hside
    split at hrest
    · rename_i st' h2
      simp only [Bool.and_eq_true] at hrest
      obtain ⟨hbound, hempty⟩ := hrest
      have hok : ∀ a ∈ nv2Atoms, a.OK := by
        intro a ha
        simp only [nv2Atoms, List.mem_cons, List.mem_nil_iff, or_false] at ha
        rcases ha with rfl | rfl | rfl | rfl
        · show (1 : Int) ≤ 3; decide
        · show (1 : Int) ≤ 3; decide
        · show (4 : Int) ≤ 4; decide
        · trivial
      have hnz : ∀ a ∈ nv2Atoms, a.NoZ := by
        intro a ha
        simp only [nv2Atoms, List.mem_cons, List.mem_nil_iff, or_false] at ha
        rcases ha with rfl | rfl | rfl | rfl <;> first | trivial | rfl
      have hi := linv_of_atoms nvOrderOK 3 nv2Atoms hok hnz st h1
      have hops : OpsOK st := C17_opsOK_of_allBound st hab hi.z (kindCheck_spec hkind)
      have hall : ∀ y, (st.dget y).isSome → st'.σ y ≠ .var y := by
        intro y hy
        obtain ⟨q, hq, e⟩ := dget_isSome_iff.1 hy
        have := (List.all_eq_true.1 hbound) q hq
        rw [e] at this
        simpa using this
      obtain ⟨c1, _, c3⟩ := C16_labelled_answer_sound nvOrderOK 3 nv2Atoms hok hnz [(3, 0)] st st' h1 hops h2 hall
      exact ⟨st, st', h1, h2, c1, c3 (List.isEmpty_iff.1 hempty)⟩
    · cases hrest
  · cases hside
end NonVacuity

end Strict
end Pv
