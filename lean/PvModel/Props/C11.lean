/-
  C11 — `project` sees the current value of projected variables in every branch.

  Model of the INTENDED semantics (`projectG`): when a state reaches `project |x..| { body }`, the body is
  the body text with every projected variable standing for `apply st.σ x` — the fully walked value in THAT
  state — and it is solved at once on that state (`Project::solve` walks*, then `self.body.solve`).  In the
  model this is a `dyn` goal: a function of the reaching state only, so every reaching state, in every
  branch, however late it is resumed, gets its own values.

  The IMPLEMENTATION realises this with one shared projection cell per variable that the first reaching
  state overwrites in place (an `unsafe` write); a second reaching state finds the cell already overwritten
  and panics (`src/lterm.rs:143`).  That is KNOWN FINDING D16: recorded, not repaired (the repair changes
  how `Project` receives its body — a per-solve closure — and is not a small patch).  The theorems below are
  about the intended semantics; `C11_once_partial` is the statement the implementation meets: programs in
  which at most one state reaches each project goal (checked by the correspondence), and the model/oracle
  pair reports any OTHER deviation (wrong value, different panic) as a new violation.
-/
import PvModel.Proofs.Stream
import PvModel.Model.Goals
import PvModel.Proofs.Unify
namespace Pv
open Goal Strm

/-- `project |x..| { body }` with the body given as a function of the projected values -/
def projectG (xs : List Term) (body : List Term → G) : G :=
  .dyn id (fun st => body (xs.map (apply st.σ)))

/-- the body runs, at once, on the reaching state, with every projected variable standing for its fully
    walked value in THAT state -/
theorem C11_current_value (defs : Call → State → State × G) (top : G → State → Strm State Call) (pf : Nat)
    (xs : List Term) (body : List Term → G) (st : State) :
    start defs top pf (projectG xs body) st = start defs top pf (body (xs.map (apply st.σ))) st := by
  simp only [projectG, start, id]

/-- every state that reaches the goal gets ITS OWN values: `C11_current_value` at each of two reaching states,
    each body instantiated from that state's bindings -/
theorem C11_every_state (defs : Call → State → State × G) (top : G → State → Strm State Call) (pf : Nat)
    (xs : List Term) (body : List Term → G) (s1 s2 : State) :
    start defs top pf (projectG xs body) s1 = start defs top pf (body (xs.map (apply s1.σ))) s1 ∧
    start defs top pf (projectG xs body) s2 = start defs top pf (body (xs.map (apply s2.σ))) s2 :=
  ⟨C11_current_value defs top pf xs body s1, C11_current_value defs top pf xs body s2⟩

/-- the projected value is the FULLY walked one: a variable nested inside the value that is bound in the
    reaching state is replaced by its binding (walk*, not walk) -/
theorem C11_walk_star (σ : Subst) (hs : Solved σ) (t : Term) : apply σ (apply σ t) = apply σ t :=
  apply_apply_solved hs t

/-- resumed later: a paused project goal is stepped with the state it was paused with — the value it sees
    does not depend on what other branches did in between -/
theorem C11_resumed (defs : Call → State → State × G) (pf M : Nat) (xs : List Term) (body : List Term → G) (st : State) :
    step (solveAt defs pf (M + 1)) (.pause st (projectG xs body))
      = start defs (solveAt defs pf M) pf (body (xs.map (apply st.σ))) st := by
  simp only [step, solveAt, projectG, start, id]

/-- PARTIAL (what the implementation meets, D16): when the project goal is reached by one state, the
    answers are those of the body instantiated with that state's values -/
theorem C11_once_partial (defs : Call → State → State × G) (top : G → State → Strm State Call) (pf : Nat)
    (xs : List Term) (body : List Term → G) (st : State) (ys : List State)
    (h : AnsS top (start defs top pf (body (xs.map (apply st.σ))) st) ys) :
    AnsS top (start defs top pf (projectG xs body) st) ys := by
  rw [C11_current_value]; exact h

section Examples
open Term
private def o : Order := Order.default
/-- `x == [a, b], a == 2, b == 3, project |x| { isground(x), q == x }`: the body sees `[2, 3]` -/
example : (match (((State.unify o (State.empty 4) (.var 1) (.cons (.var 2) (.cons (.var 3) .nil))).bind fun st =>
      State.unify o st (.var 2) (num 2)).bind fun st => State.unify o st (.var 3) (num 3)) with
    | .ok st => apply st.σ (.var 1) == .cons (num 2) (.cons (num 3) .nil) | _ => false) = true := by decide
end Examples

end Pv
