/-
  C02 / C03 — THE SEMANTIC ANSWER of every state the engine delivers for a program WITH RELATION CALLS: its
  disequalities are in normal form, it is satisfiable, and the tuples the query terms take under the valuations it
  describes are exactly the instances of the WALKED query terms under the assignments that satisfy the stored
  disequalities over the variables of those walked terms (disequalities that mention a hidden variable never
  exclude an instance).
-/
import PvModel.Proofs.RelNoPanic
import PvModel.Proofs.RelProgram
import PvModel.Props.C02Decide
import PvModel.Proofs.Scoped
namespace Pv
open Strm Goal State Term

section
attribute [local instance] Mode.strict
variable {ord : Order}

/-- atoms that are `==` or `!=` -/
def TreeAtom : FAtom → Prop
  | .eq _ _ => True
  | .neq _ _ => True
  | _ => False

def GD' (a : State) : Prop := a.panic.isSome = true ∨ (Good a ∧ DNF a)

theorem liftRes_poisoned_or {f : State → Res State} {P : State → Prop} {a b : State}
    (hf : ∀ s, P a → f a = .ok s → P s) (h : liftRes f a = some b) (ha : a.panic.isSome = true ∨ P a) :
    b.panic.isSome = true ∨ P b := by
  rcases liftRes_cases h with ⟨hp, rfl⟩ | ⟨hp, hr | ⟨-, rfl⟩ | ⟨s, -, rfl⟩⟩
  · exact .inl hp
  · exact .inr (hf b (ha.resolve_left fun x => by rw [hp] at x; cases x) hr)
  · exact .inl rfl
  · exact .inl rfl

theorem gd_atom (ho : OrderOK ord) (t : FAtom) (ht : TreeAtom t) (a b : State)
    (h : (liftRes fun st => postF ord st t) a = some b) (ha : GD' a) : GD' b := by
  refine liftRes_poisoned_or (P := fun s => Good s ∧ DNF s) (fun s ⟨hg, hd⟩ hr => ?_) h ha
  cases t with
  | eq u v => exact ⟨(postAtom_ok ord ho a s (.eq u v) hg hr).1, postAtom_dnf ho (.eq u v) hg hd hr⟩
  | neq u v => exact ⟨(postAtom_ok ord ho a s (.neq u v) hg hr).1, postAtom_dnf ho (.neq u v) hg hd hr⟩
  | cst c => exact ht.elim
  | dom x d => exact ht.elim

theorem rprog_npg : ∀ (p : RProg) {m : Nat}, p.WF m → NPG' ord TreeAtom (p.goal ord)
  | .succeed, _, _ => .succeed
  | .fail, _, _ => .fail
  | .atom (.eq u v), _, _ => NPG'.atom (t := .eq u v) trivial
  | .atom (.neq u v), _, _ => NPG'.atom (t := .neq u v) trivial
  | .conj p q, _, w => .conj (rprog_npg p w.1) (rprog_npg q w.2)
  | .alt p q, _, w => .alt (rprog_npg p w.1) (rprog_npg q w.2)
  | .fresh p, m, w => .fresh (rprog_npg p (m := m) w)
  | .call _, _, w => .call w.1

end

/-- NORMAL FORM AND SATISFIABILITY of every delivered state: a program of `==`, `!=`, conjunction, conde, fresh and
    library relation calls, from the empty state — every unpoisoned state in the engine's stream is good, every
    disequality it stores has a pair `(x, t)` with `x` unbound, `t` normal and `x ∉ t`, and it describes a GROUND
    valuation (so: an answer is never an empty promise) -/
theorem C02_rel_state_normal (ord : Order) (ho : OrderOK ord) (pf M j nv : Nat) (p : RProg) (w : p.WF nv) (b : State)
    (hm : MemS (solveAt (defs ord) pf (M + 1)) b (solveAt (defs ord) pf j (p.goal ord) (State.empty nv)))
    (hp : b.panic.isSome = false) :
    Good b ∧ DNF b ∧ ∃ γ : Subst, StateSem γ b ∧ ∀ t : Term, (apply γ t).vars = [] := by
  obtain ⟨n, hn⟩ := (mem_iff_big (defs_plain ord) pf M j (p.plain ord) _ b).1 hm
  have := big_invariant (ord := ord) (A := TreeAtom) (fun _ _ => ⟨trivial, trivial⟩) GD'
    (fun t ht a b h ha => gd_atom ho t ht a b h ha) (fun a k h => h) n _ _ b hn (rprog_npg p w)
    (.inr ⟨good_empty nv, fun q hq => nomatch hq⟩)
  rcases this with x | ⟨hg, hd⟩
  · rw [hp] at x; cases x
  · exact ⟨hg, hd, dnf_sat hg.1 hd⟩

/-- the tuples that query terms `qs` take under the valuations a state with a solved substitution and disequalities in
    normal form describes are the instances of the walked terms under the assignments that satisfy the disequalities over
    the walked terms' variables -/
theorem answer_instances {b : State} (hs : Solved b.σ) (hd : DNF b) (qs ts : List Term) :
    (∃ γ : Subst, StateSem γ b ∧ ts = qs.map (apply γ)) ↔
    (∃ θ : Subst,
      (∀ q ∈ b.store, ∀ ps, q.2 = .diseq ps →
        (∀ y ∈ diseqVars ps, y ∈ qs.flatMap fun q => (apply b.σ q).vars) → DiseqHolds θ ps) ∧
      ts = qs.map fun q => apply θ (apply b.σ q)) := by
  constructor
  · rintro ⟨γ, hsem, rfl⟩
    exact ⟨γ, fun q hq ps he _ => hsem.2 q hq ps he, List.map_congr_left fun q _ => (hsem.1 q).symm⟩
  · rintro ⟨θ, hvis, rfl⟩
    obtain ⟨γ, hsem, hag⟩ := dnf_project hs hd _ θ hvis
    refine ⟨γ, hsem, List.map_congr_left fun q hq => ?_⟩
    rw [← hsem.1 q]
    symm
    refine apply_agree fun y hy => ?_
    have hyV : y ∈ qs.flatMap fun q => (apply b.σ q).vars := List.mem_flatMap.2 ⟨q, hq, hy⟩
    exact hag y hyV (normal_vars _ (apply_apply_solved hs q) y hy)

/-- ANSWER INSTANCES for programs with relation calls: for an unpoisoned state `b` of the stream and any query terms
    `qs`, the tuples `qs` takes under the valuations `b` describes — all of them solutions of the program
    (`C04_rel_program_exact`) — are exactly the instances of the walked query terms under the assignments that satisfy
    the stored disequalities over the variables of those walked terms -/
theorem C02_rel_answer_instances (ord : Order) (ho : OrderOK ord) (pf M j nv : Nat) (p : RProg) (w : p.WF nv) (b : State)
    (hm : MemS (solveAt (defs ord) pf (M + 1)) b (solveAt (defs ord) pf j (p.goal ord) (State.empty nv)))
    (hp : b.panic.isSome = false) (qs ts : List Term) :
    (∃ γ : Subst, StateSem γ b ∧ p.Sem γ ∧ ts = qs.map (apply γ)) ↔
    (∃ θ : Subst,
      (∀ q ∈ b.store, ∀ ps, q.2 = .diseq ps →
        (∀ y ∈ diseqVars ps, y ∈ qs.flatMap fun q => (apply b.σ q).vars) → DiseqHolds θ ps) ∧
      ts = qs.map fun q => apply θ (apply b.σ q)) := by
  obtain ⟨hg, hd, _⟩ := C02_rel_state_normal ord ho pf M j nv p w b hm hp
  rw [← answer_instances hg.1 hd]
  exact exists_congr fun γ => ⟨fun h => ⟨h.1, h.2.2⟩, fun h => ⟨h.1, prog_sound ho pf M j nv p b hm hp γ h.1, h.2⟩⟩

section Examples
/-- non-vacuity: `x != 1, member(x, y)` is a well-formed program over two variables -/
example : (RProg.conj (.atom (.neq (.var 0) (Term.num 1))) (.call ⟨.member, [.var 0, .var 1], false⟩)).WF 2 := by
  simp only [RProg.WF, Call.Valid, List.forall_mem_cons, List.not_mem_nil, false_imp_iff, implies_true,
    Term.num, below_var_iff, below_val, and_true, true_and]
  decide
end Examples

end Pv
