/-
  C20 — Compound terms unify, constrain, reify and label structurally.

  Model: `Term.comp tag args` (a `#[compound]` struct / Rust tuple / `Some`; `tag` = its type, `args` = its
  fields as a cons-list so that `Term` is not a nested inductive), `unifyF` (`unify_rec_compound`: same
  type, fields pairwise), `apply` (`compound_walk_star`), `occurs` (`occurs_check_compound`), `Term.vars` /
  `anyvars` (variables inside compound terms count: finding D9), `forceAns` (`force_ans`, which labels the
  variables inside compound terms too: finding D15).
  Theorems hold for ALL tags, fields, substitutions and fuel.
-/
import PvModel.Props.C01
import PvModel.Props.C03
namespace Pv
open Term

/-- two compounds (after walking) unify exactly like their field lists when they have the same type, and
    never when their types differ -/
theorem C20_unify_comp (n : Nat) (σ : Subst) (e : Ext1) (u v : Term) (g1 g2 : Nat) (a1 a2 : Term)
    (hu : walk σ u = .comp g1 a1) (hv : walk σ v = .comp g2 a2) :
    unifyF (n + 1) σ e u v = if g1 = g2 then unifyF n σ e a1 a2 else some none :=
  unifyF_comp hu hv

/-- the fields are unified pairwise, left to right, each under the bindings made by the previous ones -/
theorem C20_unify_fields (n : Nat) (σ : Subst) (e : Ext1) (h1 t1 h2 t2 : Term) :
    unifyF (n + 1) σ e (.cons h1 t1) (.cons h2 t2) =
      match unifyF n σ e h1 h2 with
      | some (some (σ1, e1)) => unifyF n σ1 e1 t1 t2
      | r => r :=
  unifyF_cons rfl rfl

/-- a compound never unifies with a list, `[]` or a literal (in either orientation) -/
theorem C20_never (n : Nat) (σ : Subst) (e : Ext1) (u v : Term) (g : Nat) (a : Term)
    (hu : walk σ u = .comp g a)
    (hv : (∃ h t, walk σ v = .cons h t) ∨ walk σ v = .nil ∨ ∃ l, walk σ v = .val l) :
    unifyF (n + 1) σ e u v = some none ∧ unifyF (n + 1) σ e v u = some none := by
  rcases hv with ⟨h, t, hv⟩ | hv | ⟨l, hv⟩ <;> simp only [unifyF, hu, hv, and_self]

/-- a variable against a compound: bound, with the occurs check looking INSIDE the fields -/
theorem C20_bind (n : Nat) (σ : Subst) (e : Ext1) (u v : Term) (x g : Nat) (a : Term)
    (hu : walk σ u = .var x) (hv : walk σ v = .comp g a) :
    unifyF (n + 1) σ e u v =
      if occurs x (apply σ a) then some none
      else some (some (bindS x (.comp g (apply σ a)) σ, (x, .comp g (apply σ a)) :: e)) := by
  simp only [unifyF, hu, hv, apply, occurs]

/-- walk*, occurs check, variable collection and `anyvars` treat the fields exactly as list elements: each is so
    defined in the model -/
theorem C20_structural (σ : Subst) (x g : Nat) (a : Term) :
    apply σ (.comp g a) = .comp g (apply σ a) ∧
    occurs x (.comp g a) = occurs x a ∧
    (Term.comp g a).vars = a.vars ∧
    anyvars (.comp g a) = anyvars a := ⟨rfl, rfl, rfl, rfl⟩

/-- labelling: `force_ans` on a compound labels its TERM fields, like the elements of a list (D15); a field that
    is not a term — an `Option` object — contributes its children instead
    (`compound_fields`) -/
theorem C20_force (ord : Order) (n g : Nat) (a : Term) (st : State) (hp : st.panic = none)
    :
    ∃ fs fg, forceAns ord (n + 1) (.comp g a) = .dyn fs fg ∧
      fg st = Goal.conjOfList ((compFields a).map (forceAns ord n)) := by
  refine ⟨_, _, rfl, ?_⟩
  simp only [hp, Option.isSome_none, Bool.false_eq_true, if_false, walk]

/-- without `Option` fields the labelled fields are exactly the children -/
theorem C20_force_fields (a : Term) (h : ∀ item ∈ a.iterItems, ∀ k, item ≠ .comp 4 k) :
    compFields a = a.iterItems := by
  unfold compFields
  generalize a.iterItems = l at h
  induction l with
  | nil => rfl
  | cons x xs ih =>
    simp only [List.flatMap_cons]
    rw [ih fun item hi => h item (List.mem_cons_of_mem _ hi)]
    have hx := h x (List.mem_cons_self ..)
    split
    · rename_i k; exact absurd rfl (hx k)
    · rfl

section Examples
/-- `Slot(Some(p), t)` is labelled through `p, t`; `Slot(None, t)` through `t` -/
example : compFields (.cons (.comp 4 (.cons (.var 0) .nil)) (.cons (.var 3) .nil)) = [.var 0, .var 3] := by decide
example : compFields (.cons (.comp 4 .nil) (.cons (.var 3) .nil)) = [.var 3] := by decide
private def pair (a b : Term) : Term := .comp 0 (.cons a (.cons b .nil))
private def named (a b : Term) : Term := .comp 2 (.cons a (.cons b .nil))
example : (match unifyF 20 Subst.id [] (pair (.var 0) (num 2)) (pair (num 1) (.var 1)) with
    | some (some (σ, _)) => σ 0 == num 1 && σ 1 == num 2 | _ => false) = true := by decide
example : (match unifyF 20 Subst.id [] (pair (num 1) (num 2)) (named (num 1) (num 2)) with | some none => true | _ => false) = true := by decide
example : (match unifyF 20 Subst.id [] (pair (.var 0) (num 2)) (.cons (.var 0) (.cons (num 2) .nil)) with | some none => true | _ => false) = true := by decide
/-- occurs check through a nested compound -/
example : (match unifyF 20 Subst.id [] (.var 0) (named (num 1) (pair (.var 0) (num 2))) with | some none => true | _ => false) = true := by decide
/-- an `Option` field is a compound object with one child (`Some`) or none (`None`), of ONE type: `Some(x)` never
    unifies with `None` (the children lists have different lengths), inside a struct as well — and the occurs
    check goes through it -/
private def optSome (x : Term) : Term := .comp 4 (.cons x .nil)
private def optNone : Term := .comp 4 .nil
private def slot (o t : Term) : Term := .comp 3 (.cons o (.cons t .nil))
example : (match unifyF 20 Subst.id [] (optSome (.var 0)) optNone with | some none => true | _ => false) = true := by decide
example : (match unifyF 20 Subst.id [] (slot (optSome (pair (.var 0) (num 1))) (num 7)) (slot optNone (num 7)) with
    | some none => true | _ => false) = true := by decide
example : (match unifyF 20 Subst.id [] (slot (optSome (pair (.var 0) (num 1))) (.var 1)) (slot (optSome (pair (num 5) (.var 2))) (num 7)) with
    | some (some (σ, _)) => σ 0 == num 5 && σ 1 == num 7 && σ 2 == num 1 | _ => false) = true := by decide
example : (match unifyF 20 Subst.id [] (.var 0) (slot (optSome (pair (.var 0) (num 1))) (num 7)) with | some none => true | _ => false) = true := by decide
end Examples

end Pv
