/-
  C15 — Fresh variables are distinct and renaming-invariant.

  Model: Model/Surface.lean — the macro translation `elabG`, with the variable counter behind `VarID::new`
  made explicit: every `|x| { }` binder, every distinct name of a pattern arm and every `_` takes the
  next id.  (Closure bodies are elaborated when the goal is solved: each unfolding of a relation draws new
  ids from the state's counter — `defs`/`relBody` in Model/Goals.lean — so different invocations never
  share variables.)  PARTIAL: the global `AtomicUsize` itself is trusted.
-/
import PvModel.Proofs.Surface
import PvModel.Model.Goals
namespace Pv
namespace Surface

/-- FRESH: elaborating any clause from counter `n` returns a counter `n' ≥ n`, and every variable of the
    result is the image of a name that was in scope or an id in `[n, n')` allocated by this elaboration:
    nothing outside the clause can already mention the variables it introduces. -/
theorem C15_fresh (g : SGoal) (env : Env) (n : Nat) (e : EGoal) (n' : Nat) (h : elabG env g n = (e, n')) :
    n ≤ n' ∧ ∀ v ∈ e.vars, (∃ x, v = env x) ∨ (n ≤ v ∧ v < n') := by
  have hs := elabG_scope g env n
  rw [h] at hs
  exact ⟨hs.1, fun v hv => (hs.2 v hv).imp_left fun ⟨x, _, e⟩ => ⟨x, e⟩⟩

/-- … so when the names in scope map below the counter, everything the clause mentions is below the new counter -/
theorem C15_below (g : SGoal) (env : Env) (n : Nat) (e : EGoal) (n' : Nat) (h : elabG env g n = (e, n'))
    (henv : ∀ x, env x < n) : ∀ v ∈ e.vars, v < n' := by
  have hs := elabG_scope g env n
  rw [h] at hs
  exact hs.below fun x _ => henv x

/-- same-named binders in nested scopes are different variables; the inner one shadows the outer one -/
theorem C15_shadow (env : Env) (x : Name) (n : Nat) :
    (elabG env (.fresh x (.fresh x (.eq (.var x) (.var x)))) n).1
      = .fresh (.fresh (.eq (.var (n + 1)) (.var (n + 1)))) := by
  simp [elabG, elabT, Env.bind]

/-- same-named binders in sibling scopes (two clauses, two arms) are different variables -/
theorem C15_siblings (env : Env) (x : Name) (n : Nat) :
    (elabG env (.disj (.fresh x (.eq (.var x) .nil)) (.fresh x (.eq (.var x) .nil))) n).1
      = .disj (.fresh (.eq (.var n) .nil)) (.fresh (.eq (.var (n + 1)) .nil)) := by
  simp [elabG, elabT, Env.bind]

/-- RENAMING-INVARIANT: consistently renaming a bound variable (to a name that occurs nowhere in the
    clause) gives LITERALLY the same elaborated goal and the same counter — the elaborated goal contains
    variable ids, no names — hence the same answers. -/
theorem C15_alpha (g : SGoal) (env : Env) (x z : Name) (n : Nat) (hz : z ∉ g.allNames) :
    elabG env (.fresh z (g.rename x z)) n = elabG env (.fresh x g) n := by
  rw [elabG_fresh, elabG_fresh, elabG_rename g env x z n (n + 1) hz]

/-- … for pattern variables of a match arm too (renaming a pattern variable together with its uses in
    the arm body is renaming under the binder; stated for the body) -/
theorem C15_alpha_body (g : SGoal) (env : Env) (x z : Name) (k n : Nat) (hz : z ∉ g.allNames) :
    elabG (env.bind z k) (g.rename x z) n = elabG (env.bind x k) g n := elabG_rename g env x z k n hz

/-- different invocations of a relation: each call of a library relation draws its pattern variables from
    the state's counter, which it advances — two unfoldings never share a variable -/
theorem C15_invocations (ord : Order) (c : Call) (st : State) :
    (defs ord c st).1.nextVar = st.nextVar + (relBody ord c st.nextVar).1 := by
  simp only [defs]

section Examples
example : (elabG (fun _ => 0) (.mtch (.var 7) (.cons (.var 7) (.cons (.var 7) .any)) (.eq (.var 7) .nil) .ff) 1).1
    = .disj (.conj (.eq (.var 0) (.cons (.var 1) (.cons (.var 1) (.var 2)))) (.eq (.var 1) .nil)) .fail := by decide +kernel
end Examples

end Surface
end Pv
