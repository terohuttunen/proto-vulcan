/-
  C09 — DETERMINISTIC across hash seeds at the level of the whole answer SEQUENCE, for programs WITH RELATION CALLS.
-/
import PvModel.Proofs.TreeOrder2
import PvModel.Props.C09Sequence
namespace Pv
open Strm Goal State Term

-- The bound proofs of `xs[i]` in the statement are found by `assumption`, which tries `h'` first and, with `defs`
-- reducible, unfolds both relation tables before it sees that the two runs differ.
attribute [local irreducible] defs in
/-- any program of `==`, `!=`, conjunction, `conde`, fresh and interleaving calls of member / member1 / append /
    rember / permute / distinct (any nesting; recursion with infinitely many answers included), any two
    iteration orders of the hash-based constraint store (two processes with different hash seeds), any nesting
    level of the solver: within ANY number `n` of engine steps the two runs deliver THE SAME NUMBER OF ANSWERS IN
    THE SAME ORDER, position by position with the same substitution (hence the same reified terms), the same
    described valuations (equivalent constraint sets) and the same fresh-variable counter — or one of the two
    runs exhausted the model's unification fuel, which leaves a FUEL-poisoned state in that run's stream. -/
theorem C09_sequence_order_free_rel {ord ord' : Order} (ho : OrderOK ord) (ho' : OrderOK ord') (pf M nv : Nat)
    (p : RProg) (w : p.WF nv) (hi : p.Inter) (n : Nat) :
    let xs := runF (solveAt (defs ord) pf (M + 1)) n (solveAt (defs ord) pf (M + 1) (p.goal ord) (State.empty nv))
    let xs' := runF (solveAt (defs ord') pf (M + 1)) n (solveAt (defs ord') pf (M + 1) (p.goal ord') (State.empty nv))
    (xs.length = xs'.length ∧ ∀ (i : Nat) (h : i < xs.length) (h' : i < xs'.length),
        xs[i].σ = xs'[i].σ ∧ xs[i].nextVar = xs'[i].nextVar ∧ ∀ γ, StateSem γ xs[i] ↔ StateSem γ xs'[i]) ∨
      ∃ s, s.panic.isSome = true ∧
        (MemS (solveAt (defs ord) pf (M + 1)) s (solveAt (defs ord) pf (M + 1) (p.goal ord) (State.empty nv)) ∨
         MemS (solveAt (defs ord') pf (M + 1)) s (solveAt (defs ord') pf (M + 1) (p.goal ord') (State.empty nv))) := by
  intro xs xs'
  rcases rel_sequence_order_free ho ho' pf M nv p w hi n with pw | b
  · exact .inl ⟨pw.length, fun i h h' => ⟨(pw.get i h h').tr.sig, (pw.get i h h').nv, (pw.get i h h').tr.sem⟩⟩
  · exact .inr b

section Examples
/-- non-vacuity: `x != 1, append(y, z, [1, 2]), member(x, y)` -/
private def prog09r : RProg :=
  .conj (.atom (.neq (.var 0) (Term.num 1)))
    (.conj (.call ⟨.append, [.var 1, .var 2, ofList [Term.num 1, Term.num 2]], false⟩) (.call ⟨.member, [.var 0, .var 1], false⟩))
example : prog09r.Inter := ⟨trivial, rfl, rfl⟩
example : prog09r.WF 3 := by
  refine ⟨⟨?_, ?_⟩, ⟨trivial, fun t ht => ?_⟩, ⟨trivial, fun t ht => ?_⟩⟩
  · exact below_var (by omega)
  · intro y hy; simp [Term.vars, Term.num] at hy
  · simp only [List.mem_cons, List.not_mem_nil, or_false] at ht
    rcases ht with rfl | rfl | rfl <;> intro y hy <;> simp [Term.vars, ofList, Term.num] at hy <;> omega
  · simp only [List.mem_cons, List.not_mem_nil, or_false] at ht
    rcases ht with rfl | rfl <;> intro y hy <;> simp [Term.vars] at hy <;> omega
end Examples

end Pv
