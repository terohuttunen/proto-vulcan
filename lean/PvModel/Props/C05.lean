/-
  C05 — Depth-first search yields answers in Prolog order.

  Model: `mplusD`, `bindD`, `lazyBindD`, `step` on the depth-first nodes, `conjD`/`disjD`/`altD`
  (`DFSConj`, `DFSDisj`, `Conde` in DFS mode), relation calls solved through `solveAt` (Model/Stream.lean).
  Reference: `evalRef` — the textbook recursive semantics (disjunction = concatenation, conjunction =
  flat-map of the second goal over the answers of the first, relation call = its body).
  Generic in the state type: nothing about the atoms is used.
-/
import PvModel.Proofs.Stream
namespace Pv
open Strm Goal

variable {St K : Type}

/-- One engine step of a depth-first node keeps the answer list EXACTLY: same answers, same order. -/
theorem C05_step (defs : K → St → St × Goal St K) (top : Goal St K → St → Strm St K) (hT : TopOK top)
    (hTop : ∀ g a, DfsG defs g → DfsS defs (top g a)) {l : Lz St K} {xs : List St}
    (hl : DfsL defs l) (h : AnsL top l xs) :
    AnsS top (step top l) xs ∧ DfsS defs (step top l) := step_dfs hT hTop hl h

/-- `Solver::next` run to exhaustion on a depth-first stream delivers exactly the reference list, in order. -/
theorem C05_next (defs : K → St → St × Goal St K) (top : Goal St K → St → Strm St K) (hT : TopOK top)
    (hTop : ∀ g a, DfsG defs g → DfsS defs (top g a)) {s : Strm St K} {xs : List St}
    (hs : DfsS defs s) (h : AnsS top s xs) :
    ∃ n, drainF top n s = some xs ∧ runF top n s = xs := by
  obtain ⟨n, hn⟩ := drain_dfs defs top hT hTop hs h
  exact ⟨n, hn, drain_run top n s xs hn⟩

/-- Prolog order: whenever the textbook semantics of a depth-first goal terminates with the list `xs`
    (at any unfolding depth `n`), the engine delivers exactly `xs`, in that order, and then stops — at
    every solver nesting level `M`, including recursion through relation calls. -/
theorem C05_prolog (defs : K → St → St × Goal St K) (pf M n : Nat) (g : Goal St K) (a : St) (xs : List St)
    (hD : DfsDefs defs) (hg : DfsG defs g) (h : evalRef defs n g a = some xs) :
    ∃ k, drainF (solveAt defs pf (M + 1)) k (solveAt defs pf (M + 1) g a) = some xs ∧
         runF (solveAt defs pf (M + 1)) k (solveAt defs pf (M + 1) g a) = xs := by
  have hA := ref_dfs defs pf M hD n g a xs hg h M
  exact C05_next defs _ (topOK_solveAt defs pf M) (solveAt_dfs defs hD pf (M + 1))
    (solveAt_dfs defs hD pf (M + 1) g a hg) hA

/-- Disjunction: all answers of the first clause, in their own order, precede every answer of the rest. -/
theorem C05_disj_order (defs : K → St → St × Goal St K) (top : Goal St K → St → Strm St K) (pf : Nat)
    (A B : Goal St K) (a : St) (xs ys : List St)
    (hA : AnsS top (start defs top pf A a) xs) (hB : AnsS top (start defs top pf B a) ys) :
    AnsS top (start defs top pf (.altD A B) a) (xs ++ ys) := altD_union defs top pf A B a xs ys hA hB

/-- Conjunction: the reference list of `g1, g2` is the concatenation, over the answers of `g1` in
    order, of the answers of `g2` from each: all answers extending the first answer of `g1` precede
    those extending its second answer. -/
theorem C05_conj_order (defs : K → St → St × Goal St K) (n : Nat) (g1 g2 : Goal St K) (a : St) (xs : List St)
    (h1 : evalRef defs n g1 a = some xs) :
    evalRef defs (n + 1) (.conjD g1 g2) a = flatMapM (evalRef defs n g2) xs := by
  simp [evalRef, h1]

/-! Non-vacuity: a concrete depth-first disjunction-in-conjunction over `Nat` states. -/
section Examples
private def defs0 : Unit → Nat → Nat × Goal Nat Unit := fun _ a => (a, .fail)
private def g0 : Goal Nat Unit :=
  .conjD (.altD (.atom fun a => some (a + 1)) (.altD (.atom fun a => some (a + 2)) .fail))
         (.altD (.atom fun a => some (a * 10)) (.altD (.atom fun a => some (a * 10 + 1)) .fail))
example : evalRef defs0 10 g0 0 = some [10, 11, 20, 21] := by decide
example : runF (solveAt defs0 5 3) 40 (solveAt defs0 5 3 g0 0) = [10, 11, 20, 21] := by decide
example : DfsG defs0 g0 := by
  unfold g0; repeat' constructor
end Examples

end Pv
