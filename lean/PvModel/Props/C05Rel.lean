/-
  C05 / C24 — PROLOG ORDER through the library relations called inside `dfs { }`, and the ORDER of `member`'s answers.
-/
import PvModel.Proofs.RelDfs
import PvModel.Proofs.RelCount
namespace Pv
open Strm Goal State Term

/-- on the depth-first fragment of the model's own relation table (dfs conjunction, `cond`, fresh, atoms, calls of the
    library relations made inside `dfs { }` — recursion included), at every nesting level of the solver: whenever
    the textbook semantics terminates with the list `xs`, the engine delivers EXACTLY `xs`, in that order, and stops -/
theorem C05_prolog_relations (ord : Order) (pf M n : Nat) (g : G) (hg : OnlyD g) (a : State) (xs : List State)
    (h : evalRef (defs ord) n g a = some xs) :
    ∃ k, drainF (solveAt (defs ord) pf (M + 1)) k (solveAt (defs ord) pf (M + 1) g a) = some xs :=
  dfs_exact pf M n hg a xs h

/-- `member(x, l)` inside `dfs { }`: the engine delivers its answers IN THE ORDER OF THE POSITIONS — the `i`-th
    delivered state is the one for the `i`-th matching position (`ps` increasing), and describes exactly the
    valuations of the start state that put `x` there -/
theorem C05_member_in_position_order (ord : Order) (ho : OrderOK ord) (pf M : Nat) (n : Nat) (x l : Term) (a : State)
    (bx : Below a.nextVar x) (bl : Below a.nextVar l) (hp : a.panic.isSome = false) (hi : RInv a) (hd : DNF a)
    (hlen : ListLen n l a)
    (hnf : ∀ b, Big (defs ord) (.call ⟨.member, [x, l], true⟩) a b → b.panic.isSome = false) :
    ∃ (ys : List State) (ps : List Nat) (k : Nat),
      drainF (solveAt (defs ord) pf (M + 1)) k (solveAt (defs ord) pf (M + 1) (.call ⟨.member, [x, l], true⟩) a) = some ys ∧
      ps.Pairwise (· < ·) ∧ (∀ i, i ∈ ps ↔ (i < n ∧ ∃ γ, StateSem γ a ∧ At x l i γ)) ∧
      Zip2 (fun b i => Describes a (At x l i) b) ys ps := by
  obtain ⟨ys, ps, ⟨m, hm⟩, pw, mem, z⟩ := member_count ho true n x l a bx bl hp hi hd hlen hnf
  obtain ⟨k, hk⟩ := dfs_exact pf M m (.call rfl) a ys hm
  exact ⟨ys, ps, k, hk, pw, mem, z⟩

section Examples
/-- non-vacuity: `member(x, [1, 2])` called inside `dfs { }` is in the fragment and its reference list has two states -/
example : OnlyD (.call ⟨.member, [.var 0, ofList [Term.num 1, Term.num 2]], true⟩ : G) := .call rfl
example : (evalRef (defs Order.default) 30 (.call ⟨.member, [.var 0, ofList [Term.num 1, Term.num 2]], true⟩) (State.empty 1)).map
    (fun ys => ys.map fun s => apply s.σ (.var 0)) = some [Term.num 1, Term.num 2] := by decide +kernel
end Examples

end Pv
