/-
  C04 — Reordering conjuncts or disjuncts preserves the answer multiset.

  * Disjuncts: pure stream algebra (generic state type): swapping / rotating the clauses of a disjunction
    permutes the finite answer list and leaves the set of answers of an arbitrary (infinite) stream unchanged.
  * Conjuncts, ==/!= atoms: posting a permuted list of atoms, under any hash-iteration orders, ends in
    two states with exactly the same ground instances or, when one run fails, in a state with none (C02).
  * Conjuncts, FD and CLP(Z) atoms: a permuted list of constraint atoms, under any hash-iteration orders, reaches
    a state describing the same valuations (`C04_fd_conj_comm`); the solutions of a whole constraint program are
    unchanged by a swap anywhere inside it, and the engine's delivered states describe only those
    (`C04_program_comm`, `C04_program_congr`, `C04_engine_sound`).  The answer multisets under labelling:
    `C04_fd_query_reorder` (reordered clauses, Props/C17Query.lean) and `C04_fd_answer_values_perm` (reordered
    conjuncts, per path, Props/C17Enforce.lean); the correspondence also compares them (every generated program is
    run as written and under permutations of every conjunction and clause list, against a brute-force reference).
-/
import PvModel.Props.C02
import PvModel.Proofs.Stream
import PvModel.Proofs.FDExact
import PvModel.Proofs.FDProgram
import PvModel.Proofs.PathCount
namespace Pv
open Strm Goal

variable {St K : Type}

/-- swapping the two clauses of a disjunction permutes the finite answer list -/
theorem C04_disj_comm (defs : K → St → St × Goal St K) (top : Goal St K → St → Strm St K) (pf : Nat)
    (A B : Goal St K) (a : St) (zs : List St) (h : AnsS top (start defs top pf (.alt A (.alt B .fail)) a) zs) :
    ∃ zs', AnsS top (start defs top pf (.alt B (.alt A .fail)) a) zs' ∧ zs.Perm zs' := by
  obtain ⟨xs, ys, hA, hB, p1⟩ := alt_inv defs top pf A (.alt B .fail) a zs h
  obtain ⟨ys1, _, hB', ⟨⟩, p2⟩ := alt_inv defs top pf B .fail a ys hB
  obtain ⟨w1, hw1, q1⟩ := alt_union defs top pf A .fail a xs [] hA .empty
  obtain ⟨w2, hw2, q2⟩ := alt_union defs top pf B (.alt A .fail) a ys1 w1 hB' hw1
  rw [List.append_nil] at p2 q1
  exact ⟨w2, hw2, p1.symm.trans ((q1.append p2.symm).trans (List.perm_append_comm.trans q2))⟩

theorem memS_altOfList (defs : K → St → St × Goal St K) (top : Goal St K → St → Strm St K) (pf : Nat)
    (a b : St) : ∀ (gs : List (Goal St K)),
      MemS top b (start defs top pf (altOfList gs) a) ↔ ∃ g ∈ gs, MemS top b (start defs top pf g a)
  | [] => by simp only [altOfList, start, memS_empty, List.not_mem_nil, false_and, exists_false]
  | g :: gs => by
    simp only [altOfList, start, mem_mplus_iff, memL_delay_iff, List.mem_cons, exists_eq_or_imp]
    rw [← memS_altOfList defs top pf a b gs]

/-- only WHICH clauses a clause list has matters for its answers, not their order or multiplicity -/
theorem memS_altOfList_congr (defs : K → St → St × Goal St K) (top : Goal St K → St → Strm St K) (pf : Nat)
    (a b : St) (gs gs' : List (Goal St K)) (h : ∀ g, g ∈ gs ↔ g ∈ gs') :
    MemS top b (start defs top pf (altOfList gs) a) ↔ MemS top b (start defs top pf (altOfList gs') a) := by
  simp only [memS_altOfList, h]

/-- … and for arbitrary (infinite, diverging) clauses the SET of answers is unchanged -/
theorem C04_disj_comm_mem (defs : K → St → St × Goal St K) (top : Goal St K → St → Strm St K) (pf : Nat)
    (A B : Goal St K) (a b : St) :
    MemS top b (start defs top pf (.alt A (.alt B .fail)) a) ↔ MemS top b (start defs top pf (.alt B (.alt A .fail)) a) :=
  memS_altOfList_congr defs top pf a b [A, B] [B, A] fun _ => (List.Perm.swap B A []).mem_iff

/-- the answers of a clause list are, as a set, the answers of its clauses (arbitrary streams) — so a permutation of the
    clauses has the same answers: `C04_disj_perm` -/
theorem C04_disj_perm_mem (defs : K → St → St × Goal St K) (top : Goal St K → St → Strm St K) (pf : Nat)
    (a b : St) : ∀ (gs : List (Goal St K)),
      MemS top b (start defs top pf (altOfList gs) a) ↔ ∃ g ∈ gs, MemS top b (start defs top pf g a) :=
  memS_altOfList defs top pf a b

theorem C04_disj_perm (defs : K → St → St × Goal St K) (top : Goal St K → St → Strm St K) (pf : Nat)
    (a b : St) (gs gs' : List (Goal St K)) (hp : gs.Perm gs') :
    MemS top b (start defs top pf (altOfList gs) a) ↔ MemS top b (start defs top pf (altOfList gs') a) :=
  memS_altOfList_congr defs top pf a b gs gs' fun _ => hp.mem_iff

/-- Conjuncts (==/!= atoms): any permutation of the atoms, under any two hash-iteration orders, gives
    two states describing exactly the same valuations (same ground instances) or, when one run fails, a state of
    the other run describing none. -/
theorem C04_tree (o1 o2 : Order) (h1 : OrderOK o1) (h2 : OrderOK o2) (n : Nat)
    (as bs : List TAtom) (hp : as.Perm bs) :
    (∀ s1 s2, postAll o1 (State.empty n) as = .ok s1 → postAll o2 (State.empty n) bs = .ok s2 →
        ∀ γ : Subst, StateSem γ s1 ↔ StateSem γ s2) ∧
    (∀ s1, postAll o1 (State.empty n) as = .ok s1 → postAll o2 (State.empty n) bs = .fail →
        ∀ γ : Subst, ¬ StateSem γ s1) ∧
    (postAll o1 (State.empty n) as = .fail → ∀ s2, postAll o2 (State.empty n) bs = .ok s2 →
        ∀ γ : Subst, ¬ StateSem γ s2) := C02_order_free o1 o2 h1 h2 n as bs hp

section FDConj
-- either mode of Spec/FDSem.lean: `distinctfd` conjuncts are admissible in the lax one
variable [Mode]

/-- COMMUTATIVITY OF CONJUNCTION for constraint atoms (FD, CLP(Z), `==`, `!=`): every permutation of the
    conjuncts, under any hash-iteration orders, reaches a state describing the SAME valuations; and if one
    order fails, the other describes no valuation (so neither has an answer). -/
theorem C04_fd_conj_comm {ord ord' : Order} (ho : OrderOK ord) (ho' : OrderOK ord') (n : Nat)
    (as as' : List FAtom) (hp : as.Perm as') (hok : ∀ a ∈ as, a.OK) :
    (∀ st1 st2, postAllF ord (State.empty n) as = .ok st1 → postAllF ord' (State.empty n) as' = .ok st2 →
      ∀ γ, Sem NoI γ st1 ↔ Sem NoI γ st2) ∧
    (∀ st1, postAllF ord (State.empty n) as = .ok st1 → postAllF ord' (State.empty n) as' = .fail →
      ∀ γ, ¬ Sem NoI γ st1) := fd_order_free ho ho' n as as' hp hok

/-- the engine computes them: every unpoisoned delivered state describes only solutions of the program -/
theorem C04_engine_sound {ord : Order} (ho : OrderOK ord) (dfs : Call → State → State × G) (pf M nv : Nat)
    (p : FProg) (hok : p.OK) :
    ∃ k ys, drainF (solveAt dfs pf (M + 1)) k (solveAt dfs pf (M + 1) (p.goal ord) (State.empty nv)) = some ys ∧
      ∀ s ∈ ys, s.panic = none → ∀ γ, Sem NoI γ s → FSols p γ := by
  obtain ⟨k, ys, h1, h2, _⟩ := fd_program_sols ho dfs pf M nv p hok
  exact ⟨k, ys, h1, h2⟩

/-- REORDERING: swapping the two sides of a conjunction, or of a disjunction, leaves the solutions of a constraint
    program unchanged (at the top; under further conjunctions, condes and fresh by `C04_program_congr`) — and the
    engine's delivered states describe those solutions (`C04_engine_sound`, `C17_program_complete`). -/
theorem C04_program_comm (p q : FProg) (γ : Subst) :
    (FSols (.conj p q) γ ↔ FSols (.conj q p) γ) ∧ (FSols (.alt p q) γ ↔ FSols (.alt q p) γ) :=
  ⟨by rw [FSols_conj, FSols_conj, and_comm], by rw [FSols_alt, FSols_alt, or_comm]⟩

/-- … and the solutions of a compound program are built from those of its parts, so a swap deep inside a
    program does not change the whole either -/
theorem C04_program_congr (p p' q q' : FProg) (hp : ∀ γ, FSols p γ ↔ FSols p' γ) (hq : ∀ γ, FSols q γ ↔ FSols q' γ)
    (γ : Subst) :
    (FSols (.conj p q) γ ↔ FSols (.conj p' q') γ) ∧ (FSols (.alt p q) γ ↔ FSols (.alt p' q') γ) ∧
    (FSols (.fresh p) γ ↔ FSols (.fresh p') γ) :=
  ⟨by rw [FSols_conj, FSols_conj, hp γ, hq γ], by rw [FSols_alt, FSols_alt, hp γ, hq γ], hp γ⟩

end FDConj

section Examples
private def defs0 : Unit → Nat → Nat × Goal Nat Unit := fun _ a => (a, .fail)
example : runF (solveAt defs0 5 3) 40 (solveAt defs0 5 3 (altOfList [.atom fun a => some (a + 1), .fresh (.atom fun a => some (a + 2))]) 0) = [1, 2] := by decide +kernel
example : runF (solveAt defs0 5 3) 40 (solveAt defs0 5 3 (altOfList [.fresh (.atom fun a => some (a + 2)), .atom fun a => some (a + 1)]) 0) = [1, 2] := by decide +kernel
end Examples

end Pv
