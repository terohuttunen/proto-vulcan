/-
  C07 — Interleaving disjunction is fair and productive.

  Model: `Stream::mplus` (argument swap), `bind`, `pause`, `delay`, `step`, `Solver::next`; `Conde`, `Anyo`
  (`loop`), `always = loop { true }`, `never = loop { false }` (Model/Stream.lean).  Generic in the state type.
  `MemS top a s`: `a` is an answer of the possibly infinite, possibly diverging stream `s`;
  `runF top n s`: the answers `Solver::next` delivers within `n` engine steps.
-/
import PvModel.Proofs.Stream
import PvModel.Proofs.Always
namespace Pv
open Strm Goal

variable {St K : Type}

/-- FAIRNESS (full: disjunctions nested under conjunctions, `bind` included): every answer of an
    interleaving stream is delivered by `Solver::next` after finitely many steps — however many other
    branches produce infinitely many answers or diverge silently. -/
theorem C07_fair (defs : K → St → St × Goal St K) (top : Goal St K → St → Strm St K) (hT : TopOK top)
    (hTop : ∀ g a, BfsG defs g → BfsS defs (top g a)) {s : Strm St K} {a : St}
    (hs : BfsS defs s) (h : MemS top a s) : ∃ n, a ∈ runF top n s := fair defs top hT hTop hs h

/-- The property's statement for a disjunction: an answer that ONE branch (clause) delivers on its own
    after finitely many steps is delivered by the whole `conde { A, B }` after finitely many steps,
    whatever the other branch does. -/
theorem C07_branch (defs : K → St → St × Goal St K) (pf M : Nat) (A B : Goal St K) (a b : St)
    (hD : BfsDefs defs) (hA : BfsG defs A) (hB : BfsG defs B) :
    ((∃ n, b ∈ runF (solveAt defs pf (M + 1)) n (solveAt defs pf (M + 1) A a)) ∨
     (∃ n, b ∈ runF (solveAt defs pf (M + 1)) n (solveAt defs pf (M + 1) B a))) →
    ∃ m, b ∈ runF (solveAt defs pf (M + 1)) m (solveAt defs pf (M + 1) (.alt A B) a) := by
  intro h
  have hT := topOK_solveAt defs pf M
  have hTop := solveAt_bfs defs hD pf (M + 1)
  apply C07_fair defs _ hT hTop (solveAt_bfs defs hD pf (M + 1) _ a (.alt hA hB))
  show MemS _ b (Strm.mplus (start defs _ pf A a) (.delay (start defs _ pf B a)))
  rw [mem_mplus_iff]
  rcases h with ⟨n, hn⟩ | ⟨n, hn⟩
  · exact .inl (runF_sound _ hT n _ b hn)
  · exact .inr (memL_delay_iff.2 (runF_sound _ hT n _ b hn))

/-- Whole programs, RECURSIVE RELATIONS INCLUDED: when every relation body and the query are built from the
    interleaving operators (`BfsDefs` does not unfold calls, so a relation may call itself or any other),
    every answer of the program — every state the search tree contains — is delivered by `Solver::next`
    after finitely many steps, at every solver nesting level. -/
theorem C07_program (defs : K → St → St × Goal St K) (pf M : Nat) (hD : BfsDefs defs) (g : Goal St K) (a b : St)
    (hg : BfsG defs g) (h : MemS (solveAt defs pf (M + 1)) b (solveAt defs pf (M + 1) g a)) :
    ∃ n, b ∈ runF (solveAt defs pf (M + 1)) n (solveAt defs pf (M + 1) g a) :=
  C07_fair defs _ (topOK_solveAt defs pf M) (solveAt_bfs defs hD pf (M + 1))
    (solveAt_bfs defs hD pf (M + 1) g a hg) h

/-- `conde { never(), q == 1 }` yields its answer within 12 steps although the first clause diverges silently. -/
theorem C07_never (defs : K → St → St × Goal St K) (pf M : Nat) (f : St → Option St) (a b : St) (hf : f a = some b) :
    b ∈ runF (solveAt defs pf (M + 1)) 12
      (solveAt defs pf (M + 1) (condeOfClauses [[.anyo .fail], [.atom f]]) a) :=
  never_then_answer defs pf M f a b hf

/-- `conde { [always(), A], [always(), B] }` yields the answer of EACH clause infinitely often: after any
    number `n` of engine steps, both are delivered again within finitely many further steps
    (the stream is periodic with period 12 from step 3 on, and each period delivers both). -/
theorem C07_always (defs : K → St → St × Goal St K) (pf M : Nat) (f1 f2 : St → Option St) (a b1 b2 : St)
    (h1 : f1 a = some b1) (h2 : f2 a = some b2) (n : Nat) :
    (∃ m, b1 ∈ runF (solveAt defs pf (M + 1)) m
        (afterF (solveAt defs pf (M + 1)) n (solveAt defs pf (M + 1) (alwaysConde f1 f2) a))) ∧
    (∃ m, b2 ∈ runF (solveAt defs pf (M + 1)) m
        (afterF (solveAt defs pf (M + 1)) n (solveAt defs pf (M + 1) (alwaysConde f1 f2) a))) := by
  obtain ⟨hp, hb1, hb2⟩ := alwaysConde_period defs pf M f1 f2 a b1 b2 h1 h2
  exact ⟨periodic_again _ _ 3 12 (by omega) hp b1 hb1 n, periodic_again _ _ 3 12 (by omega) hp b2 hb2 n⟩

/-- what "delivered again after step n" means: a run of `n + m` steps is the run of `n` steps followed by
    the run of `m` steps on the stream that remains -/
theorem C07_run_split (top : Goal St K → St → Strm St K) (n m : Nat) (s : Strm St K) :
    runF top (n + m) s = runF top n s ++ runF top m (afterF top n s) := runF_add top n m s

/-- Not vacuous: under depth-first search the same shape of disjunction starves — a first clause that
    diverges silently prevents the second clause's answer for every number of steps. -/
theorem C07_dfs_unfair_witness (defs : K → St → St × Goal St K) (pf M : Nat) (k : K)
    (hk : ∀ a, defs k a = (a, .fresh (.call k))) (f : St → Option St) (a : St) (n : Nat) :
    runF (solveAt defs pf (M + 1)) n
      (solveAt defs pf (M + 1) (.altD (.fresh (.call k)) (.altD (.atom f) .fail)) a) = [] :=
  dfs_starves defs pf M k hk f a n

section Examples
private def defs0 : Unit → Nat → Nat × Goal Nat Unit := fun _ a => (a, .fresh (.call ()))
/-- a diverging relation call in the first clause, an answer in the second: delivered -/
example : 7 ∈ runF (solveAt defs0 5 3) 20
    (solveAt defs0 5 3 (condeOfClauses [[.call ()], [.atom fun _ => some 7]]) 0) := by decide
example : runF (solveAt defs0 5 3) 60 (solveAt defs0 5 3 (alwaysConde (fun a => some (a + 1)) (fun a => some (a + 2))) 0)
    = [1, 2, 1, 2, 1, 2, 1, 2, 1] := by decide
/-- the hypotheses of `C07_program` are met by a self-recursive relation with infinitely many answers
    (`nat(x) :- x = a ; fresh … nat(x+1)`): its body is interleaving, calls are not unfolded -/
private def defsR : Unit → Nat → Nat × Goal Nat Unit :=
  fun _ a => (a + 1, .alt (.atom fun a => some a) (.alt (.fresh (.call ())) .fail))
example : BfsDefs defsR := fun _ _ => .alt (.atom _) (.alt (.fresh .call) .fail)
example : runF (solveAt defsR 5 3) 40 (solveAt defsR 5 3 (.call ()) 0) = [1, 2, 3, 4, 5, 6, 7, 8, 9, 10] := by decide
end Examples

end Pv
