/-
  C22, global part — the constraint-lifecycle invariant for every program of the modelled language,
  CLP(FD)/CLP(Z) propagation (the re-entrant `run_constraints → c.run → process_domain →
  resolve_storable_domain → run_constraints` loop) included.

  `Inv st` = `st.withs = st.takes + st.store.length` ∧ identities pairwise distinct ∧ all below the next
  fresh identity.  `withs`/`takes` count the `with_constraint`/`take_constraint` hook calls (the counters the
  instrumented `User` of the harness reads).
-/
import PvModel.Props.C22
import PvModel.Proofs.CntProgram
namespace Pv
open State Goal

/-- one posting step keeps the lifecycle invariant on good tree states -/
theorem C22_step_tree (ord : Order) (ho : OrderOK ord) (st st' : State) (a : TAtom) (hg : Good st) (h : Cnt st)
    (hr : postAtom ord st a = .ok st') : Cnt st' :=
  (postAtom_inv ord ⟨h, hg.2.2⟩ hr).1

/-- THE INVARIANT ON EVERY REACHABLE STATE (pure tree programs): however many ==/!= atoms are posted, in any
    order, under any hash-iteration order, the state reached has seen exactly as many `with_constraint`
    calls as `take_constraint` calls plus the constraints it holds -/
theorem C22_count_tree (ord : Order) (ho : OrderOK ord) (n : Nat) : ∀ (as : List TAtom) (st st' : State),
    Good st → Cnt st → postAll ord st as = .ok st' → Cnt st' :=
  fun as _ _ hg h hr => (postAll_inv ord as ⟨h, hg.2.2⟩ hr).1

theorem C22_count_tree_init (ord : Order) (ho : OrderOK ord) (n : Nat) (as : List TAtom) (st' : State)
    (hr : postAll ord (State.empty n) as = .ok st') : Cnt st' :=
  C22_count_tree ord ho n as (State.empty n) st' (good_empty n) (C22_init n) hr

/-- one `c.run(state)` of ANY constraint kind, at any re-run depth, over any nested `run_constraints`
    that itself respects the lifecycle: the invariant is kept and the identity source only grows -/
theorem C22_run_any (rc : State → Res State) (hrc : RcOK rc) (ord : Order) (k i : Nat) (c : Cst) (st st' : State)
    (hi : Inv st) (hlt : i < st.nextId) (hni : i ∉ ids st) (h : runCst rc ord k i c st = .ok st') :
    Inv st' ∧ st.nextId ≤ st'.nextId := by
  have s := runCst_selfOK hrc ord k i c st st' ⟨hi, hlt, hni⟩ h
  exact ⟨s.inv, s.mono⟩

/-- `State::run_constraints` at every nesting depth (the hypothesis `hrc` above is met at every level) -/
theorem C22_run_constraints (ord : Order) (n : Nat) (st st' : State) (hi : Inv st)
    (h : runConstraintsF ord n st = .ok st') : Inv st' :=
  (runConstraintsF_ok ord n st st' hi h).inv

/-- the four operations goals perform on a state -/
theorem C22_ops (ord : Order) (st st' : State) (hi : Inv st) :
    (∀ u v, unify ord st u v = .ok st' → Inv st') ∧
    (∀ u v, disunify ord st u v = .ok st' → Inv st') ∧
    (∀ c, postCst ord st c = .ok st' → Inv st') ∧
    (∀ x d, domFd ord st x d = .ok st' → Inv st') :=
  ⟨fun _ _ h => (unify_step ord hi h).inv, fun _ _ h => (disunify_step ord hi h).inv,
   fun _ h => (postCst_step ord hi h).inv, fun _ _ h => (domFd_step ord hi h).inv⟩

/-- every goal builder of the modelled language keeps the invariant (the operators — conjunction, both
    disjunctions, conde, fresh, conda, condu, onceo, anyo, closures — keep it by `PresG`'s constructors and
    the `…OfList_pres` lemmas; relation calls are covered by `C22_defs`) -/
theorem C22_builders (ord : Order) :
    (∀ u v, PresG Inv (eqG ord u v)) ∧ (∀ u v, PresG Inv (diseqG ord u v)) ∧
    (∀ u v w, PresG Inv (pluszG ord u v w)) ∧ (∀ u v w, PresG Inv (timeszG ord u v w)) ∧
    (∀ u v w, PresG Inv (plusfdG ord u v w)) ∧ (∀ u v w, PresG Inv (minusfdG ord u v w)) ∧
    (∀ u v w, PresG Inv (timesfdG ord u v w)) ∧ (∀ u v, PresG Inv (ltefdG ord u v)) ∧
    (∀ u v, PresG Inv (ltfdG ord u v)) ∧ (∀ u v, PresG Inv (diseqfdG ord u v)) ∧
    (∀ u, PresG Inv (distinctfdG ord u)) ∧ (∀ u d, PresG Inv (infdG ord u d)) ∧
    (∀ b l f, PresG Inv (firstG ord b l f)) ∧ (∀ b l r, PresG Inv (restG ord b l r)) ∧
    (∀ x, PresG Inv (reifyG ord x)) :=
  ⟨eqG_pres ord, diseqG_pres ord, pluszG_pres ord, timeszG_pres ord, plusfdG_pres ord, minusfdG_pres ord,
   timesfdG_pres ord, ltefdG_pres ord, ltfdG_pres ord, diseqfdG_pres ord, distinctfdG_pres ord, infdG_pres ord,
   firstG_pres ord, restG_pres ord, reifyG_pres ord⟩

/-- the library relations (member, member1, append, rember, permute, distinct — recursive) -/
theorem C22_defs (ord : Order) : PresDefs Inv (defs ord) := defs_pres ord

/-- THE PROPERTY ON EVERY REACHABLE STATE: every state any program delivers — any goal assembled from the
    builders and operators above, any hash-iteration order, either search mode, any number of engine
    steps, any solver nesting level, finite or infinite search — has seen exactly as many
    `with_constraint` calls as `take_constraint` calls plus the constraints it still holds. -/
theorem C22_program (ord : Order) (pf M nv : Nat) (g : G) (hg : PresG Inv g) (n : Nat) (st : State)
    (h : st ∈ runF (solveAt (defs ord) pf (M + 1)) n (solveAt (defs ord) pf (M + 1) g (State.empty nv))) :
    st.withs = st.takes + st.store.length :=
  (program_invariant (defs_pres ord) pf M g (State.empty nv) hg (inv_empty nv) n st h).1

/-- … in particular every answer state of a query (`fresh(q) [q == [vars], body, reify(q)]`: labelling and
    reification, which takes every constraint out and re-adds the walked disequalities, included) -/
theorem C22_query (ord : Order) (pf M nv : Nat) (qv : Term) (qs : List Term) (body : List G)
    (hb : ∀ g ∈ body, PresG Inv g) (n : Nat) (st : State)
    (h : st ∈ runF (solveAt (defs ord) pf (M + 1)) n
      (solveAt (defs ord) pf (M + 1) (queryG ord qv qs body) (State.empty nv))) :
    st.withs = st.takes + st.store.length :=
  C22_program ord pf M nv _ (queryG_pres ord qv qs body hb) n st h

section Examples
open Term
private def o : Order := Order.default
/-- non-vacuity: an FD program whose propagation re-enters `run_constraints` (x+y=z narrowed by z<=2 to
    singletons) ends with balanced counters and constraints actually taken and re-added -/
example : (match (((((domFd o (State.empty 3) (.var 0) (.interval 1 2)).bind fun st =>
      domFd o st (.var 1) (.interval 1 2)).bind fun st =>
      domFd o st (.var 2) (.interval 0 9)).bind fun st =>
      postCst o st (.plusfd (.var 0) (.var 1) (.var 2))).bind fun st =>
      postCst o st (.ltefd (.var 2) (num 2))) with
    | .ok st => decide (st.withs = st.takes + st.store.length) && decide (0 < st.takes) | _ => false) = true := by
  decide +kernel
end Examples

end Pv
