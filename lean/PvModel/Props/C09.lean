/-
  C09 — Query iteration is lazy, fused and deterministic.

  Model: `nextF` (`Solver::next`), `takeF` (`ResultIterator` + `take(n)`), the hash-iteration `Order`
  parameter of every state operation (Model/State.lean: any permutation).
-/
import PvModel.Proofs.Stream
import PvModel.Props.C02
import PvModel.Proofs.FDExact
namespace Pv
open Strm Goal

variable {St K : Type}

/-- LAZY: an outcome of `next` reached with some amount of work is the outcome for any larger amount —
    `next` never looks beyond the answer it returns, so taking the n-th answer terminates as soon as the
    search yields it after finitely many steps, however the rest of the stream behaves. -/
theorem C09_lazy (top : Goal St K → St → Strm St K) (n k : Nat) (s : Strm St K) (r)
    (h : nextF top n s = some r) : nextF top (n + k) s = some r := nextF_fuel_mono top n k s r h

/-- `take(k)`: more fuel never changes a finished prefix -/
theorem C09_take_mono (top : Goal St K → St → Strm St K) (fuel d : Nat) :
    ∀ (k : Nat) (s : Strm St K) (xs : List St), takeF top fuel k s = some xs → takeF top (fuel + d) k s = some xs
  | 0, _, _, h => by simpa [takeF] using h
  | k + 1, s, xs, h => by
    simp only [takeF] at h ⊢
    cases hn : nextF top fuel s with
    | none => simp [hn] at h
    | some r =>
      rw [nextF_fuel_mono top fuel d s r hn]
      cases r with
      | none => simpa [hn] using h
      | some p =>
        obtain ⟨a, s'⟩ := p
        simp only [hn] at h ⊢
        cases ht : takeF top fuel k s' with
        | none => simp [ht] at h
        | some as =>
          rw [C09_take_mono top fuel d k s' as ht]
          simpa [ht] using h

/-- `take` needs only the answers it returns: the first `k` answers are a prefix of the first `k + j` -/
theorem C09_take_prefix (top : Goal St K → St → Strm St K) (fuel : Nat) :
    ∀ (k j : Nat) (s : Strm St K) (xs ys : List St),
      takeF top fuel k s = some xs → takeF top fuel (k + j) s = some ys → xs.IsPrefix ys
  | 0, _, _, _, _, h, _ => by simp [takeF] at h; subst h; exact List.nil_prefix
  | k + 1, j, s, xs, ys, h1, h2 => by
    rw [Nat.add_right_comm] at h2
    simp only [takeF] at h1 h2
    cases hn : nextF top fuel s with
    | none => simp [hn] at h1
    | some r =>
      cases r with
      | none =>
        simp only [hn, Option.some.injEq] at h1 h2
        subst h1 h2; exact List.prefix_refl _
      | some p =>
        obtain ⟨a, s'⟩ := p
        simp only [hn] at h1 h2
        cases ht1 : takeF top fuel k s' with
        | none => simp [ht1] at h1
        | some as1 =>
          cases ht2 : takeF top fuel (k + j) s' with
          | none => simp [ht2] at h2
          | some as2 =>
            simp only [ht1, ht2, Option.some.injEq] at h1 h2
            subst h1 h2
            exact (List.prefix_cons_inj a).2 (C09_take_prefix top fuel k j s' as1 as2 ht1 ht2)

/-- FUSED: `next` on the empty stream reports exhaustion for every amount of fuel — `None` stays `None`. -/
theorem C09_fused (top : Goal St K → St → Strm St K) (m : Nat) :
    nextF top m (.empty : Strm St K) = some none := by cases m <;> rfl

/-- … and when `next` reports exhaustion, the stream left behind is the empty one, reached without delivering
    an answer -/
theorem C09_exhausted_is_empty (top : Goal St K → St → Strm St K) (n : Nat) (s : Strm St K)
    (h : nextF top n s = some none) : ∃ j, afterF top j s = .empty ∧ runF top j s = [] := by
  fun_induction nextF top n s with
  | case1 => exact ⟨0, rfl, rfl⟩
  | case2 => cases h
  | case3 => cases h
  | case4 => cases h
  | case5 n l ih =>
    obtain ⟨j, hj, hr⟩ := ih h
    exact ⟨j + 1, hj, hr⟩

/-- DETERMINISTIC (atom level): for pure tree programs the set of valuations described by the final state of
    posting the atoms is the same under ANY two hash-iteration orders of the constraint store — and when one
    run fails, the other's final state describes none. -/
theorem C09_order_independent_tree (o1 o2 : Order) (h1 : OrderOK o1) (h2 : OrderOK o2) (n : Nat) (as : List TAtom) :
    (∀ s1 s2, postAll o1 (State.empty n) as = .ok s1 → postAll o2 (State.empty n) as = .ok s2 →
        ∀ γ : Subst, StateSem γ s1 ↔ StateSem γ s2) ∧
    (∀ s1, postAll o1 (State.empty n) as = .ok s1 → postAll o2 (State.empty n) as = .fail → ∀ γ : Subst, ¬ StateSem γ s1) ∧
    (postAll o1 (State.empty n) as = .fail → ∀ s2, postAll o2 (State.empty n) as = .ok s2 → ∀ γ : Subst, ¬ StateSem γ s2) :=
  C02_order_free o1 o2 h1 h2 n as as (.refl _)

/-- the engine itself has no source of nondeterminism: `next` is a function of the stream -/
theorem C09_next_functional (top : Goal St K → St → Strm St K) (n m : Nat) (s : Strm St K) (r1 r2)
    (h1 : nextF top n s = some r1) (h2 : nextF top m s = some r2) : r1 = r2 := by
  have a := nextF_fuel_mono top n m s r1 h1
  have b := nextF_fuel_mono top m n s r2 h2
  rw [Nat.add_comm] at b
  rw [a] at b
  exact Option.some.inj b

/-! ### hash-iteration order and finite-domain programs (both modes of Spec/FDSem.lean) -/
section FDOrder
variable [Mode]

/-- the valuations described by the state a constraint program reaches do not depend on the iteration order
    of the hash-based constraint store / domain store / extension (two runs with different hash seeds: `ord`,
    `ord'`): same program, same described solutions — the set-level part of "deterministic across
    processes" for programs whose propagation order depends on hash iteration -/
theorem C09_order_independent_fd {ord ord' : Order} (ho : OrderOK ord) (ho' : OrderOK ord') (n : Nat)
    (as : List FAtom) (hok : ∀ a ∈ as, a.OK) (st1 st2 : State)
    (h1 : postAllF ord (State.empty n) as = .ok st1) (h2 : postAllF ord' (State.empty n) as = .ok st2) (γ : Subst) :
    Sem NoI γ st1 ↔ Sem NoI γ st2 := (fd_order_free ho ho' n as as (List.Perm.refl _) hok).1 st1 st2 h1 h2 γ

end FDOrder


section Examples
private def defs0 : Unit → Nat → Nat × Goal Nat Unit := fun _ a => (a, .fail)
/-- `take(3)` of an infinite stream returns although the stream never ends -/
example : takeF (solveAt defs0 5 3) 50 3 (solveAt defs0 5 3 (.anyo (.atom fun a => some (a + 1))) 0) = some [1, 1, 1] := by decide
end Examples

end Pv
