/-
  C02 / C03 — THE WHOLE QUERY ON THE ENGINE.  `proto_vulcan_query!(|q0, …| { body })` runs the goal
  `fresh(__query__) [__query__ == [q0, …], body, reify(__query__)]` (`queryG`, Model/Goals.lean) and reports one answer
  per state that goal delivers.  For a body that is a program of `==` / `!=` atoms under conjunction, `conde` and
  `fresh` (`FProg`), the delivered states are — as a multiset — exactly the REIFIED states (`reifyState`, the state
  `C02_reported_answer` speaks about) of the non-failing paths of the body, posted from the state the query equation
  leaves: one answer per path, none lost, none duplicated, none invented.

  `C02_query_program` composes `evalRef_pathStates` (Proofs/PathCount.lean: states of the body) and `reifyG_tree`
  (Proofs/ReifyGoal.lean: reify as a goal) into one statement about `queryG`, the constructor short-cuts of `Conj::new` and
  the `fresh` wrapper included (`query_drain`, Proofs/QueryGoal.lean); `C02_query_exact` adds `C02_reported_answer` (what is
  reported).
-/
import PvModel.Proofs.QueryGoal
import PvModel.Proofs.PathCount
import PvModel.Props.C02Answer
import PvModel.Proofs.QueryBind
import PvModel.Proofs.ForceTot
namespace Pv
open Strm Goal State Term

attribute [local instance] Mode.strict

/-- the query on the engine for any body whose answers are tree states on which `force_ans` finishes: `reify(__query__)`
    delivers one state from each (`reifyG_tree`) -/
theorem query_drain_tree (ord : Order) (ho : OrderOK ord) (dfs : Call → State → State × G) (pf M N : Nat)
    (body : G) (qv : Term) (qs : List Term) (s0 s1 : State) (xs : List State)
    (h1 : (liftRes fun st => postAtom ord st (.eq qv (Term.ofList qs))) s0 = some s1)
    (hx : evalRef dfs N body s1 = some xs)
    (hs : ∀ s ∈ xs, s.dstore = [] ∧ s.panic = none ∧ (∀ c ∈ s.store, c.2.isFD = false) ∧
      ∃ N zs, evalRef dfs N (forceAns ord forceFuel qv) s = some zs ∧ ∀ t ∈ zs, t.panic = none) :
    ∃ k zs, drainF (solveAt dfs (pf + 2) (M + 2)) k
        (solveAt dfs (pf + 2) (M + 2) (queryG ord qv qs [body]) s0) = some zs ∧
      (xs.map fun s => reifyState ord s qv).Perm zs := by
  rw [List.map_eq_flatMap]
  refine query_drain dfs (pf + 2) M N body qv qs s0 s1 xs (fun s => [reifyState ord s qv]) h1 hx fun s hsx => ?_
  obtain ⟨hd, hp, hst, hfa⟩ := hs s hsx
  exact @reifyG_tree Mode.strict ord ho dfs pf M s hd hp hst qv hfa

/-- the engine (nesting level ≥ 2, peek fuel ≥ 2) on the whole query goal, from any start state `s0`
    whose query equation succeeds with `s1`: it terminates, and its answers are a permutation of the reified path
    states.  Hypotheses per path state: it is a tree state (no domains, no FD propagators — what `==`/`!=` programs
    reach), it is not FUEL-poisoned, and `force_ans` finishes within the model's fuel on it. -/
theorem C02_query_program (ord : Order) (ho : OrderOK ord) (dfs : Call → State → State × G) (pf M : Nat)
    (p : FProg) (qv : Term) (qs : List Term) (s0 s1 : State)
    (h1 : (liftRes fun st => postAtom ord st (.eq qv (Term.ofList qs))) s0 = some s1)
    (hs : ∀ s ∈ pathStates ord p s1, s.dstore = [] ∧ s.panic = none ∧ (∀ c ∈ s.store, c.2.isFD = false) ∧
      ∃ N zs, evalRef dfs N (forceAns ord forceFuel qv) s = some zs ∧ ∀ t ∈ zs, t.panic = none) :
    ∃ k zs, drainF (solveAt dfs (pf + 2) (M + 2)) k
        (solveAt dfs (pf + 2) (M + 2) (queryG ord qv qs [p.goal ord]) s0) = some zs ∧
      ((pathStates ord p s1).map fun s => reifyState ord s qv).Perm zs := by
  obtain ⟨N, hx⟩ := evalRef_pathStates ord dfs p s1
  exact query_drain_tree ord ho dfs pf M N (p.goal ord) qv qs s0 s1 _ h1 hx hs

/-- the same composition for ANY body goal whose textbook evaluation from `s1` is finite (`evalRef … = some xs`:
    conjunctions, `conde`, `fresh`, relation calls in terminating modes — member / append / … on bounded lists — `dfs` variants): the
    engine terminates on the whole query goal and delivers, as a multiset, the reified states of the body's answers.  (Committed
    choice is outside `evalRef`.) -/
theorem C02_query_any_body (ord : Order) (ho : OrderOK ord) (dfs : Call → State → State × G) (pf M N : Nat)
    (body : G) (qv : Term) (qs : List Term) (s0 s1 : State) (xs : List State)
    (h1 : (liftRes fun st => postAtom ord st (.eq qv (Term.ofList qs))) s0 = some s1)
    (hx : evalRef dfs N body s1 = some xs)
    (hs : ∀ s ∈ xs, s.dstore = [] ∧ s.panic = none ∧ (∀ c ∈ s.store, c.2.isFD = false) ∧ Solved s.σ ∧
      (apply s.σ qv).size ≤ forceFuel) :
    ∃ k zs, drainF (solveAt dfs (pf + 2) (M + 2)) k
        (solveAt dfs (pf + 2) (M + 2) (queryG ord qv qs [body]) s0) = some zs ∧
      (xs.map fun s => reifyState ord s qv).Perm zs := by
  refine query_drain_tree ord ho dfs pf M N body qv qs s0 s1 xs h1 hx fun s hsx => ?_
  obtain ⟨hd, hp, hst, hsol, hsz⟩ := hs s hsx
  exact ⟨hd, hp, hst, forceAns_finishes dfs ord s hsol hd hp qv hsz⟩

/-- a body with no surviving path: the query has no answer; with one: exactly one -/
theorem C02_query_count (ord : Order) (ho : OrderOK ord) (dfs : Call → State → State × G) (pf M : Nat)
    (p : FProg) (qv : Term) (qs : List Term) (s0 s1 : State)
    (h1 : (liftRes fun st => postAtom ord st (.eq qv (Term.ofList qs))) s0 = some s1)
    (hs : ∀ s ∈ pathStates ord p s1, s.dstore = [] ∧ s.panic = none ∧ (∀ c ∈ s.store, c.2.isFD = false) ∧
      ∃ N zs, evalRef dfs N (forceAns ord forceFuel qv) s = some zs ∧ ∀ t ∈ zs, t.panic = none) :
    ∃ k zs, drainF (solveAt dfs (pf + 2) (M + 2)) k
        (solveAt dfs (pf + 2) (M + 2) (queryG ord qv qs [p.goal ord]) s0) = some zs ∧
      zs.length = (p.paths.filter fun path => (postL ord s1 path).isSome).length := by
  obtain ⟨k, zs, hk, pz⟩ := C02_query_program ord ho dfs pf M p qv qs s0 s1 h1 hs
  refine ⟨k, zs, hk, ?_⟩
  rw [← pz.length_eq, List.length_map, pathStates, List.length_filterMap_eq_countP, List.countP_eq_length_filter]

theorem postAll_no_panic (ord : Order) (ho : OrderOK ord) : ∀ (as : List TAtom) (st : State), Good st → ∀ m, postAll ord st as ≠ .panic m :=
  fun as st hg m => postAll_no_panic_of_good ord ho st as hg m

theorem query_tree_from (ord : Order) (ho : OrderOK ord) (dfs : Call → State → State × G) (pf M : Nat)
    (p : FProg) (hp : p.TreeOnly) (qv : Term) (qs : List Term) (s0 s1 : State)
    (h1 : (liftRes fun st => postAtom ord st (.eq qv (Term.ofList qs))) s0 = some s1)
    (inv1 : Inv s1) (hp1 : s1.panic = none) (hg1 : Good s1)
    (hnf : ∀ path ∈ p.paths, postAllF ord s1 path ≠ .fuel)
    (hsz : ∀ path ∈ p.paths, ∀ s, postAllF ord s1 path = .ok s → (apply s.σ qv).size ≤ forceFuel) :
    ∃ k zs, drainF (solveAt dfs (pf + 2) (M + 2)) k
        (solveAt dfs (pf + 2) (M + 2) (queryG ord qv qs [p.goal ord]) s0) = some zs ∧
      ((pathStates ord p s1).map fun s => reifyState ord s qv).Perm zs := by
  refine C02_query_program ord ho dfs pf M p qv qs s0 s1 h1 fun s hs => ?_
  obtain ⟨path, hpath, hps⟩ := List.mem_filterMap.1 hs
  have htree := treeOnly_paths p hp path hpath
  have hr := postL_tree ord ho htree inv1 hp1 hg1 (hnf path hpath) hps
  have hg := (postAll_ok ord ho s1 s (path.map tOf) hg1 (by rw [← postAllF_tree path s1 htree]; exact hr)).1
  have hpn : s.panic = none := (postAllF_pan ord path inv1 hr).1.trans hp1
  exact ⟨hg.2.1.2, hpn, hg.2.1.noFD, forceAns_finishes dfs ord s hg.1 hg.2.1.2 hpn qv (hsz path hpath s hr)⟩

/-- for a body of `==` / `!=` atoms under conjunction, `conde` and `fresh`, run from the empty state with
    `n` variables: no hypothesis about the path states is left but the model's two bounds (no path runs out of unification
    fuel; the walked query term of every path state is no larger than `force_ans`'s depth bound `forceFuel` = 1000, so that
    `force_ans` finishes: `forceAns_finishes`, Proofs/ForceTot.lean).  The engine terminates and delivers — as a multiset — exactly the reified
    states of the paths that do not fail. -/
theorem C02_query_tree (ord : Order) (ho : OrderOK ord) (dfs : Call → State → State × G) (pf M n : Nat)
    (p : FProg) (hp : p.TreeOnly) (qv : Term) (qs : List Term) (s1 : State)
    (h1 : postAtom ord (State.empty n) (.eq qv (Term.ofList qs)) = .ok s1)
    (hnf : ∀ path ∈ p.paths, postAllF ord s1 path ≠ .fuel)
    (hsz : ∀ path ∈ p.paths, ∀ s, postAllF ord s1 path = .ok s → (apply s.σ qv).size ≤ forceFuel) :
    ∃ k zs, drainF (solveAt dfs (pf + 2) (M + 2)) k
        (solveAt dfs (pf + 2) (M + 2) (queryG ord qv qs [p.goal ord]) (State.empty n)) = some zs ∧
      ((pathStates ord p s1).map fun s => reifyState ord s qv).Perm zs := by
  obtain ⟨inv1, hp1, hg1⟩ := query_eq_state ord ho h1
  exact query_tree_from ord ho dfs pf M p hp qv qs (State.empty n) s1 (liftRes_of_ok rfl h1) inv1 hp1 hg1 hnf hsz

theorem pathStates_tree (ord : Order) (ho : OrderOK ord) (n : Nat) (p : FProg) (hp : p.TreeOnly) (qv : Term) (qs : List Term)
    (s1 : State) (h1 : postAtom ord (State.empty n) (.eq qv (Term.ofList qs)) = .ok s1)
    (hnf : ∀ path ∈ p.paths, postAllF ord s1 path ≠ .fuel) (s : State) :
    s ∈ pathStates ord p s1 ↔ ∃ path ∈ p.paths, postAllF ord s1 path = .ok s := by
  obtain ⟨inv1, hp1, hg1⟩ := query_eq_state ord ho h1
  exact pathStates_tree_from ord ho p hp s1 inv1 hp1 hg1 hnf s

/-- C02 FOR THE WHOLE QUERY, ON THE ENGINE, AS REPORTED.  A query `|q…| { p }` whose body is a program of
    `==` / `!=` atoms under conjunction, `conde` and `fresh` over variables below `n`: the engine terminates on the query goal,
    and a tuple `ts` is an instance of one of the REPORTED answers (its terms under an assignment of the `_` variables that
    satisfies its reported disequalities) IF AND ONLY IF it is the value of the query terms under a solution of ONE PATH of
    the body.  Sound and complete, whatever the hash-iteration order and the engine's interleaving.
    Hypotheses that remain: the model's two bounds (`hnf`: no path runs out of unification fuel; `hsz`: the walked query term
    of a path state is within `force_ans`'s depth bound) and scoping (every variable is below `n`).  That a path state binds `__query__` to the list of the query
    terms is proved (`postAll_unified`, Proofs/QueryBind.lean: the substitution only grows and a unification unifies). -/
theorem C02_query_exact (ord : Order) (ho : OrderOK ord) (dfs : Call → State → State × G) (pf M n : Nat)
    (p : FProg) (hp : p.TreeOnly) (qv : Term) (qs : List Term) (s1 : State)
    (h1 : postAtom ord (State.empty n) (.eq qv (Term.ofList qs)) = .ok s1)
    (hnf : ∀ path ∈ p.paths, postAllF ord s1 path ≠ .fuel)
    (hsz : ∀ path ∈ p.paths, ∀ s, postAllF ord s1 path = .ok s → (apply s.σ qv).size ≤ forceFuel)
    (hb : ∀ path ∈ p.paths, ∀ a ∈ path, (tOf a).Below n) (hqv : Below n qv) (hq : ∀ q ∈ qs, Below n q) :
    ∃ k zs, drainF (solveAt dfs (pf + 2) (M + 2)) k
        (solveAt dfs (pf + 2) (M + 2) (queryG ord qv qs [p.goal ord]) (State.empty n)) = some zs ∧
      ∀ ts : List Term,
        (∃ z ∈ zs, ∃ δ : Subst, (∀ c ∈ (mkAnswer ord qs z).constraints, DiseqHolds δ c) ∧
          ts = (mkAnswer ord qs z).terms.map (apply δ)) ↔
        (∃ path ∈ p.paths, ∃ γ : Subst, apply γ qv = apply γ (Term.ofList qs) ∧ (∀ a ∈ path, (tOf a).Sat γ) ∧
          ts = qs.map (apply γ)) := by
  obtain ⟨k, zs, hk, pz⟩ := C02_query_tree ord ho dfs pf M n p hp qv qs s1 h1 hnf hsz
  refine ⟨k, zs, hk, fun ts => ?_⟩
  have hg1 : Good s1 := (postAtom_ok ord ho _ s1 _ (good_empty n) h1).1
  -- a path that runs to `s`: the reported answer of `s` is exact for the atoms `__query__ == [q…]` + the path
  have key : ∀ path ∈ p.paths, ∀ s, postAllF ord s1 path = .ok s →
      ((∃ δ : Subst, (∀ c ∈ (mkAnswer ord qs (reifyState ord s qv)).constraints, DiseqHolds δ c) ∧
          ts = (mkAnswer ord qs (reifyState ord s qv)).terms.map (apply δ)) ↔
        (∃ γ : Subst, apply γ qv = apply γ (Term.ofList qs) ∧ (∀ a ∈ path, (tOf a).Sat γ) ∧ ts = qs.map (apply γ))) := by
    intro path hpath s hr
    have hall := query_path_postAll ord h1 (treeOnly_paths p hp path hpath) hr
    have hbel : ∀ a ∈ (TAtom.eq qv (Term.ofList qs) :: path.map tOf), a.Below n :=
      List.forall_mem_cons.2 ⟨⟨hqv, below_ofList hq⟩, List.forall_mem_map.2 (hb path hpath)⟩
    rw [C02_reported_answer ord ho n _ hbel s hall qs hq qv (postAll_unified ho qv _ _ _ s (good_empty n) hall) ts]
    refine exists_congr fun γ => ?_
    rw [List.forall_mem_cons, List.forall_mem_map, and_assoc]
    rfl
  constructor
  · rintro ⟨z, hz, hδ⟩
    obtain ⟨s, hs, rfl⟩ := List.mem_map.1 (pz.mem_iff.2 hz)
    obtain ⟨path, hpath, hr⟩ := (pathStates_tree ord ho n p hp qv qs s1 h1 hnf s).1 hs
    exact ⟨path, hpath, (key path hpath s hr).1 hδ⟩
  · rintro ⟨path, hpath, γ, h0, hsat, rfl⟩
    have e := postAllF_tree (ord := ord) path s1 (treeOnly_paths p hp path hpath)
    cases hr : postAllF ord s1 path with
    | ok s =>
      have hs := (pathStates_tree ord ho n p hp qv qs s1 h1 hnf s).2 ⟨path, hpath, hr⟩
      exact ⟨reifyState ord s qv, pz.mem_iff.1 (List.mem_map_of_mem hs), (key path hpath s hr).2 ⟨γ, h0, hsat, rfl⟩⟩
    | fail =>
      rw [e] at hr
      exact (postAll_fail ord ho s1 _ hg1 hr γ
        ⟨((postAtom_ok ord ho _ s1 _ (good_empty n) h1).2 γ).2 ⟨stateSem_empty n γ, h0⟩, List.forall_mem_map.2 hsat⟩).elim
    | fuel => exact (hnf path hpath hr).elim
    | panic m => rw [e] at hr; exact (postAll_no_panic ord ho _ s1 hg1 m hr).elim

/-! Non-vacuity: the hypotheses of `C02_query_program` as a Boolean check, and a concrete query that meets them. -/

/-- the per-state hypotheses of `C02_query_program`, decided with `force_ans` fuel `N` -/
def querySideOK (ord : Order) (dfs : Call → State → State × G) (qv : Term) (N : Nat) (s : State) : Bool :=
  s.dstore.isEmpty && s.panic.isNone && s.store.all (fun c => !c.2.isFD) &&
  (match evalRef dfs N (forceAns ord forceFuel qv) s with
   | some zs => zs.all (fun t => t.panic.isNone)
   | none => false)

theorem C02_querySideOK_spec (ord : Order) (dfs : Call → State → State × G) (qv : Term) (N : Nat) (s : State)
    (h : querySideOK ord dfs qv N s = true) :
    s.dstore = [] ∧ s.panic = none ∧ (∀ c ∈ s.store, c.2.isFD = false) ∧
      ∃ N zs, evalRef dfs N (forceAns ord forceFuel qv) s = some zs ∧ ∀ t ∈ zs, t.panic = none := by
  simp only [querySideOK, Bool.and_eq_true] at h
  obtain ⟨⟨⟨h1, h2⟩, h3⟩, h4⟩ := h
  refine ⟨List.isEmpty_iff.1 h1, Option.isNone_iff_eq_none.1 h2, fun c hc => ?_, ?_⟩
  · have := List.all_eq_true.1 h3 c hc
    simpa using this
  · split at h4
    · rename_i zs hz
      exact ⟨N, zs, hz, fun t ht => Option.isNone_iff_eq_none.1 (List.all_eq_true.1 h4 t ht)⟩
    · cases h4

/-- every hypothesis of `C02_query_exact` except `TreeOnly`, as ONE Boolean check on a concrete query -/
def queryTreeOK (ord : Order) (n : Nat) (p : FProg) (qv : Term) (qs : List Term) : Bool :=
  match postAtom ord (State.empty n) (.eq qv (Term.ofList qs)) with
  | .ok s1 =>
    qv.vars.all (· < n) && qs.all (fun q => q.vars.all (· < n)) &&
    p.paths.all fun path =>
      path.all (fun a => match tOf a with
        | .eq u v => u.vars.all (· < n) && v.vars.all (· < n)
        | .neq u v => u.vars.all (· < n) && v.vars.all (· < n)) &&
      (match postAllF ord s1 path with
       | .ok s => decide ((apply s.σ qv).size ≤ forceFuel)
       | .fail => true
       | _ => false)
  | _ => false

/-- `C02_query_exact`, with its hypotheses discharged by the Boolean check -/
theorem C02_query_exact_checked (ord : Order) (ho : OrderOK ord) (dfs : Call → State → State × G) (pf M n : Nat)
    (p : FProg) (hp : p.TreeOnly) (qv : Term) (qs : List Term) (hc : queryTreeOK ord n p qv qs = true) :
    ∃ k zs, drainF (solveAt dfs (pf + 2) (M + 2)) k
        (solveAt dfs (pf + 2) (M + 2) (queryG ord qv qs [p.goal ord]) (State.empty n)) = some zs ∧
      ∀ ts : List Term,
        (∃ z ∈ zs, ∃ δ : Subst, (∀ c ∈ (mkAnswer ord qs z).constraints, DiseqHolds δ c) ∧
          ts = (mkAnswer ord qs z).terms.map (apply δ)) ↔
        (∃ path ∈ p.paths, ∃ γ : Subst, apply γ qv = apply γ (Term.ofList qs) ∧ (∀ a ∈ path, (tOf a).Sat γ) ∧
          ts = qs.map (apply γ)) := by
  unfold queryTreeOK at hc
  split at hc
  · rename_i s1 h1
    simp only [Bool.and_eq_true, List.all_eq_true, decide_eq_true_eq] at hc
    obtain ⟨⟨hqv, hq⟩, hpaths⟩ := hc
    refine C02_query_exact ord ho dfs pf M n p hp qv qs s1 h1 (fun path hpath hr => ?_) (fun path hpath s hr => ?_)
      (fun path hpath a ha => ?_) (fun y hy => hqv y hy) (fun q hq' y hy => hq q hq' y hy)
    · have := (hpaths path hpath).2
      rw [hr] at this
      cases this
    · have := (hpaths path hpath).2
      rw [hr] at this
      exact of_decide_eq_true this
    · have := (hpaths path hpath).1 a ha
      cases hta : tOf a with
      | eq u v => rw [hta] at this; simp only [Bool.and_eq_true, List.all_eq_true, decide_eq_true_eq] at this; exact ⟨fun y hy => this.1 y hy, fun y hy => this.2 y hy⟩
      | neq u v => rw [hta] at this; simp only [Bool.and_eq_true, List.all_eq_true, decide_eq_true_eq] at this; exact ⟨fun y hy => this.1 y hy, fun y hy => this.2 y hy⟩
  · cases hc

section Examples
/-- `|q| { conde { q == 1 ; q != 2 ; [q == 3, q != 3] } }`: query variable `x0`, `__query__` = `x1` -/
private def exP : FProg := .alt (.atom (.eq (.var 0) (Term.num 1)))
  (.alt (.atom (.neq (.var 0) (Term.num 2))) (.conj (.atom (.eq (.var 0) (Term.num 3))) (.atom (.neq (.var 0) (Term.num 3)))))
private def exS1 : State := ((liftRes fun st => postAtom Order.default st (.eq (.var 1) (Term.ofList [.var 0]))) (State.empty 2)).getD (State.empty 2)
example : (liftRes fun st => postAtom Order.default st (.eq (.var 1) (Term.ofList [.var 0]))) (State.empty 2) = some exS1 := by
  have h : ((liftRes fun st => postAtom Order.default st (.eq (.var 1) (Term.ofList [.var 0]))) (State.empty 2)).isSome = true := by
    decide +kernel
  unfold exS1
  cases hx : (liftRes fun st => postAtom Order.default st (.eq (.var 1) (Term.ofList [.var 0]))) (State.empty 2) with
  | none => rw [hx] at h; cases h
  | some s => rfl
/-- three paths, two survive; both path states meet the hypotheses -/
example : (pathStates Order.default exP exS1).length = 2 ∧
    (pathStates Order.default exP exS1).all (querySideOK Order.default (defs Order.default) (.var 1) 40) = true := by decide +kernel
/-- and the engine itself, run on the whole query goal, delivers the two reified states -/
example : (drainF (solveAt (defs Order.default) 4 4) 200
    (solveAt (defs Order.default) 4 4 (queryG Order.default (.var 1) [.var 0] [exP.goal Order.default]) (State.empty 2))).map
      (fun zs => zs.map fun s => apply s.σ (.var 0)) = some [Term.num 1, .var 2] := by decide +kernel
/-- NON-VACUITY of `C02_query_exact`: every hypothesis holds for this query, so its conclusion does -/
example : ∃ k zs, drainF (solveAt (defs Order.default) 4 4) k
      (solveAt (defs Order.default) 4 4 (queryG Order.default (.var 1) [.var 0] [exP.goal Order.default]) (State.empty 2)) = some zs ∧
    ∀ ts : List Term,
      (∃ z ∈ zs, ∃ δ : Subst, (∀ c ∈ (mkAnswer Order.default [.var 0] z).constraints, DiseqHolds δ c) ∧
        ts = (mkAnswer Order.default [.var 0] z).terms.map (apply δ)) ↔
      (∃ path ∈ exP.paths, ∃ γ : Subst, apply γ (.var 1) = apply γ (Term.ofList [.var 0]) ∧ (∀ a ∈ path, (tOf a).Sat γ) ∧
        ts = [Term.var 0].map (apply γ)) :=
  C02_query_exact_checked Order.default orderOK_default (defs Order.default) 2 2 2 exP
    ⟨trivial, trivial, trivial, trivial⟩ (.var 1) [.var 0] (by decide +kernel)
/-- a second instantiation: two query variables, a hidden variable, a disequality between a query variable and the hidden one,
    nested `conde` under `fresh`, an improper-list binding — `|x, y| { fresh |h| { x == [1 | h], conde { h == [] ; [h != [2], y == h] } } }`
    (`x0`, `x1` query variables, `x2` hidden, `x3` = `__query__`) -/
private def exP2 : FProg := .fresh (.conj (.atom (.eq (.var 0) (.cons (Term.num 1) (.var 2))))
  (.alt (.atom (.eq (.var 2) .nil))
    (.conj (.atom (.neq (.var 2) (Term.ofList [Term.num 2]))) (.atom (.eq (.var 1) (.var 2))))))
example : ∃ k zs, drainF (solveAt (defs Order.default) 4 4) k
      (solveAt (defs Order.default) 4 4 (queryG Order.default (.var 3) [.var 0, .var 1] [exP2.goal Order.default]) (State.empty 4)) = some zs ∧
    ∀ ts : List Term,
      (∃ z ∈ zs, ∃ δ : Subst, (∀ c ∈ (mkAnswer Order.default [.var 0, .var 1] z).constraints, DiseqHolds δ c) ∧
        ts = (mkAnswer Order.default [.var 0, .var 1] z).terms.map (apply δ)) ↔
      (∃ path ∈ exP2.paths, ∃ γ : Subst, apply γ (.var 3) = apply γ (Term.ofList [.var 0, .var 1]) ∧ (∀ a ∈ path, (tOf a).Sat γ) ∧
        ts = [Term.var 0, Term.var 1].map (apply γ)) :=
  C02_query_exact_checked Order.default orderOK_default (defs Order.default) 2 2 4 exP2
    ⟨trivial, trivial, trivial, trivial⟩ (.var 3) [.var 0, .var 1] (by decide +kernel)
/-- … and what the engine reports for it: `([1], _0)` and `([1 | _0], _0)` with the constraint `_0 != [2]` -/
example : (drainF (solveAt (defs Order.default) 4 4) 400
    (solveAt (defs Order.default) 4 4 (queryG Order.default (.var 3) [.var 0, .var 1] [exP2.goal Order.default]) (State.empty 4))).map
      (fun zs => zs.map fun z => ((mkAnswer Order.default [.var 0, .var 1] z).terms, (mkAnswer Order.default [.var 0, .var 1] z).constraints)) =
    some [([Term.ofList [Term.num 1], .var 4], []),
          ([.cons (Term.num 1) (.var 4), .var 4], [[(4, Term.ofList [Term.num 2])]])] := by decide +kernel
/-- `C02_query_any_body` at work: `|x| { member(x, [1, 2, 1]) }` — the engine on the whole query goal delivers one answer per
    matching position (`C24_member_one_per_position`), each reified -/
example : (drainF (solveAt (defs Order.default) 4 4) 400
    (solveAt (defs Order.default) 4 4 (queryG Order.default (.var 1) [.var 0]
      [.call ⟨.member, [.var 0, Term.ofList [Term.num 1, Term.num 2, Term.num 1]], false⟩]) (State.empty 2))).map
      (fun zs => zs.map fun s => (s.panic.isSome, apply s.σ (.var 0))) =
    some [(false, Term.num 1), (false, Term.num 2), (false, Term.num 1)] := by decide +kernel
end Examples

end Pv
