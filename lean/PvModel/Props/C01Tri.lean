/-
  C01 — the TRIANGULAR algorithm the code runs (Model/Triangular.lean: `SMap` as a list of bindings whose right-hand
  sides are only top-level walked, `walk` following chains, `occurs_check` and `walk_star` walking at every level,
  `unify_rec` case for case) REFINES the solved-form model `unifyF` about which the other C01 theorems are stated.

  `absT τ` is the solved form `τ` stands for; `TriOK τ` the invariant of `unify_rec` (reachable: `C01_tri_reachable`,
  kept: `C01_tri_refines`).  All theorems: every `τ` with the invariant, all terms, all fuels.
-/
import PvModel.Proofs.Triangular
import PvModel.Props.C01
namespace Pv
open Term

/-- the empty substitution has the invariant and stands for the identity -/
theorem C01_tri_reachable : TriOK [] ∧ absT [] = Subst.id := ⟨.nil, rfl⟩

/-- `SMap::walk` terminates within `length + 1` lookups — there is no cyclic chain of bindings — and returns a term that
    is not a bound variable, has the meaning of the walked term, and is the term itself when that is not a variable -/
theorem C01_tri_walk (τ : TSub) (h : TriOK τ) (u : Term) :
    ∃ w, walkT (τ.length + 1) τ u = some w ∧ apply (absT τ) w = apply (absT τ) u ∧
      (∀ y, w = .var y → τ.get y = none) ∧ (u.isVar = false → w = u) := by
  obtain ⟨w, hw, sp⟩ := walkT_spec h u
  exact ⟨w, hw, sp.sem, sp.walked, sp.nonvar⟩

/-- `SMap::walk_star` terminates (fuel: the size of its result) and computes the solved form's `apply` — what an answer
    reports under the triangular substitution is what the model reports under the solved form -/
theorem C01_tri_walk_star (τ : TSub) (h : TriOK τ) (n : Nat) (t : Term) (hn : size (apply (absT τ) t) ≤ n) :
    walkStarT n τ t = some (apply (absT τ) t) := walkStarT_spec h n t hn

/-- `SMap::occurs_check(x, t)` terminates and is `x ∈ walk_star t`; with any fuel on which it answers, that is its answer -/
theorem C01_tri_occurs (τ : TSub) (h : TriOK τ) (x n : Nat) (t : Term) :
    (size (apply (absT τ) t) ≤ n → occursT n τ x t = some (occurs x (apply (absT τ) t))) ∧
    (∀ b, occursT n τ x t = some b → b = occurs x (apply (absT τ) t)) :=
  ⟨occursT_spec h x n t, fun b hb => occursT_sound h x n t b hb⟩

/-- REFINEMENT.  Whatever `unify_rec` answers on `τ`, the solved-form model answers on `absT τ`: failure for failure; on
    success the new triangular substitution is the old one with the new bindings in front, keeps the invariant, STANDS
    FOR the model's new solved form, and the extension lists correspond binding for binding (`extF`: the model stores
    the walk-starred right-hand side, the code the walked one). -/
theorem C01_tri_refines (k n : Nat) (τ eT : TSub) (eF : Ext1) (u v : Term) (h : TriOK τ)
    (r : Option (TSub × TSub)) (hr : unifyT k n τ eT u v = some r) :
    match r with
    | none => unifyF n (absT τ) eF u v = some none
    | some (τ', eT') => ∃ new, τ' = new ++ τ ∧ eT' = new ++ eT ∧ TriOK τ' ∧
        unifyF n (absT τ) eF u v = some (some (absT τ', extF new τ ++ eF)) := by
  have := unifyT_refines k n τ eT eF u v u v h rfl rfl r hr
  cases r with
  | none => exact this
  | some p => exact this

/-- … and it does answer: for some recursion fuel and every occurs-check fuel beyond some bound (so the refinement is
    never vacuous) -/
theorem C01_tri_terminates (τ eT : TSub) (u v : Term) (h : TriOK τ) :
    ∃ n K, ∀ k, K ≤ k → unifyT k n τ eT u v ≠ none := by
  obtain ⟨n, hn⟩ := unifyF_terminates (absT τ) [] u v h.solved
  cases hF : unifyF n (absT τ) [] u v with
  | none => exact absurd hF hn
  | some rF =>
    obtain ⟨K, hK⟩ := unifyT_progress n τ eT [] u v u v h rfl rfl rF hF
    exact ⟨n, K, hK⟩

/-- the answer does not depend on the fuel of the occurs checks -/
theorem C01_tri_fuel_independent (k k' n : Nat) (τ e : TSub) (u v : Term) (h : TriOK τ) (r r' : Option (TSub × TSub))
    (h1 : unifyT k n τ e u v = some r) (h2 : unifyT k' n τ e u v = some r') : r = r' :=
  unifyT_indep k k' n τ e u v h r r' h1 h2

/-- the C01 theorems, read on the triangular algorithm: on success the substitution it builds stands for a solved form
    that extends the prior bindings, unifies the two terms and is most general among the unifiers consistent with the
    prior bindings -/
theorem C01_tri_sound_mgu (k n : Nat) (τ eT τ' eT' : TSub) (u v : Term) (h : TriOK τ)
    (hr : unifyT k n τ eT u v = some (some (τ', eT'))) :
    TriOK τ' ∧ Solved (absT τ') ∧ Ext (absT τ) (absT τ') ∧ Unifies (absT τ') u v ∧
      ∀ θ : Subst, Ext (absT τ) θ → Unifies θ u v → Ext (absT τ') θ := by
  obtain ⟨new, _, _, ok, hF⟩ := unifyT_refines k n τ eT [] u v u v h rfl rfl _ hr
  obtain ⟨s1, s2, s3⟩ := unifyF_sound n _ _ _ _ u v h.solved hF
  exact ⟨ok, s1, s2, s3, unifyF_mgu n _ _ _ _ u v h.solved hF⟩

/-- … and it fails only when no finite unifier consistent with the prior bindings exists -/
theorem C01_tri_fail_complete (k n : Nat) (τ eT : TSub) (u v : Term) (h : TriOK τ)
    (hr : unifyT k n τ eT u v = some none) : ¬ ∃ θ : Subst, Ext (absT τ) θ ∧ Unifies θ u v :=
  unifyF_fail n _ [] u v h.solved (unifyT_refines k n τ eT [] u v u v h rfl rfl _ hr)

/-! Non-vacuity: a reachable triangular substitution with a chain `x3 ↦ x0 ↦ [C7(x2) …]`, right-hand sides that are NOT
    walk-starred, and the occurs check through a chain. -/
section Examples
private def t1 : Term := .cons (.var 0) (.var 1)
private def t2 : Term := .cons (.comp 7 (.cons (.var 2) .nil)) (.cons (num 5) .nil)
example : (match unifyT 20 10 [] [] (.var 3) (.var 0) with
    | some (some (τ1, _)) =>
      (match unifyT 20 10 τ1 [] (.cons (.var 3) (.var 1)) t2 with
       | some (some (τ2, e2)) => e2.length == 2 && τ2.length == 3 && walkStarT 20 τ2 (.var 3) == some (.comp 7 (.cons (.var 2) .nil))
       | _ => false)
    | _ => false) = true := by decide
/-- the stored right-hand side keeps the bound variable `x0` unreplaced: triangular, not solved -/
example : (match unifyT 20 10 [(0, num 1)] [] (.var 1) (.cons (.var 0) .nil) with
    | some (some (τ', _)) => τ'.get 1 == some (.cons (.var 0) .nil) && walkStarT 20 τ' (.var 1) == some (.cons (num 1) .nil)
    | _ => false) = true := by decide
/-- occurs check through a chain of bindings -/
example : unifyT 20 10 [(1, .cons (.var 0) .nil)] [] (.var 0) (.comp 3 (.var 1)) = some none := by decide
example : TriOK [(1, .cons (.var 0) .nil), (0, num 1)] :=
  .cons (.cons .nil rfl (fun _ h => nomatch h) rfl) rfl (fun _ h => nomatch h) rfl
end Examples

end Pv
