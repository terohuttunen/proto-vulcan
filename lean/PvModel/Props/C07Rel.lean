/-
  C07 / C06 / C24 — DELIVERY for programs over the library relations: what `Solver::next` delivers after finitely
  many steps, for programs of `==`, `!=`, conjunction, `conde`, fresh and (interleaving) calls of member /
  member1 / append / rember / permute / distinct — recursion with infinitely many answers included.
-/
import PvModel.Proofs.RelFair
namespace Pv
open Strm Goal State Term

theorem RProg.noD (ord : Order) : ∀ (p : RProg), p.NoDfs → NoD (p.goal ord)
  | .succeed, _ => .succeed
  | .fail, _ => .fail
  | .atom _, _ => .atom _
  | .conj p q, h => .conj (RProg.noD ord p h.1) (RProg.noD ord q h.2)
  | .alt p q, h => .alt (RProg.noD ord p h.1) (RProg.noD ord q h.2)
  | .fresh p, h => .fresh (RProg.noD ord p h)
  | .call _, h => .call h

/-- `Solver::next` delivers exactly the big-step answers (relation calls unfold their bodies), after finitely
    many steps each, however many there are -/
theorem C07_delivered_iff_bigstep (ord : Order) (pf M : Nat) (g : G) (hg : NoD g) (a b : State) :
    (∃ n, b ∈ runF (solveAt (defs ord) pf (M + 1)) n (solveAt (defs ord) pf (M + 1) g a)) ↔ Big (defs ord) g a b :=
  delivered_iff_big pf M hg a b

/-- EVERY SOLUTION IS DELIVERED: a valuation that satisfies the program's declarative meaning is described — on
    the program's variables — by a state that `next` delivers after finitely many steps (or a FUEL-poisoned
    state is delivered): no solution is starved, whichever clauses diverge or produce infinitely many answers -/
theorem C07_rel_every_solution_delivered (ord : Order) (ho : OrderOK ord) (pf M nv : Nat) (p : RProg) (w : p.WF nv)
    (nd : p.NoDfs) (γ : Subst) (h : p.Sem γ) :
    ∃ n b, b ∈ runF (solveAt (defs ord) pf (M + 1)) n (solveAt (defs ord) pf (M + 1) (p.goal ord) (State.empty nv)) ∧
      (b.panic.isSome = true ∨ ∃ γ', Agree nv γ γ' ∧ StateSem γ' b) := by
  obtain ⟨b, hb, post⟩ := prog_complete ho p (State.empty nv) γ w rfl (rinv_empty nv) (stateSem_empty nv γ) h
  obtain ⟨n, hn⟩ := (delivered_iff_big pf M (RProg.noD ord p nd) _ b).2 hb
  exact ⟨n, b, hn, post.desc⟩

/-- NOTHING ELSE IS DELIVERED: an unpoisoned delivered state describes only solutions of the program -/
theorem C06_rel_no_invention (ord : Order) (ho : OrderOK ord) (pf M nv : Nat) (p : RProg) (n : Nat) (b : State)
    (hb : b ∈ runF (solveAt (defs ord) pf (M + 1)) n (solveAt (defs ord) pf (M + 1) (p.goal ord) (State.empty nv)))
    (hp : b.panic.isSome = false) (γ : Subst) (hγ : StateSem γ b) : p.Sem γ :=
  prog_sound ho pf M (M + 1) nv p b (runF_sound _ (topOK_solveAt (defs ord) pf M) n _ b hb) hp γ hγ

section Examples
/-- non-vacuity: `append(x, y, z)` — infinitely many answers — is in the fragment, and its fourth answer
    (x = [_, _, _], a term of size 7) is delivered within 60 steps -/
example : NoD ((RProg.call ⟨.append, [.var 0, .var 1, .var 2], false⟩).goal Order.default) := .call rfl
example : ((runF (solveAt (defs Order.default) 5 2) 60
      (solveAt (defs Order.default) 5 2 (.call ⟨.append, [.var 0, .var 1, .var 2], false⟩) (State.empty 3))).map
        fun s => (s.panic.isSome, (apply s.σ (.var 0)).size)).take 4 = [(false, 1), (false, 3), (false, 5), (false, 7)] := by
  decide +kernel
end Examples

end Pv
