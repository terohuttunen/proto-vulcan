/-
  C02, whole programs: for every program built from `==`, `!=`, conjunction, disjunction (`conde`) and fresh
  variables, the states the interleaving engine delivers describe — together — EXACTLY the program's
  solutions: the valuations that satisfy every equality and disequality along one path of the program.
  (A corollary of `fd_program`, Proofs/FDProgram.lean, for programs whose atoms are tree atoms.)
-/
import PvModel.Props.C04
namespace Pv
open State Term Goal

/-- PROGRAMS: for any program of `==`, `!=`, conjunction, `conde` and fresh variables (any nesting), under any
    hash-iteration order and at any solver nesting level, the interleaving search terminates and
    (1) whatever valuation an (unpoisoned) delivered state describes — it extends the state's substitution and
        makes every disequality attached to it true — is a solution of the program;
    (2) every solution of the program is described by one of the delivered states
        (unless that path's own run ran out of the model's unification fuel, which the driver reports as FUEL).
    Ground valuations are a special case: the ground instances of the answers' states are exactly the
    program's ground solutions. -/
theorem C02_program_exact {ord : Order} (ho : OrderOK ord) (dfs : Call → State → State × G) (pf M nv : Nat)
    (p : FProg) (ht : p.TreeOnly) :
    ∃ k ys, drainF (solveAt dfs pf (M + 1)) k (solveAt dfs pf (M + 1) (p.goal ord) (State.empty nv)) = some ys ∧
      (∀ s ∈ ys, s.panic = none → ∀ γ, Sem NoI γ s → FSols p γ) ∧
      (∀ γ, FSols p γ → (∀ path ∈ p.paths, postAllF ord (State.empty nv) path ≠ .fuel) → ∃ s ∈ ys, Sem NoI γ s) :=
  @fd_program_sols Mode.strict ord ho dfs pf M nv p (FProg.TreeOnly.ok p ht)

/-- the posting order inside a conjunction, and the order of the clauses, do not matter for the solutions -/
theorem C02_program_order_free (p q : FProg) (γ : Subst) :
    (FSols (.conj p q) γ ↔ FSols (.conj q p) γ) ∧ (FSols (.alt p q) γ ↔ FSols (.alt q p) γ) :=
  @C04_program_comm Mode.strict p q γ

section Examples
/-- non-vacuity: `x != 5, conde { x == 5 ; [x, y] == [6, z] }` is a tree-only program with two paths, the first
    of which is unsatisfiable -/
private def prog02 : FProg :=
  .conj (.atom (.neq (.var 0) (num 5)))
    (.alt (.atom (.eq (.var 0) (num 5)))
      (.fresh (.atom (.eq (.cons (.var 0) (.cons (.var 1) .nil)) (.cons (num 6) (.cons (.var 2) .nil))))))
example : prog02.TreeOnly := ⟨trivial, trivial, trivial⟩
example : prog02.paths.length = 2 := by decide +kernel
example : (prog02.paths.map fun path => match postAllF Order.default (State.empty 3) path with
    | .ok _ => "ok" | .fail => "fail" | _ => "?") = ["fail", "ok"] := by decide +kernel
end Examples

end Pv
