/-
  C16 — CLP(FD) answers satisfy every posted finite-domain constraint.

  Model: Model/State.lean mirrors src/relation/clpfd/*.rs and the FD part of src/state/mod.rs function by
  function (`processDomain`, `updateVarDomain`, `resolveStorable`, `excludeFromDomain`, `runConstraintsF`,
  `processExtensionFd`, one `run…` per propagator with its re-run protocol).

  What is proved here.  LOCAL theorems, for ALL states, operands, domains, iteration orders, fuel levels:
  ground-exactness of every arithmetic/ordering propagator, the membership test a bound operand gets
  against its domain, `ltfd = diseqfd ∧ ltefd`.  GLOBAL theorems, through the re-entrant `run_constraints`:
  whatever valuation a reached state describes satisfies every posted atom (`C16_state_sound`), and on the
  engine every delivered state describes only solutions of one path (`C16_program_sound`).  That the model
  is the implementation is the correspondence's part (every generated program, and the brute-force oracle).
-/
import PvModel.Proofs.FDLocal
import PvModel.Proofs.FD
import PvModel.Model.Goals
import PvModel.Proofs.FDExact
import PvModel.Proofs.FDProgram
import PvModel.Proofs.Live
namespace Pv
open Term State

variable (rc : State → Res State) (ord : Order)

/-- With all three operands numbers `plusfd` succeeds, leaving the state as it is, exactly when
    `u + v = w`; otherwise it fails (so no answer can carry a violated ground `plusfd`). -/
theorem C16_ground_plus (k id : Nat) (st : State) (u v w : Term) (a b c : Int)
    (hu : IsNumAt st u a) (hv : IsNumAt st v b) (hw : IsNumAt st w c) :
    runCst rc ord k id (.plusfd u v w) st = if a + b = c then .ok st else .fail :=
  plusfd_ground rc ord k id st u v w a b c hu hv hw

theorem C16_ground_minus (k id : Nat) (st : State) (u v w : Term) (a b c : Int)
    (hu : IsNumAt st u a) (hv : IsNumAt st v b) (hw : IsNumAt st w c) :
    runCst rc ord k id (.minusfd u v w) st = if a - b = c then .ok st else .fail :=
  minusfd_ground rc ord k id st u v w a b c hu hv hw

theorem C16_ground_times (k id : Nat) (st : State) (u v w : Term) (a b c : Int)
    (hu : IsNumAt st u a) (hv : IsNumAt st v b) (hw : IsNumAt st w c) :
    runCst rc ord k id (.timesfd u v w) st = if a * b = c then .ok st else .fail :=
  timesfd_ground rc ord k id st u v w a b c hu hv hw

theorem C16_ground_lte (k id : Nat) (st : State) (u v : Term) (a b : Int)
    (hu : IsNumAt st u a) (hv : IsNumAt st v b) :
    runCst rc ord k id (.ltefd u v) st = if a ≤ b then .ok st else .fail :=
  ltefd_ground rc ord k id st u v a b hu hv

theorem C16_ground_diseq (k id : Nat) (st : State) (u v : Term) (a b : Int)
    (hu : IsNumAt st u a) (hv : IsNumAt st v b) :
    runCst rc ord k id (.diseqfd u v) st = if a = b then .fail else .ok st :=
  diseqfd_ground rc ord k id st u v a b hu hv

/-- `ltfd(u, v)` is the conjunction `diseqfd(u, v), ltefd(u, v)` -/
theorem C16_ltfd (u v : Term) :
    ltfdG ord u v = Goal.conjOfList [diseqfdG ord u v, ltefdG ord u v] := rfl

/-- A variable that is (or becomes) bound to a number is checked against the domain it is given:
    "each constrained variable gets an integer from its domain". -/
theorem C16_domain_check (st : State) (x : Term) (d : FD) (v : Int) (hx : IsNumAt st x v) :
    processDomain rc st x d = if d.contains v then .ok st else .fail := by
  unfold IsNumAt at hx
  simp only [processDomain, hx]

/-- a term bound to something that is not a number cannot be given a domain -/
theorem C16_domain_nonnum (st : State) (x : Term) (d : FD)
    (h1 : ∀ y, walk st.σ x ≠ .var y) (h2 : ∀ n, walk st.σ x ≠ .val (.num n)) :
    processDomain rc st x d = .fail := by
  unfold processDomain
  split
  · rename_i y h; exact absurd h (h1 y)
  · rename_i n h; exact absurd h (h2 n)
  · rfl

/-- A domain that shrinks to one value binds the variable to that value (and runs the constraints);
    a non-singleton domain is stored.  The bound value is a member of the domain. -/
theorem C16_singleton_binds (st : State) (x : Nat) (d : FD) (hd : FD.WF d) :
    (∀ n, d.singletonValue = some n →
        resolveStorable rc st x d = rc ({ st with σ := bindS x (Term.num n) st.σ }.dremove x) ∧ d.Mem n) ∧
    (d.singletonValue = none → resolveStorable rc st x d = .ok (st.dinsert x d)) := by
  refine ⟨fun n h => ⟨by simp only [resolveStorable, h], ?_⟩, fun h => by simp only [resolveStorable, h]⟩
  exact ((FD.singletonValue_spec d hd n).1 h n).2 rfl

/-! ### the global theorems (Proofs/FDGlobal, FDDistinct, FDRun, FDTop, FDExact, FDProgram): through the re-entrant
    propagation loop.  They are stated for BOTH modes of Spec/FDSem.lean (`[Mode]`): in the strict mode
    `FAtom.OK` excludes `distinctfd` and no panic site is reachable; in the lax mode `distinctfd` on a proper
    list term is allowed (`C16_distinctfd_*` below instantiate it). -/
section Global
variable [Mode]

/-- SOUNDNESS OF THE WHOLE MACHINE, every posting order, operand aliasing, domain sign and hash-iteration
    order: whatever valuation the state reached after posting a conjunction of `infd` / `ltefd` / `plusfd` /
    `minusfd` / `timesfd` / `diseqfd` / `==` / `!=` / CLP(Z) atoms still describes, it satisfies EVERY posted
    atom — each constrained variable is an integer of its domain and every constraint holds.
    (`FAtom.OK`: well-formed domains; `distinctfd` in the lax mode, on a proper list term.) -/
theorem C16_state_sound {ord : Order} (ho : OrderOK ord) (n : Nat) (as : List FAtom) (hok : ∀ a ∈ as, a.OK)
    (st' : State) (h : postAllF ord (State.empty n) as = .ok st') (γ : Subst) (hγ : Sem NoI γ st') :
    ∀ a ∈ as, a.Sat γ := (fd_exact_ok ho n as hok st' h γ).1 hγ

/-- … in particular an ANSWER state with nothing pending (every constraint discharged, every domain turned
    into a binding — what labelling leaves behind) satisfies every posted atom under its own substitution:
    the integers it reports are a solution. -/
theorem C16_answer_sound {ord : Order} (ho : OrderOK ord) (n : Nat) (as : List FAtom) (hok : ∀ a ∈ as, a.OK)
    (st' : State) (h : postAllF ord (State.empty n) as = .ok st') (hs : st'.store = []) (hd : st'.dstore = []) :
    ∀ a ∈ as, a.Sat st'.σ := fd_closed ho n as hok st' h hs hd

/-- one `c.run` of ANY propagator (`distinctfd` and its worker included, in the lax mode), at any re-run depth, over any nested
    `run_constraints` that keeps the solution set: the resulting state describes exactly the valuations of
    the state it started from that satisfy the constraint (`Ref`), and a failure refutes it -/
theorem C16_run_exact {rc : State → Res State} (hrc : RcOK rc) (hrs : RcSem rc) {ord : Order} (ho : OrderOK ord)
    (k i : Nat) (c : Cst) (st : State) (I : Nat → Prop) (hI : IOK I st) (w : WFS st) (f : Fr i st)
    (hd : c.isDiseq = false) (hok : CstOK c) :
    Ref I (fun γ => CstSem γ c) st (runCst rc ord k i c st) :=
  runCst_selfSem hrc hrs ho k I i c st hI w f hd hok

/-- `State::run_constraints` at every nesting depth keeps the described valuations exactly; a failure means
    the state described none -/
theorem C16_run_constraints_exact {ord : Order} (ho : OrderOK ord) (n : Nat) (st : State) (w : WFS st) (hi : Inv st) :
    Ref NoI (fun _ => True) st (runConstraintsF ord n st) :=
  runConstraintsF_sem ho n NoI st (iok_noI st) w hi


/-- PROGRAMS ON THE ENGINE (soundness): for every constraint program — atoms of the fragment combined by
    conjunction, `conde` and `fresh`, in any nesting — the interleaving search terminates, and every
    (unpoisoned) state it delivers describes only solutions of ONE PATH of the program: whatever
    valuation such a state still describes satisfies every constraint posted along that path. -/
theorem C16_program_sound {ord : Order} (ho : OrderOK ord) (dfs : Call → State → State × G) (pf M nv : Nat)
    (p : FProg) (hok : p.OK) :
    ∃ k ys, drainF (solveAt dfs pf (M + 1)) k (solveAt dfs pf (M + 1) (p.goal ord) (State.empty nv)) = some ys ∧
      runF (solveAt dfs pf (M + 1)) k (solveAt dfs pf (M + 1) (p.goal ord) (State.empty nv)) = ys ∧
      ∀ s ∈ ys, s.panic = none → ∃ path ∈ p.paths, ∀ γ, Sem NoI γ s → ∀ a ∈ path, a.Sat γ := by
  obtain ⟨k, ys, h1, h2, h3, _⟩ := fd_program ho dfs pf M nv p hok
  exact ⟨k, ys, h1, h2, fun s hs hp => by
    obtain ⟨path, hpth, hsem⟩ := h3 s hs hp
    exact ⟨path, hpth, fun γ hγ => (hsem γ).1 hγ⟩⟩


end Global

/-- SOUNDNESS WITH `distinctfd`: the same statement for programs that also post `distinctfd` on proper list
    terms (of variables, integers or anything else): whatever valuation the reached state still describes
    makes the elements of every such list pairwise different integers, and satisfies every other atom. -/
theorem C16_distinctfd_state_sound {ord : Order} (ho : OrderOK ord) (n : Nat) (as : List FAtom)
    (hok : ∀ a ∈ as, @FAtom.OK Mode.lax a)
    (st' : State) (h : postAllF ord (State.empty n) as = .ok st') (γ : Subst) (hγ : Sem NoI γ st') :
    ∀ a ∈ as, a.Sat γ := @C16_state_sound Mode.lax ord ho n as hok st' h γ hγ

/-- … and an answer state with nothing pending reports a solution -/
theorem C16_distinctfd_answer_sound {ord : Order} (ho : OrderOK ord) (n : Nat) (as : List FAtom)
    (hok : ∀ a ∈ as, @FAtom.OK Mode.lax a)
    (st' : State) (h : postAllF ord (State.empty n) as = .ok st') (hs : st'.store = []) (hd : st'.dstore = []) :
    ∀ a ∈ as, a.Sat st'.σ := @C16_answer_sound Mode.lax ord ho n as hok st' h hs hd

/-- the three panic sites of `distinctfd` (`Invalid constant constraint`, `Invalid value`, `Invalid LTerm`:
    a list element that is, or has become, something other than an integer) are the ONLY panic sites the
    state machine can reach, and it reaches them only when the posted atoms have NO solution: a panic never
    hides an answer -/
theorem C16_distinctfd_panic_is_failure {ord : Order} (ho : OrderOK ord) (n : Nat) (as : List FAtom)
    (hok : ∀ a ∈ as, @FAtom.OK Mode.lax a) (s : String) (h : postAllF ord (State.empty n) as = .panic s) :
    DP s ∧ ¬ ∃ γ, ∀ a ∈ as, a.Sat γ := (@fd_panic_refuted Mode.lax ord ho n as hok s h).2

/-- the meaning of `distinctfd` on a proper list: its elements denote pairwise different integers -/
theorem C16_distinctfd_meaning (γ : Subst) (l : List Term) :
    CstSem γ (.distinctfd (Term.ofList l)) ↔
      ((∀ e ∈ l, ∃ k, apply γ e = Term.num k) ∧ (l.map (apply γ)).Nodup) := by
  rw [cstSem_d1_iff]
  exact ⟨fun a => ⟨a.1, a.2.1⟩, fun a => ⟨a.1, a.2, fun _ _ _ _ h => nomatch h⟩⟩

/-! ### no stored propagator is ground (D11, as an invariant; strict mode:
    the worker of `distinctfd` stays in the store for good) -/
section Strict
attribute [local instance] Mode.strict

/-- LIVENESS: in every state reached by posting atoms (any order, any hash-iteration order) no stored
    propagator has all its operands ground: a constraint whose operands have all become numbers — through
    its own propagation, a nested re-run, labelling or a unification — has been re-run, and so checked and
    discharged or refuted.  (`run_constraints` re-establishes this from ANY state: `runConstraintsF_live`.) -/
theorem C16_live {ord : Order} (ho : OrderOK ord) (n : Nat) (as : List FAtom) (hok : ∀ a ∈ as, a.OK)
    (st' : State) (h : postAllF ord (State.empty n) as = .ok st') :
    ∀ p ∈ st'.store, p.2.isDiseq = false → ∃ t ∈ operandsOf p.2, (walk st'.σ t).isNum = false := by
  intro p hp hd
  rcases fd_live ho n as hok st' h p hp hd with f | g
  · exact f.elim
  · exact g

/-- ANSWERS: a state reached by posting atoms (the program's and the labelling equalities) in which every
    operand of every stored propagator is a number, which holds no tree disequality and no domain, reports a
    SOLUTION: every posted atom holds under its own substitution.  (Liveness shows its constraint store is
    empty, exactness that an empty state describes its substitution.) -/
theorem C16_ground_answer_sound {ord : Order} (ho : OrderOK ord) (n : Nat) (as : List FAtom) (hok : ∀ a ∈ as, a.OK)
    (st' : State) (h : postAllF ord (State.empty n) as = .ok st')
    (hg : ∀ p ∈ st'.store, p.2.isDiseq = false → ∀ t ∈ operandsOf p.2, (walk st'.σ t).isNum = true)
    (hnd : ∀ p ∈ st'.store, p.2.isDiseq = false) (hd : st'.dstore = []) :
    ∀ a ∈ as, a.Sat st'.σ := by
  have hall := live_ground_closed (fd_live ho n as hok st' h) hg
  have hs : st'.store = [] := List.eq_nil_iff_forall_not_mem.2 fun p hp => by
    have := hall p hp
    rw [hnd p hp] at this
    cases this
  exact fd_closed ho n as hok st' h hs hd

end Strict

section Examples
attribute [local instance] Mode.lax
/-- D11 witness (`x in 1..=3, plusfd(x,x,x)` has no answer), D12 witness (`x == 1, y == 1, distinctfd([x,y])`)
    and a satisfiable program, decided by the model's state operations -/
private def x : Term := .var 0
private def y : Term := .var 1
private def o : Order := Order.default
private def isFail : Res State → Bool
  | .fail => true
  | _ => false
private def isOk : Res State → Bool
  | .ok _ => true
  | _ => false
example : isFail ((domFd o (State.empty 1) x (.interval 1 3)).bind fun st => postCst o st (.plusfd x x x)) = true := by decide
example : isFail (((unify o (State.empty 2) x (num 1)).bind fun st => unify o st y (num 1)).bind fun st =>
    postCst o st (.distinctfd (.cons x (.cons y .nil)))) = true := by decide
example : isOk (((domFd o (State.empty 2) x (.interval 0 2)).bind fun st => domFd o st y (.interval 0 2)).bind fun st =>
    postCst o st (.ltefd x y)) = true := by decide
/-- non-vacuity of the global theorems: a program whose propagation re-enters `run_constraints`
    (x + y = z with z <= 2 narrows everything to singletons) meets `FAtom.OK`, succeeds, and ends with
    NOTHING pending (the hypotheses of `C16_answer_sound`) and the solution x = 1, y = 1, z = 2 -/
private def prog16 : List FAtom :=
  [.dom (.var 0) (.interval 1 2), .dom (.var 1) (.interval 1 2), .dom (.var 2) (.interval 0 9),
   .cst (.plusfd (.var 0) (.var 1) (.var 2)), .cst (.ltefd (.var 2) (num 2))]
example : ∀ a ∈ prog16, a.OK := by
  intro a ha
  simp only [prog16, List.mem_cons, List.not_mem_nil, or_false] at ha
  rcases ha with rfl | rfl | rfl | rfl | rfl <;> simp [FAtom.OK, FD.WF, CstOK]
example : (match postAllF Order.default (State.empty 3) prog16 with
    | .ok st => st.store.isEmpty && st.dstore.isEmpty && (st.σ 0 == num 1) && (st.σ 1 == num 1) && (st.σ 2 == num 2)
    | _ => false) = true := by decide
/-- non-vacuity of `C16_program_sound`: a program with a `conde` meets `FProg.OK` and has two paths -/
private def fprog16 : FProg :=
  .conj (.atom (.dom (.var 0) (.interval 0 3)))
    (.alt (.atom (.cst (.ltefd (.var 0) (num 1)))) (.fresh (.atom (.cst (.diseqfd (.var 0) (num 0))))))
example : fprog16.OK := by simp [fprog16, FProg.OK, FAtom.OK, FD.WF, CstOK]
example : fprog16.paths.length = 2 := by decide
/-- non-vacuity of the `distinctfd` theorems: x, y, z in 1..=3, all different, x <= 1 and z <= 2 meets `FAtom.OK`
    in the lax mode, succeeds, and propagation alone (exclusion of the collected constants from the remaining
    domains, twice re-entering `run_constraints`) finds the solution x = 1, y = 3, z = 2 with only the worker
    constraint left in the store -/
private def prog16d : List FAtom :=
  [.dom (.var 0) (.interval 1 3), .dom (.var 1) (.interval 1 3), .dom (.var 2) (.interval 1 3),
   .cst (.distinctfd (Term.ofList [.var 0, .var 1, .var 2])), .cst (.ltefd (.var 0) (num 1)), .cst (.ltefd (.var 2) (num 2))]
example : ∀ a ∈ prog16d, a.OK := by
  intro a ha
  simp only [prog16d, List.mem_cons, List.not_mem_nil, or_false] at ha
  rcases ha with rfl | rfl | rfl | rfl | rfl | rfl <;> simp [FAtom.OK, FD.WF, CstOK, Mode.lax]
  exact ⟨trivial, [Term.var 0, Term.var 1, Term.var 2], rfl⟩
example : (match postAllF Order.default (State.empty 3) prog16d with
    | .ok st => (st.σ 0 == num 1) && (st.σ 1 == num 3) && (st.σ 2 == num 2) && st.dstore.isEmpty && st.store.length == 1
    | _ => false) = true := by decide
/-- … and a list element bound to a non-integer reaches a panic site, in a program without solution -/
example : (match postAllF Order.default (State.empty 2)
      [.eq (.var 0) (.cons (num 1) .nil), .cst (.distinctfd (Term.ofList [.var 0, .var 1]))] with
    | .panic s => s == "distinctfd-term"
    | _ => false) = true := by decide
end Examples

end Pv
