/-
  C21 — LTerm equality, hashing and list operations are consistent.

  Model: Model/LTermOps.lean (`termEq` = the `PartialEq` match transcribed, `hashFeed` = the items fed to the
  hasher, `mapItems`/`extend?`/`index?`/`head?`/`tail?`/`isList`/`isEmptyT`/`isImproper`/`containsT`/`display`),
  over `ofList`/`improperOfList`/`iterItems` of Model/Term.lean.  All theorems are for ALL terms / element sequences.
-/
import PvModel.Model.LTermOps
import PvModel.Proofs.RelSpec
namespace Pv
namespace Term

/-- `==` is exactly structural equality (variables by identity): hence an equivalence relation -/
theorem C21_eq_iff : ∀ (a b : Term), termEq a b = true ↔ a = b := by
  intro a b
  fun_induction termEq a b with
  | case1 x y => simp
  | case2 a b => simp
  | case3 => simp
  | case4 h1 t1 h2 t2 ih1 ih2 => simp [ih1, ih2]
  | case5 g1 a1 g2 a2 ih => simp [ih]
  | case6 a b hvar hval hnil hcons hcomp =>
    -- the catch-all arm: `a` and `b` have different head constructors
    refine iff_of_false Bool.false_ne_true ?_
    rintro rfl
    cases a with
    | var x => exact hvar x x rfl rfl
    | val v => exact hval v v rfl rfl
    | nil => exact hnil rfl rfl
    | cons h t => exact hcons h t h t rfl rfl
    | comp g a => exact hcomp g a g a rfl rfl

theorem C21_equiv (a b c : Term) :
    termEq a a = true ∧ (termEq a b = termEq b a) ∧ (termEq a b = true → termEq b c = true → termEq a c = true) := by
  refine ⟨(C21_eq_iff a a).2 rfl, ?_, fun h1 h2 => (C21_eq_iff a c).2 (((C21_eq_iff a b).1 h1).trans ((C21_eq_iff b c).1 h2))⟩
  cases h : termEq a b with
  | true => exact ((C21_eq_iff b a).2 ((C21_eq_iff a b).1 h).symm).symm
  | false =>
    cases h' : termEq b a with
    | false => rfl
    | true => rw [(C21_eq_iff a b).2 ((C21_eq_iff b a).1 h').symm] at h; cases h

/-- equal terms feed the same items to the hasher, so they hash equally under ANY hasher -/
theorem C21_hash (a b : Term) (h : termEq a b = true) : hashFeed a = hashFeed b := by
  rw [(C21_eq_iff a b).1 h]

/-! A proper list is `improperOfList xs .nil` (`improper_nil`), so each operation is described once, for every tail `t`. -/

theorem listElems_improperOfList (t : Term) :
    ∀ xs : List Term, (improperOfList xs t).listElems = (xs ++ t.listElems.1, t.listElems.2)
  | [] => rfl
  | x :: xs => by rw [improperOfList, listElems, listElems_improperOfList t xs]; rfl

theorem iterItems_improperOfList (xs : List Term) (t : Term) :
    (improperOfList xs t).iterItems = xs ++ t.iterItems := by
  rw [iterItems, listElems_improperOfList, iterItems]
  rcases t.listElems with ⟨es, tl⟩
  cases tl with
  | nil => rfl
  | _ => exact List.append_assoc xs es _

/-- `from_vec` / `from_array` / `collect`, then `iter`: the element sequence -/
theorem C21_iter_ofList : ∀ xs : List Term, (ofList xs).iterItems = xs := by
  intro xs
  rw [← improper_nil, iterItems_improperOfList]
  exact List.append_nil xs

/-- a term that is not a list: iterating yields the term itself once -/
def notList (t : Term) : Prop := t.isList = false

theorem notList_cases {t : Term} (ht : notList t) :
    (∃ x, t = .var x) ∨ (∃ v, t = .val v) ∨ ∃ g a, t = .comp g a :=
  match t, ht with
  | .var x, _ => .inl ⟨x, rfl⟩
  | .val v, _ => .inr (.inl ⟨v, rfl⟩)
  | .comp g a, _ => .inr (.inr ⟨g, a, rfl⟩)

theorem C21_iter_improper (xs : List Term) (t : Term) (ht : notList t) (hx : xs ≠ []) :
    (improperOfList xs t).iterItems = xs ++ [t] := by
  rw [iterItems_improperOfList]
  obtain ⟨x, rfl⟩ | ⟨v, rfl⟩ | ⟨g, a, rfl⟩ := notList_cases ht <;> rfl

theorem extend?_improperOfList (t : Term) (ys : List Term) : ∀ xs : List Term,
    extend? (improperOfList xs t) ys = (extend? t ys).map (improperOfList xs)
  | [] => Option.map_id'.symm
  | x :: xs => by rw [improperOfList, extend?, extend?_improperOfList t ys xs, Option.map_map]; rfl

/-- `extend` on a proper list appends the elements; on anything else it panics (`none`) -/
theorem C21_extend : ∀ (xs ys : List Term), extend? (ofList xs) ys = some (ofList (xs ++ ys)) := by
  intro xs ys
  rw [← improper_nil, extend?_improperOfList, ← improper_ofList]
  rfl

theorem C21_extend_improper (xs ys : List Term) (t : Term) (ht : notList t) :
    extend? (improperOfList xs t) ys = none := by
  rw [extend?_improperOfList]
  obtain ⟨x, rfl⟩ | ⟨v, rfl⟩ | ⟨g, a, rfl⟩ := notList_cases ht <;> rfl

/-- indexing, head, tail, emptiness as on the element sequence -/
theorem C21_index (xs : List Term) (i : Nat) : index? (ofList xs) i = xs[i]? := by
  simp [index?, C21_iter_ofList]

theorem C21_head_tail (x : Term) (xs : List Term) :
    (ofList (x :: xs)).head? = some x ∧ (ofList (x :: xs)).tail? = some (ofList xs) ∧
    (ofList ([] : List Term)).head? = none ∧ (ofList xs).isList = true ∧
    ((ofList xs).isEmptyT = true ↔ xs = []) := by
  refine ⟨rfl, rfl, rfl, ?_, ?_⟩
  · cases xs <;> rfl
  · cases xs <;> simp [ofList, isEmptyT]

/-- `is_improper` holds exactly when the spine does not end in `[]` -/
theorem C21_improper_spine : ∀ t : Term, t.isImproper = (t.isList && !(t.listElems.2.isEmptyT))
  | .var _ => rfl
  | .val _ => rfl
  | .nil => rfl
  | .comp _ _ => rfl
  | .cons h t => by
    cases t with
    | cons h2 t2 => exact C21_improper_spine (.cons h2 t2)
    | _ => rfl

theorem C21_ofList_proper (xs : List Term) : (ofList xs).isImproper = false := by
  rw [C21_improper_spine, ← improper_nil, listElems_improperOfList]
  exact Bool.and_false _

/-- `contains` is membership in the element sequence (up to `==`, i.e. structural equality) -/
theorem C21_contains (xs : List Term) (v : Term) : containsT (ofList xs) v = true ↔ v ∈ xs := by
  simp only [containsT, C21_iter_ofList, List.any_eq_true]
  constructor
  · rintro ⟨u, hu, h⟩; rw [← (C21_eq_iff u v).1 h]; exact hu
  · intro h; exact ⟨v, h, (C21_eq_iff v v).2 rfl⟩

/-- positional update of a sequence, positions counted from `i` -/
def mapFrom (f : Nat → Term → Term) : Nat → List Term → List Term
  | _, [] => []
  | i, x :: xs => f i x :: mapFrom f (i + 1) xs

theorem mapItems_cons (f : Nat → Term → Term) (i : Nat) (h t : Term) :
    mapItems f i (.cons h t) = .cons (f i h) (mapItems f (i + 1) t) := by
  cases t <;> rfl

theorem mapItems_improperOfList (f : Nat → Term → Term) (t : Term) : ∀ (xs : List Term) (i : Nat),
    mapItems f i (improperOfList xs t) = improperOfList (mapFrom f i xs) (mapItems f (i + xs.length) t)
  | [], _ => rfl
  | x :: xs, i => by
    rw [improperOfList, mapItems_cons, mapItems_improperOfList f t xs (i + 1), List.length_cons,
      Nat.add_assoc, Nat.add_comm 1]
    rfl

/-- `iter_mut`: positional update of the element sequence -/
theorem C21_iter_mut (f : Nat → Term → Term) : ∀ (xs : List Term) (i : Nat),
    mapItems f i (ofList xs) = ofList (mapFrom f i xs) := by
  intro xs i
  rw [← improper_nil, mapItems_improperOfList, ← improper_nil]
  rfl

/-- … and on an improper list the tail is the last item, as `iter` yields it (finding D19: `iter_mut`/`IndexMut` skipped it before commit `fdb5216`) -/
theorem C21_iter_mut_improper (f : Nat → Term → Term) (t : Term) (ht : notList t) : ∀ (xs : List Term) (i : Nat),
    mapItems f i (improperOfList xs t) = improperOfList (mapFrom f i xs) (f (i + xs.length) t) := by
  intro xs i
  rw [mapItems_improperOfList]
  obtain ⟨x, rfl⟩ | ⟨v, rfl⟩ | ⟨g, a, rfl⟩ := notList_cases ht <;> rfl

theorem displayTail_improperOfList (t : Term) : ∀ xs : List Term,
    displayTail (improperOfList xs t) = String.join (xs.map fun x => ", " ++ display x) ++ displayTail t
  | [] => by simp [improperOfList]
  | x :: xs => by simp [improperOfList, displayTail, displayTail_improperOfList t xs, String.append_assoc]

/-- list `Display`: `[a, b, c]` for a proper list, `[a, b | t]` for an improper one -/
theorem C21_display_list : ∀ xs : List Term,
    displayTail (ofList xs) = String.join (xs.map fun x => ", " ++ display x) ++ "]" := by
  intro xs
  rw [← improper_nil, displayTail_improperOfList, displayTail]

theorem C21_display_improper (xs : List Term) (t : Term) (ht : notList t) :
    displayTail (improperOfList xs t) = String.join (xs.map fun x => ", " ++ display x) ++ " | " ++ display t ++ "]" := by
  rw [displayTail_improperOfList]
  obtain ⟨x, rfl⟩ | ⟨v, rfl⟩ | ⟨g, a, rfl⟩ := notList_cases ht <;> simp [displayTail, String.append_assoc]

section Examples
private def nested : Term := .cons (num 1) (.cons (.comp 2 (.cons (.var 0) (.cons .nil .nil))) (.var 3))
example : nested.iterItems = [num 1, .comp 2 (.cons (.var 0) (.cons .nil .nil)), .var 3] := by decide
example : nested.isImproper = true := by decide
example : displayTail (.cons (.cons (num 2) .nil) (.var 0)) = ", " ++ display (.cons (num 2) .nil) ++ " | " ++ display (.var 0) ++ "]" := by
  simp [displayTail, String.append_assoc]
example : hashFeed (.cons (num 1) (.cons (num 2) .nil)) = hashFeed (.cons (num 1) (num 2)) := by decide
example : termEq (.cons (num 1) (.cons (num 2) .nil)) (.cons (num 1) (num 2)) = false := by decide
end Examples

end Term
end Pv
