/-
  C04 — FOR THE WHOLE QUERY, ON THE ENGINE, AS REPORTED: reordering the conjuncts and the clauses of a query's body (any
  composition of swaps at any depth: `Reorder`) does not change what the query's answers MEAN.  For bodies of `==` / `!=` atoms
  under conjunction, `conde` and `fresh`, run from the empty state: the engine terminates on both query goals, and a tuple is an
  instance of a reported answer of the one iff it is an instance of a reported answer of the other.
  (`C02_query_exact` for both bodies + `reorder_paths`: the paths of the reordered body are the original paths, permuted as a
  list and each permuted as an atom list.  The MULTISET of states is `C04_tree_reorder_multiset`; the count per path is
  `C02_query_count`.)
-/
import PvModel.Props.C02Query
namespace Pv
open Strm Goal State Term

attribute [local instance] Mode.strict

/-- a property of paths that does not depend on the order of a path's atoms holds of some path of `p` iff of some path of a
    reordering of `p` -/
theorem reorder_exists_path {p p' : FProg} (h : Reorder p p') (P : List FAtom → Prop)
    (hP : ∀ x y : List FAtom, x.Perm y → (P x ↔ P y)) :
    (∃ path ∈ p.paths, P path) ↔ (∃ path ∈ p'.paths, P path) := by
  obtain ⟨L, pl, z⟩ := reorder_paths h
  constructor
  · rintro ⟨x, hx, px⟩
    obtain ⟨y, hy, r⟩ := zip2_mem_left z x hx
    exact ⟨y, pl.mem_iff.1 hy, (hP x y r).1 px⟩
  · rintro ⟨y, hy, py⟩
    obtain ⟨x, hx, r⟩ := zip2_mem_right z y (pl.mem_iff.2 hy)
    exact ⟨x, hx, (hP x y r).2 py⟩

theorem C04_query_reorder_meaning (ord : Order) (ho : OrderOK ord) (dfs : Call → State → State × G) (pf M n : Nat)
    (p p' : FProg) (hr : Reorder p p') (hp : p.TreeOnly) (qv : Term) (qs : List Term) (s1 : State)
    (h1 : postAtom ord (State.empty n) (.eq qv (Term.ofList qs)) = .ok s1)
    (hnf : ∀ path, path ∈ p.paths ∨ path ∈ p'.paths → postAllF ord s1 path ≠ .fuel)
    (hsz : ∀ path, path ∈ p.paths ∨ path ∈ p'.paths → ∀ s, postAllF ord s1 path = .ok s → (apply s.σ qv).size ≤ forceFuel)
    (hb : ∀ path, path ∈ p.paths ∨ path ∈ p'.paths → ∀ a ∈ path, (tOf a).Below n) (hqv : Below n qv) (hq : ∀ q ∈ qs, Below n q) :
    ∃ k k' zs zs',
      drainF (solveAt dfs (pf + 2) (M + 2)) k (solveAt dfs (pf + 2) (M + 2) (queryG ord qv qs [p.goal ord]) (State.empty n)) = some zs ∧
      drainF (solveAt dfs (pf + 2) (M + 2)) k' (solveAt dfs (pf + 2) (M + 2) (queryG ord qv qs [p'.goal ord]) (State.empty n)) = some zs' ∧
      ∀ ts : List Term,
        (∃ z ∈ zs, ∃ δ : Subst, (∀ c ∈ (mkAnswer ord qs z).constraints, DiseqHolds δ c) ∧
          ts = (mkAnswer ord qs z).terms.map (apply δ)) ↔
        (∃ z ∈ zs', ∃ δ : Subst, (∀ c ∈ (mkAnswer ord qs z).constraints, DiseqHolds δ c) ∧
          ts = (mkAnswer ord qs z).terms.map (apply δ)) := by
  obtain ⟨k, zs, hk, e⟩ := C02_query_exact ord ho dfs pf M n p hp qv qs s1 h1
    (fun path h => hnf path (.inl h)) (fun path h => hsz path (.inl h)) (fun path h => hb path (.inl h)) hqv hq
  obtain ⟨k', zs', hk', e'⟩ := C02_query_exact ord ho dfs pf M n p' (hr.treeOnly hp) qv qs s1 h1
    (fun path h => hnf path (.inr h)) (fun path h => hsz path (.inr h)) (fun path h => hb path (.inr h)) hqv hq
  refine ⟨k, k', zs, zs', hk, hk', fun ts => ?_⟩
  rw [e ts, e' ts]
  refine reorder_exists_path hr (fun path => ∃ γ : Subst, apply γ qv = apply γ (Term.ofList qs) ∧ (∀ a ∈ path, (tOf a).Sat γ) ∧
    ts = qs.map (apply γ)) (fun x y pxy => ?_)
  refine exists_congr fun γ => and_congr_right fun _ => and_congr_left fun _ => ?_
  exact ⟨fun h a ha => h a (pxy.mem_iff.2 ha), fun h a ha => h a (pxy.mem_iff.1 ha)⟩

end Pv
