/-
  C03 — FOR THE WHOLE QUERY, ON THE ENGINE: every answer the engine delivers for a query `|q…| { p }` (`p` a program of `==` / `!=`
  atoms under conjunction, `conde` and `fresh`, run from the empty state) is the reified state of one path state `s`, and every
  variable of every REPORTED term is one of the `_` variables `reify` created for it: an index in
  `[s.nextVar, s.nextVar + #free variables of the walked query term)`.  No unreified variable, no name of a hidden variable, leaves the
  engine in a reported term (the reported constraints: `C03_constraints_closed`).  (`C03_closed`, `C03_closed_query` speak about `reifySubst`; this carries them to the states the engine
  really delivers: `C02_query_tree`, `reifyState_facts`, `postAll_unified`.)
-/
import PvModel.Props.C02Query
import PvModel.Props.C03
namespace Pv
open Strm Goal State Term

attribute [local instance] Mode.strict

/-- any tree state that binds `qv` to the list of the query terms: the variables of its reported terms are the `_` variables
    `reify` created -/
theorem reported_terms_closed (ord : Order) (ho : OrderOK ord) (s : State) (hg : Good s) (qv : Term) (qs : List Term)
    (hu : apply s.σ qv = apply s.σ (Term.ofList qs)) :
    ∀ t ∈ (mkAnswer ord qs (reifyState ord s qv)).terms, ∀ y ∈ t.vars,
      s.nextVar ≤ y ∧ y < s.nextVar + (freeVars (apply s.σ qv)).length := by
  intro t ht y hy
  rw [(C03_answer_shape ord qs (reifyState ord s qv)).1, (reifyState_facts ho hg (x := qv)).1] at ht
  obtain ⟨q, hq, rfl⟩ := List.mem_map.1 ht
  refine C03_closed s.σ qv s.nextVar q (fun y' hy' => ?_) y hy
  rw [hu]
  exact C03_closed_query s.σ qs q hq y' hy'

theorem C03_query_answers_closed (ord : Order) (ho : OrderOK ord) (dfs : Call → State → State × G) (pf M n : Nat)
    (p : FProg) (hp : p.TreeOnly) (qv : Term) (qs : List Term) (s1 : State)
    (h1 : postAtom ord (State.empty n) (.eq qv (Term.ofList qs)) = .ok s1)
    (hnf : ∀ path ∈ p.paths, postAllF ord s1 path ≠ .fuel)
    (hsz : ∀ path ∈ p.paths, ∀ s, postAllF ord s1 path = .ok s → (apply s.σ qv).size ≤ forceFuel) :
    ∃ k zs, drainF (solveAt dfs (pf + 2) (M + 2)) k
        (solveAt dfs (pf + 2) (M + 2) (queryG ord qv qs [p.goal ord]) (State.empty n)) = some zs ∧
      ∀ z ∈ zs, ∃ s ∈ pathStates ord p s1, z = reifyState ord s qv ∧
        ∀ t ∈ (mkAnswer ord qs z).terms, ∀ y ∈ t.vars,
          s.nextVar ≤ y ∧ y < s.nextVar + (freeVars (apply s.σ qv)).length := by
  obtain ⟨k, zs, hk, pz⟩ := C02_query_tree ord ho dfs pf M n p hp qv qs s1 h1 hnf hsz
  refine ⟨k, zs, hk, fun z hz => ?_⟩
  obtain ⟨s, hs, rfl⟩ := List.mem_map.1 (pz.mem_iff.2 hz)
  obtain ⟨path, hpath, hr⟩ := (pathStates_tree ord ho n p hp qv qs s1 h1 hnf s).1 hs
  have hall := query_path_postAll ord h1 (treeOnly_paths p hp path hpath) hr
  exact ⟨s, hs, rfl, reported_terms_closed ord ho s (postAll_ok ord ho _ s _ (good_empty n) hall).1 qv qs
    (postAll_unified ho qv (Term.ofList qs) _ _ s (good_empty n) hall)⟩

end Pv
