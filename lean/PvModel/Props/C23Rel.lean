/-
  C23 — no panic, THROUGH RELATION CALLS (strict mode: programs without `distinctfd`).
-/
import PvModel.Proofs.RelNoPanic
namespace Pv
open Strm Goal State Term

section
attribute [local instance] Mode.strict

/-- solving a program of FD / CLP(Z) constraints with well-formed domains, `==`, `!=`, conjunction, conde, fresh and
    calls of member / member1 / append / rember / permute / distinct (right number of arguments; any argument
    terms) never reaches a panic site of the state machine: every state in the engine's stream — every nesting
    level, every hash-iteration order, finite or infinite search — is unpoisoned, or carries the model's own FUEL
    marker (which the driver reports as FUEL, never as a panic) -/
theorem C23_rel_no_panic (ord : Order) (ho : OrderOK ord) (pf M j nv : Nat) (p : FRProg) (hk : p.OK) (hc : p.Calls) (b : State)
    (hm : MemS (solveAt (defs ord) pf (M + 1)) b (solveAt (defs ord) pf j (p.goal ord) (State.empty nv))) :
    b.panic = none ∨ b.panic = some "FUEL" :=
  (frprog_no_panic ho pf M j p hk hc _ b (.inl ⟨rfl, wfs_empty nv, inv_empty nv⟩) hm).imp (·.1) id

/-- … in particular a relation call from any well-formed unpoisoned state -/
theorem C23_rel_call_no_panic (ord : Order) (ho : OrderOK ord) (pf M j : Nat) (c : Call) (hv : c.Valid) (a b : State)
    (hn : a.panic = none) (w : WFS a) (hi : Inv a)
    (hm : MemS (solveAt (defs ord) pf (M + 1)) b (solveAt (defs ord) pf j (.call c) a)) :
    b.panic = none ∨ b.panic = some "FUEL" :=
  (frprog_no_panic ho pf M j (.call c) trivial hv a b (.inl ⟨hn, w, hi⟩) hm).imp (·.1) id

end

section Examples
example : Call.Valid ⟨.append, [.var 0, .var 1, .var 2], false⟩ := trivial
example : ¬ Call.Valid ⟨.append, [.var 0], false⟩ := fun h => h
end Examples

end Pv
