/-
  C19 — CLP(Z) `plusz`/`timesz` constrain integers exactly.

  Model: `runPlusZ` / `runTimesZ` (Model/State.lean) mirror `PlusZConstraint::run` / `TimesZConstraint::run`
  (src/relation/clpz/*.rs; D4–D6) arm by arm: operands are walked; three numbers → check; two
  numbers → bind the third (direct substitution extension, then `run_constraints` = `rc`); fewer → the
  constraint is (re-)added to the store; Rust `/` and `%` are `Int.tdiv` / `Int.tmod`.
  All theorems hold for every state, every iteration order, every continuation `rc`.
-/
import PvModel.Proofs.FDExact
import PvModel.Props.C22
namespace Pv
open Term State

variable (rc : State → Res State) (ord : Order)

/-- three ground operands: succeeds (state unchanged) exactly when `u + v = w` -/
theorem C19_plus_ground (k id : Nat) (st : State) (u v w : Term) (a b c : Int)
    (hu : IsNumAt st u a) (hv : IsNumAt st v b) (hw : IsNumAt st w c) :
    runCst rc ord k id (.plusz u v w) st = if a + b = c then .ok st else .fail :=
  plusz_ground rc ord k id st u v w a b c hu hv hw

theorem C19_times_ground (k id : Nat) (st : State) (u v w : Term) (a b c : Int)
    (hu : IsNumAt st u a) (hv : IsNumAt st v b) (hw : IsNumAt st w c) :
    runCst rc ord k id (.timesz u v w) st = if a * b = c then .ok st else .fail :=
  timesz_ground rc ord k id st u v w a b c hu hv hw

/-- `plusz`, two ground: the third operand is bound to THE integer solution (then the store is re-run) -/
theorem C19_plus_two (id : Nat) (st : State) (u v w : Term) (a b : Int) (x : Nat) :
    (walk st.σ u = .val (.num a) → walk st.σ v = .val (.num b) → walk st.σ w = .var x →
      runPlusZ rc ord id u v w st = rc { st with σ := bindS x (Term.num (a + b)) st.σ }) ∧
    (walk st.σ u = .val (.num a) → walk st.σ v = .var x → walk st.σ w = .val (.num b) →
      runPlusZ rc ord id u v w st = rc { st with σ := bindS x (Term.num (b - a)) st.σ }) ∧
    (walk st.σ u = .var x → walk st.σ v = .val (.num a) → walk st.σ w = .val (.num b) →
      runPlusZ rc ord id u v w st = rc { st with σ := bindS x (Term.num (b - a)) st.σ }) := by
  refine ⟨fun h1 h2 h3 => ?_, fun h1 h2 h3 => ?_, fun h1 h2 h3 => ?_⟩ <;> simp only [runPlusZ, h1, h2, h3]

/-- the bound values are the unique solutions -/
theorem C19_plus_unique (a b z : Int) : (a + b = z ↔ z = a + b) ∧ (a + z = b ↔ z = b - a) ∧ (z + a = b ↔ z = b - a) := by
  omega

/-- `timesz`, two ground, product known (`a * y = c`, and symmetrically `y * a = c`):
    zero multiplier → kept if `c = 0` (every integer works), failure otherwise;
    non-zero multiplier → failure iff `a ∤ c` (no integer solution), else `y` is bound to the exact quotient. -/
theorem C19_times_two (id : Nat) (st : State) (u v w : Term) (a c : Int) (y : Nat)
    (h1 : walk st.σ u = .val (.num a)) (h2 : walk st.σ v = .var y) (h3 : walk st.σ w = .val (.num c)) :
    runTimesZ rc ord id u v w st =
      if a = 0 then (if c = 0 then .ok (st.withConstraint ord id (.timesz u v w)) else .fail)
      else if Int.tmod c a ≠ 0 then .fail
      else rc { st with σ := bindS y (Term.num (Int.tdiv c a)) st.σ } := by
  simp only [runTimesZ, h1, h2, h3]

theorem C19_times_two' (id : Nat) (st : State) (u v w : Term) (b c : Int) (x : Nat)
    (h1 : walk st.σ u = .var x) (h2 : walk st.σ v = .val (.num b)) (h3 : walk st.σ w = .val (.num c)) :
    runTimesZ rc ord id u v w st =
      if b = 0 then (if c = 0 then .ok (st.withConstraint ord id (.timesz u v w)) else .fail)
      else if Int.tmod c b ≠ 0 then .fail
      else rc { st with σ := bindS x (Term.num (Int.tdiv c b)) st.σ } := by
  simp only [runTimesZ, h1, h2, h3]

theorem C19_times_product (id : Nat) (st : State) (u v w : Term) (a b : Int) (z : Nat)
    (h1 : walk st.σ u = .val (.num a)) (h2 : walk st.σ v = .val (.num b)) (h3 : walk st.σ w = .var z) :
    runTimesZ rc ord id u v w st = rc { st with σ := bindS z (Term.num (a * b)) st.σ } := by
  simp only [runTimesZ, h1, h2, h3]

/-- the arithmetic behind `C19_times_two`: what the three branches mean -/
theorem C19_times_arith (a c : Int) :
    (a = 0 → c = 0 → ∀ y : Int, a * y = c) ∧
    (a = 0 → c ≠ 0 → ∀ y : Int, a * y ≠ c) ∧
    (a ≠ 0 → Int.tmod c a ≠ 0 → ∀ y : Int, a * y ≠ c) ∧
    (a ≠ 0 → Int.tmod c a = 0 → a * Int.tdiv c a = c ∧ ∀ y : Int, a * y = c → y = Int.tdiv c a) := by
  refine ⟨fun h1 h2 y => by subst h1 h2; simp, fun h1 h2 y h => by subst h1; simp at h; exact h2 h.symm, ?_, ?_⟩
  · intro _ hm y h
    apply hm; rw [← h]; exact Int.mul_tmod_right a y
  · intro ha hm
    refine ⟨Int.mul_tdiv_cancel' (Int.dvd_of_tmod_eq_zero hm), fun y h => ?_⟩
    rw [← h, Int.mul_tdiv_cancel_left y ha]

/-- fewer than two ground operands (incl. all three unbound, D5): the constraint is kept in the store
    and the rest of the state is unchanged -/
theorem C19_keep (id : Nat) (st : State) (u v w : Term)
    (h : (∃ x y z, walk st.σ u = .var x ∧ walk st.σ v = .var y ∧ walk st.σ w = .var z) ∨
         (∃ x y c, walk st.σ u = .var x ∧ walk st.σ v = .var y ∧ walk st.σ w = .val (.num c)) ∨
         (∃ x b z, walk st.σ u = .var x ∧ walk st.σ v = .val (.num b) ∧ walk st.σ w = .var z) ∨
         (∃ a y z, walk st.σ u = .val (.num a) ∧ walk st.σ v = .var y ∧ walk st.σ w = .var z)) :
    runPlusZ rc ord id u v w st = .ok (st.withConstraint ord id (.plusz u v w)) ∧
    runTimesZ rc ord id u v w st = .ok (st.withConstraint ord id (.timesz u v w)) := by
  rcases h with ⟨x, y, z, h1, h2, h3⟩ | ⟨x, y, c, h1, h2, h3⟩ | ⟨x, b, z, h1, h2, h3⟩ | ⟨a, y, z, h1, h2, h3⟩ <;>
    constructor <;> simp only [runPlusZ, runTimesZ, h1, h2, h3]

theorem ite_ne_of_ne {α : Type} {c : Prop} [Decidable c] {x y r : α} (hx : x ≠ r) (hy : y ≠ r) :
    (if c then x else y) ≠ r := by
  split <;> assumption

/-- the goal never panics: `run` itself has no panicking arm (the only panics are the continuation's) -/
theorem C19_total (id : Nat) (st : State) (u v w : Term) (hrc : ∀ s' site, rc s' ≠ .panic site) (site : String) :
    runPlusZ rc ord id u v w st ≠ .panic site ∧ runTimesZ rc ord id u v w st ≠ .panic site := by
  -- arm by arm: every arm is `.fail`, `.ok _`, a call of `rc`, or a conditional over these
  constructor
  · unfold runPlusZ
    split
    · exact ite_ne_of_ne nofun nofun
    · exact hrc _ _
    · exact hrc _ _
    · exact hrc _ _
    all_goals nofun
  · unfold runTimesZ
    split
    · exact ite_ne_of_ne nofun nofun
    · exact hrc _ _
    · exact ite_ne_of_ne (ite_ne_of_ne nofun nofun) (ite_ne_of_ne nofun (hrc _ _))
    · exact ite_ne_of_ne (ite_ne_of_ne nofun nofun) (ite_ne_of_ne nofun (hrc _ _))
    all_goals nofun

/-- Delayed check: every successful unification re-runs the WHOLE constraint store (so a constraint
    posted before its operands are ground is checked when they become ground, whatever the order) -/
theorem C19_delayed (st : State) (u v : Term) (σ' : Subst) (e : Ext1)
    (h : unifyF unifyFuel st.σ [] u v = some (some (σ', e))) :
    st.unify ord u v = ((runConstraintsF ord (rcFuel + 1) { st with σ := σ' }).bind fun st =>
      (processExtensionFd ord st e).bind fun st => .ok { st with extLog := e :: st.extLog }) :=
  C22_extension ord st u v σ' e h

/-- … and `run_constraints` takes every stored constraint out and runs it -/
theorem C19_rerun_all (n : Nat) (st : State) :
    runConstraintsF ord (n + 1) st = runSnapshot (runConstraintsF ord n) ord st (ord.cs st.store) := rfl

section Chains
variable [Mode]

/-- CHAINS: any list of `plusz` / `timesz` atoms and equalities (and any FD atoms with `FAtom.OK`), in ANY posting order,
    under any hash-iteration order: the state reached describes exactly the integer solutions of the
    whole system — a constraint delayed for lack of ground operands is re-run when they become ground, binds
    its third operand or refutes the system, and nothing is lost or invented on the way. -/
theorem C19_chains {ord : Order} (ho : OrderOK ord) (n : Nat) (as : List FAtom) (hok : ∀ a ∈ as, a.OK)
    (st' : State) (h : postAllF ord (State.empty n) as = .ok st') (γ : Subst) :
    Sem NoI γ st' ↔ ∀ a ∈ as, a.Sat γ := fd_exact_ok ho n as hok st' h γ

theorem C19_chains_fail {ord : Order} (ho : OrderOK ord) (n : Nat) (as : List FAtom) (hok : ∀ a ∈ as, a.OK)
    (h : postAllF ord (State.empty n) as = .fail) : ¬ ∃ γ, ∀ a ∈ as, a.Sat γ := fd_exact_fail ho n as hok h

/-- posting order and hash order do not matter for the solutions described -/
theorem C19_order_free {ord ord' : Order} (ho : OrderOK ord) (ho' : OrderOK ord') (n : Nat)
    (as as' : List FAtom) (hp : as.Perm as') (hok : ∀ a ∈ as, a.OK) (st1 st2 : State)
    (h1 : postAllF ord (State.empty n) as = .ok st1) (h2 : postAllF ord' (State.empty n) as' = .ok st2) (γ : Subst) :
    Sem NoI γ st1 ↔ Sem NoI γ st2 := (fd_order_free ho ho' n as as' hp hok).1 st1 st2 h1 h2 γ

end Chains


section Examples
attribute [local instance] Mode.strict
private def x : Term := .var 0
private def y : Term := .var 1
private def z : Term := .var 2
private def o : Order := Order.default
private def outcome (r : Res State) : String :=
  match r with
  | .ok st => s!"ok {st.store.length}"
  | .fail => "fail"
  | .fuel => "fuel"
  | .panic s => s
/-- all three unbound: kept; then x := 2, y := 3 checks z := 6 … -/
example : outcome ((((postCst o (State.empty 3) (.timesz x y z)).bind fun st => unify o st x (num 2)).bind fun st =>
    unify o st y (num 3)).bind fun st => unify o st z (num 6)) = "ok 0" := by decide +kernel
/-- … and rejects z := 7 -/
example : outcome ((((postCst o (State.empty 3) (.timesz x y z)).bind fun st => unify o st x (num 2)).bind fun st =>
    unify o st y (num 3)).bind fun st => unify o st z (num 7)) = "fail" := by decide +kernel
/-- `timesz(0, r, 0)` stays constrained, `timesz(2, r, 5)` fails, `timesz(2, r, -6)` binds r = -3 -/
example : outcome (postCst o (State.empty 1) (.timesz (num 0) x (num 0))) = "ok 1" := by decide +kernel
example : outcome (postCst o (State.empty 1) (.timesz (num 2) x (num 5))) = "fail" := by decide +kernel
example : (match postCst o (State.empty 1) (.timesz (num 2) x (num (-6))) with
    | .ok st => st.σ 0 == num (-3) | _ => false) = true := by decide +kernel
/-- non-vacuity of `C19_chains`: a chain x + y = z, z * 2 = w posted BEFORE its operands are known; the
    later equalities x = 1, w = 10 wake both constraints: y = 4, z = 5 -/
private def prog19 : List FAtom :=
  [.cst (.plusz (.var 0) (.var 1) (.var 2)), .cst (.timesz (.var 2) (num 2) (.var 3)),
   .eq (.var 0) (num 1), .eq (.var 3) (num 10)]
example : ∀ a ∈ prog19, a.OK := by
  intro a ha
  simp only [prog19, List.mem_cons, List.not_mem_nil, or_false] at ha
  rcases ha with rfl | rfl | rfl | rfl <;> simp [FAtom.OK, CstOK]
example : (match postAllF Order.default (State.empty 4) prog19 with
    | .ok st => st.store.isEmpty && (st.σ 1 == num 4) && (st.σ 2 == num 5) | _ => false) = true := by decide +kernel
end Examples

end Pv
