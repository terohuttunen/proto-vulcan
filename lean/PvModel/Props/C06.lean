/-
  C06 — Interleaving search loses no answers and invents none.

  Model: `Stream::mplus` (with its argument swap), `bind`, `lazy_bind`, `pause`, `delay`,
  `StreamEngine::step`, `Solver::next` (Model/Stream.lean).  Generic in the state type.
  `AnsS top s xs`: `xs` is the finite reference answer list of `s`; `MemS top a s`: `a` is an answer of the
  (possibly infinite, possibly diverging) stream `s`.
-/
import PvModel.Proofs.Stream
namespace Pv
open Strm Goal

variable {St K : Type}

/-- One engine step keeps the finite answer list up to permutation. -/
theorem C06_step_perm (top : Goal St K → St → Strm St K) (hT : TopOK top) {l : Lz St K} {xs : List St}
    (h : AnsL top l xs) : ∃ ys, AnsS top (step top l) ys ∧ xs.Perm ys := step_perm top hT h

/-- Finite search tree: the stream is exhausted after finitely many steps and `Solver::next` has then
    delivered a permutation of the reference list — nothing lost, nothing duplicated, nothing invented. -/
theorem C06_finite (top : Goal St K → St → Strm St K) (hT : TopOK top) {s : Strm St K} {xs : List St}
    (h : AnsS top s xs) :
    ∃ n ys, drainF top n s = some ys ∧ runF top n s = ys ∧ xs.Perm ys := by
  obtain ⟨n, ys, hd, hp⟩ := drain_perm top hT h
  exact ⟨n, ys, hd, drain_run top n s ys hd, hp⟩

/-- Same multiset as the reference semantics: whenever the textbook evaluation of a pure goal (either
    search mode, relation calls included) terminates with `xs`, the default engine delivers a permutation
    of `xs` and stops. -/
theorem C06_ref (defs : K → St → St × Goal St K) (pf M n : Nat) (g : Goal St K) (a : St) (xs : List St)
    (h : evalRef defs n g a = some xs) :
    ∃ k ys, drainF (solveAt defs pf (M + 1)) k (solveAt defs pf (M + 1) g a) = some ys ∧ xs.Perm ys := by
  obtain ⟨zs, hz, pz⟩ := ref_perm defs pf M n g a xs h M
  obtain ⟨k, ys, hd, py⟩ := drain_perm _ (topOK_solveAt defs pf M) hz
  exact ⟨k, ys, hd, pz.trans py⟩

/-- Same multiset as depth-first search: when an interleaving goal `g` and a depth-first goal `gd` have the same
    reference list `xs` (`h`, `h'`), the interleaving answers of `g` are a permutation of the depth-first answers
    of `gd`, which are `xs` in order.  (`evalRef` does not distinguish the two search modes connective by
    connective: `evalRef_conjD`, `evalRef_altD`, `evalRef_disjD`; the statement does not relate `g` and `gd`.) -/
theorem C06_same_as_dfs (defs : K → St → St × Goal St K) (pf M n : Nat) (g gd : Goal St K) (a : St) (xs : List St)
    (hD : DfsDefs defs) (hd : DfsG defs gd) (h : evalRef defs n g a = some xs) (h' : evalRef defs n gd a = some xs) :
    ∃ k k' ys, drainF (solveAt defs pf (M + 1)) k (solveAt defs pf (M + 1) g a) = some ys ∧
      drainF (solveAt defs pf (M + 1)) k' (solveAt defs pf (M + 1) gd a) = some xs ∧ xs.Perm ys := by
  obtain ⟨k, ys, h1, p1⟩ := C06_ref defs pf M n g a xs h
  obtain ⟨k', h2⟩ := ref_dfs_drain defs pf M hD n gd a xs hd h'
  exact ⟨k, k', ys, h1, h2, p1⟩

/-- No invention, arbitrary (infinite, diverging) streams: whatever `next` returns is an answer of the
    stream, and every answer of the stream it leaves behind is an answer of the original stream. -/
theorem C06_no_invention (top : Goal St K → St → Strm St K) (hT : TopOK top) (n : Nat) (s s' : Strm St K) (a : St)
    (h : nextF top n s = some (some (a, s'))) :
    MemS top a s ∧ ∀ b, MemS top b s' → MemS top b s := nextF_sound top hT n s s' a h

/-- … hence every answer delivered within any number of steps is an answer of the program. -/
theorem C06_prefix_sound (top : Goal St K → St → Strm St K) (hT : TopOK top) (n : Nat) (s : Strm St K) (a : St)
    (h : a ∈ runF top n s) : MemS top a s := runF_sound top hT n s a h

/-- A step neither loses nor invents members (both directions), for every stream. -/
theorem C06_step_mem (top : Goal St K → St → Strm St K) (hT : TopOK top) (a : St) (l : Lz St K) :
    MemS top a (step top l) ↔ MemL top a l := step_mem_iff hT

section Examples
private def defs0 : Unit → Nat → Nat × Goal Nat Unit := fun _ a => (a, .fail)
private def g0 : Goal Nat Unit :=
  .conj (.alt (.fresh (.fresh (.atom fun a => some (a + 1)))) (.alt (.atom fun a => some (a + 2)) .fail))
        (.alt (.atom fun a => some (a * 10)) (.alt (.atom fun a => some (a * 10 + 1)) .fail))
example : evalRef defs0 10 g0 0 = some [10, 11, 20, 21] := by decide
/-- the interleaving engine returns the same multiset in a different order -/
example : runF (solveAt defs0 5 3) 40 (solveAt defs0 5 3 g0 0) = [20, 21, 10, 11] := by decide
end Examples

end Pv
