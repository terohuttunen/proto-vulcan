/-
  More about the extension a unification reports: every reported variable was unbound before and is bound
  after, and no variable is reported twice.
-/
import PvModel.Proofs.Unify
namespace Pv
open Term

theorem unifyF_ext_full (n : Nat) (σ σ' : Subst) (e : Ext1) (u v : Term) (hs : Solved σ)
    (h : unifyF n σ [] u v = some (some (σ', e))) :
    (∀ p ∈ e, σ p.1 = .var p.1 ∧ σ' p.1 ≠ .var p.1) ∧ (e.map (·.1)).Nodup ∧
    (∀ γ, Ext σ' γ → ∀ p ∈ e, apply γ (.var p.1) = apply γ p.2) := by
  obtain ⟨rfl, a⟩ := (unifyF_chain hs h).of_nil
  have hc := a.chain
  exact ⟨fun p hp => hc.bound_iff.2 (List.mem_map_of_mem hp), hc.nodup,
    fun γ hγ => (hc.ext_iff (Ext.trans hc.ext hγ)).1 hγ⟩

end Pv
