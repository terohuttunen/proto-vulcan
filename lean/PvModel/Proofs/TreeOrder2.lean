/-
  The answer sequence of a program of `==`, `!=`, conjunction, `conde`, fresh and (interleaving) calls of the
  library relations does not depend on the hash-iteration order — instance of Proofs/Param2.lean.
-/
import PvModel.Proofs.TreeOrder
import PvModel.Proofs.RelProgram
namespace Pv
open Strm Goal State Term

/-- related states: as in Proofs/TreeOrder.lean, and the same source of fresh variables -/
structure TR2 (st st' : State) : Prop where
  tr : TR st st'
  nv : st.nextVar = st'.nextVar

/-- an interleaving call of a library relation with the right number of arguments -/
def CallOK (c : Call) : Prop := c.Valid ∧ c.dfs = false

section
variable {ord ord' : Order}

theorem liftRes_nv (ho : OrderOK ord) (t : TAtom) {a s : State} (hg : Good a)
    (h : (liftRes fun st => postAtom ord st t) a = some s) : s.nextVar = a.nextVar := by
  rcases liftRes_cases h with ⟨_, rfl⟩ | ⟨_, hr | ⟨_, rfl⟩ | ⟨_, _, rfl⟩⟩
  · rfl
  · exact postAtom_nv ho t hg hr
  · rfl
  · rfl

theorem atom_rel2 (ho : OrderOK ord) (ho' : OrderOK ord') (t : TAtom) :
    AtomRel TR2 Poisoned (liftRes fun st => postAtom ord st t) (liftRes fun st => postAtom ord' st t) := by
  intro a a' h
  rcases atom_rel ho ho' t a a' h.tr with r | b
  · generalize e1 : (liftRes fun st => postAtom ord st t) a = r1 at r
    generalize e2 : (liftRes fun st => postAtom ord' st t) a' = r2 at r
    cases r with
    | none => exact .inl .none
    | some hr =>
      refine .inl (.some ⟨hr, ?_⟩)
      rw [liftRes_nv ho t h.tr.good e1, liftRes_nv ho' t h.tr.good' e2, h.nv]
  · exact .inr b

/-- related goals, both passing poison on -/
structure GN (g g' : G) : Prop where
  rel : GRel2 TR2 Poisoned CallOK g g'
  nf : NF Poisoned CallOK g
  nf' : NF Poisoned CallOK g'

theorem GN.succeed : GN .succeed .succeed := ⟨.succeed, .succeed, .succeed⟩

theorem GN.atom (ho : OrderOK ord) (ho' : OrderOK ord') (t : TAtom) :
    GN (.atom (liftRes fun st => postAtom ord st t)) (.atom (liftRes fun st => postAtom ord' st t)) :=
  ⟨.atom (atom_rel2 ho ho' t), .atom (atomPass _), .atom (atomPass _)⟩

theorem GN.fresh {g g' : G} (h : GN g g') : GN (.fresh g) (.fresh g') := ⟨.fresh h.rel, .fresh h.nf, .fresh h.nf'⟩

theorem GN.call {c : Call} (hc : CallOK c) : GN (.call c) (.call c) := ⟨.call hc, .call hc, .call hc⟩

theorem GN.conj {g g' r r' : G} (hg : GN g g') (hr : GN r r') : GN (.conj g r) (.conj g' r') :=
  ⟨.conj hg.rel hr.rel hr.nf hr.nf', .conj hg.nf hr.nf, .conj hg.nf' hr.nf'⟩

theorem GN.alt {g g' r r' : G} (hg : GN g g') (hr : GRel2 TR2 Poisoned CallOK r r') : GN (.alt g r) (.alt g' r') :=
  ⟨.alt hg.rel hr, .alt hg.nf, .alt hg.nf'⟩

theorem GN.mkConj {g g' r r' : G} (hg : GN g g') (hr : GN r r') : GN (mkConj g r) (mkConj g' r') :=
  mkConj_cases₂ (P := GN) .conj .conj hg.rel.isSucceed hr.rel.isSucceed hg.rel.isFail hr.rel.isFail
    (fun _ _ => .succeed) (fun h => by rcases h with rfl | rfl; cases hg.nf; cases hr.nf) (hg.conj hr)

theorem GN.conjOfList {α : Type} {f f' : α → G} : ∀ l : List α, (∀ a ∈ l, GN (f a) (f' a)) →
    GN (conjOfList (l.map f)) (conjOfList (l.map f'))
  | [], _ => .succeed
  | _ :: l, h => (h _ List.mem_cons_self).mkConj (GN.conjOfList l fun a ha => h a (List.mem_cons_of_mem _ ha))

theorem grel_altOfList {α : Type} {f f' : α → G} : ∀ l : List α, (∀ a ∈ l, GN (f a) (f' a)) →
    GRel2 TR2 Poisoned CallOK (altOfList (l.map f)) (altOfList (l.map f'))
  | [], _ => .fail
  | _ :: l, h => .alt (h _ List.mem_cons_self).rel (grel_altOfList l fun a ha => h a (List.mem_cons_of_mem _ ha))

theorem Sk.grel (ho : OrderOK ord) (ho' : OrderOK ord') {v : Prop} (hv : v) (s : Sk v) :
    GN (s.interp ord false) (s.interp ord' false) := by
  induction s using Sk.ind with
  | eq a b => exact .atom ho ho' (.eq a b)
  | neq a b => exact .atom ho ho' (.neq a b)
  | call r as h => exact .call ⟨h hv, rfl⟩
  | fresh ih => exact ih.fresh
  | bad h => exact (h hv).elim
  | conjL ih =>
    rw [Sk.interp_conjL, Sk.interp_conjL]
    exact GN.conjOfList _ ih
  | @one c cs ih =>
    rw [Sk.interp_one, Sk.interp_one]
    rw [oneOf_false, oneOf_false]
    simp only [conjOfList, condeOfClauses, List.map_map]
    have hc := GN.conjOfList c (ih c List.mem_cons_self)
    exact (hc.alt (grel_altOfList cs fun c' hc' => GN.conjOfList c' (ih c' (List.mem_cons_of_mem _ hc')))).mkConj .succeed

theorem tr2_bump {a a' : State} (k : Nat) (h : TR2 a a') : TR2 { a with nextVar := a.nextVar + k } { a' with nextVar := a'.nextVar + k } :=
  ⟨⟨h.tr.good, h.tr.good', h.tr.dnf, h.tr.dnf', h.tr.sig, h.tr.sem⟩, by show a.nextVar + k = a'.nextVar + k; rw [h.nv]⟩

theorem defs_rel (ho : OrderOK ord) (ho' : OrderOK ord') (c : Call) (hc : CallOK c) (a a' : State) (h : TR2 a a') :
    TR2 (defs ord c a).1 (defs ord' c a').1 ∧ GRel2 TR2 Poisoned CallOK (defs ord c a).2 (defs ord' c a').2 := by
  obtain ⟨r, as, d⟩ := c
  obtain ⟨hv, rfl⟩ := hc
  obtain ⟨k, s, hs⟩ := relBody_sk r as a.nextVar
  show TR2 { a with nextVar := a.nextVar + (relBody ord ⟨r, as, false⟩ a.nextVar).1 }
      { a' with nextVar := a'.nextVar + (relBody ord' ⟨r, as, false⟩ a'.nextVar).1 } ∧
    GRel2 TR2 Poisoned CallOK (relBody ord ⟨r, as, false⟩ a.nextVar).2 (relBody ord' ⟨r, as, false⟩ a'.nextVar).2
  have hs' : relBody ord' ⟨r, as, false⟩ a'.nextVar = (k, s.interp ord' false) := h.nv ▸ hs ord' false
  rw [hs, hs']
  exact ⟨tr2_bump k h, (s.grel ho ho' hv).rel⟩

theorem nf_flow_big {g : G} (h : NF Poisoned CallOK g) : ∀ {p : State}, Poisoned p → ∃ p', Poisoned p' ∧ Big (defs ord) g p p' := by
  induction h with
  | succeed => intro p hp; exact ⟨p, hp, big_succeed.2 rfl⟩
  | atom hf => intro p hp; exact ⟨p, hp, big_atom.2 (hf p hp)⟩
  | conj _ _ i1 i2 =>
    intro p hp
    obtain ⟨c, hc, b1⟩ := i1 hp
    obtain ⟨b, hb, b2⟩ := i2 hc
    exact ⟨b, hb, big_conj.2 ⟨c, b1, b2⟩⟩
  | alt _ i1 =>
    intro p hp
    obtain ⟨b, hb, b1⟩ := i1 hp
    exact ⟨b, hb, big_alt.2 (.inl b1)⟩
  | fresh _ i =>
    intro p hp
    obtain ⟨b, hb, b1⟩ := i hp
    exact ⟨b, hb, big_fresh.2 b1⟩
  | @call c hc =>
    intro p hp
    obtain ⟨b, b1, hb⟩ := flow_valid (ord := ord) c hc.1 _ hp
    exact ⟨b, hb, b1⟩

theorem nf_flow (pf M : Nat) {g : G} (h : NF Poisoned CallOK g) (p : State) (hp : Poisoned p) :
    ∃ p', Poisoned p' ∧ MemS (solveAt (defs ord) pf (M + 1)) p' (solveAt (defs ord) pf (M + 1) g p) := by
  obtain ⟨p', hp', n, hn⟩ := nf_flow_big (ord := ord) h hp
  exact ⟨p', hp', bigF_mem pf M n g p p' hn M⟩

/-- every call of the program is an interleaving call, and there is no literal `fail` -/
def RProg.Inter : RProg → Prop
  | .succeed => True
  | .fail => False
  | .atom _ => True
  | .conj p q => p.Inter ∧ q.Inter
  | .alt p q => p.Inter ∧ q.Inter
  | .fresh p => p.Inter
  | .call c => c.dfs = false

theorem prog_grel (ho : OrderOK ord) (ho' : OrderOK ord') {m : Nat} : ∀ (p : RProg), p.WF m → p.Inter →
    GN (p.goal ord) (p.goal ord')
  | .succeed, _, _ => .succeed
  | .fail, _, hi => hi.elim
  | .atom t, _, _ => .atom ho ho' t
  | .conj p q, w, hi => (prog_grel ho ho' p w.1 hi.1).conj (prog_grel ho ho' q w.2 hi.2)
  | .alt p q, w, hi => (prog_grel ho ho' p w.1 hi.1).alt (prog_grel ho ho' q w.2 hi.2).rel
  | .fresh p, w, hi => (prog_grel ho ho' p w hi).fresh
  | .call c, w, hi => .call ⟨w.1, hi⟩

theorem tr2_empty (n : Nat) : TR2 (State.empty n) (State.empty n) := ⟨tr_empty n, rfl⟩

theorem rel_sequence_order_free (ho : OrderOK ord) (ho' : OrderOK ord') (pf M nv : Nat) (p : RProg) (w : p.WF nv)
    (hi : p.Inter) (n : Nat) :
    Pointwise TR2 (runF (solveAt (defs ord) pf (M + 1)) n (solveAt (defs ord) pf (M + 1) (p.goal ord) (State.empty nv)))
        (runF (solveAt (defs ord') pf (M + 1)) n (solveAt (defs ord') pf (M + 1) (p.goal ord') (State.empty nv))) ∨
      ∃ s, Poisoned s ∧ (MemS (solveAt (defs ord) pf (M + 1)) s (solveAt (defs ord) pf (M + 1) (p.goal ord) (State.empty nv)) ∨
        MemS (solveAt (defs ord') pf (M + 1)) s (solveAt (defs ord') pf (M + 1) (p.goal ord') (State.empty nv))) :=
  engine_rel2 (defs ord) (defs ord') pf M (fun c hc a a' h => defs_rel ho ho' c hc a a' h)
    (fun g hg p hp => nf_flow pf M hg p hp) (fun g hg p hp => nf_flow pf M hg p hp)
    (prog_grel ho ho' p w hi).rel (tr2_empty nv) n

end
end Pv
