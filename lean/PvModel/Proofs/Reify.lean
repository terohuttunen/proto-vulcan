/-
  The reported answer.  `reify` (Model/Goals.lean `reifyFinal`) renames the unbound variables of the walked query term to
  new `_` variables, empties the constraint store and re-inserts the walked disequalities; `ResultIterator::next`
  (`mkAnswer`) reports the walked query terms and the stored disequalities all of whose variables are `_` variables,
  normalised by subsumption and walked.  This file proves that what is reported denotes exactly what the final state
  describes about the query variables (`reported_answer_exact`): the instances of the reported terms under the
  assignments of the `_` variables that satisfy the reported constraints are the values the query variables take
  under the valuations the state describes.
-/
import PvModel.Model.Goals
import PvModel.Proofs.Scoped
namespace Pv
open Term State

theorem apply_reifySubst (σ : Subst) (x : Term) (base : Nat) (t : Term) :
    apply (reifySubst σ x base) t = apply (reifyMap σ x base) (apply σ t) :=
  (apply_apply (reifyMap σ x base) σ t).symm

theorem mem_freeVars (t : Term) (y : Nat) : y ∈ freeVars t ↔ y ∈ t.vars := by
  simp [freeVars]

theorem vars_apply_mem_ofList (σ : Subst) {qs : List Term} {q : Term} (hq : q ∈ qs) :
    ∀ y ∈ (apply σ q).vars, y ∈ (apply σ (Term.ofList qs)).vars := by
  induction qs with
  | nil => cases hq
  | cons a as ih =>
    intro y hy
    simp only [Term.ofList, apply, Term.vars, List.mem_append]
    rcases List.mem_cons.1 hq with rfl | h
    · exact .inl hy
    · exact .inr (ih h y hy)

/-- what the atom of `reifyFinal` computes -/
def reifyState (ord : Order) (st : State) (x : Term) : State :=
  let fv := freeVars (apply st.σ x)
  let base := st.nextVar
  let cs := walkStarStore st.σ st.store
  let st1 := st.store.foldl (fun s p => (s.takeConstraint p.1).1) st
  cs.foldl (fun s c => s.withNewConstraint ord (.diseq c))
    { st1 with σ := reifySubst st.σ x base, nextVar := base + fv.length }

theorem reifyFinal_eq (ord : Order) (x : Term) :
    reifyFinal ord x = .atom (liftRes fun st => .ok (reifyState ord st x)) := rfl

/-- the reified state depends on the query term only through its walked form (the query runs `reify(__query__)` with
    `__query__` bound to the list of the query variables) -/
theorem reifyState_congr (ord : Order) (st : State) {x x' : Term} (h : apply st.σ x = apply st.σ x') :
    reifyState ord st x = reifyState ord st x' := by
  have e0 : reifyMap st.σ x st.nextVar = reifyMap st.σ x' st.nextVar := by
    funext y; unfold reifyMap; rw [h]
  have e1 : reifySubst st.σ x st.nextVar = reifySubst st.σ x' st.nextVar := by
    funext y; unfold reifySubst; rw [e0]
  unfold reifyState
  simp only [h]
  rw [e1]

/-- re-inserting a list of disequalities into a tree-only store: the store then holds under exactly the valuations
    under which the old store and all of them hold (any valuation: the substitution plays no part) -/
theorem foldNew_sem {ord : Order} (ho : OrderOK ord) : ∀ (cs : List Ext1) (s : State), TreeOnly s → IdsOK s →
    (TreeOnly (cs.foldl (fun s c => s.withNewConstraint ord (.diseq c)) s) ∧
     IdsOK (cs.foldl (fun s c => s.withNewConstraint ord (.diseq c)) s) ∧
     (cs.foldl (fun s c => s.withNewConstraint ord (.diseq c)) s).σ = s.σ ∧
     ∀ γ, StoreSem γ (cs.foldl (fun s c => s.withNewConstraint ord (.diseq c)) s) ↔ (StoreSem γ s ∧ ∀ c ∈ cs, DiseqHolds γ c))
  | [], s, ht, hi => ⟨ht, hi, rfl, fun γ => by simp⟩
  | c :: cs, s, ht, hi => by
    have a := withNew_diseq ho ht hi c
    obtain ⟨r1, r2, r3, r4⟩ := foldNew_sem ho cs (s.withNewConstraint ord (.diseq c)) a.tree a.ids
    refine ⟨r1, r2, r3.trans a.sig, fun γ => ?_⟩
    simp only [List.foldl_cons]
    rw [r4 γ, withNew_storeSem ho hi c γ]
    simp only [List.mem_cons, forall_eq_or_imp, and_assoc]

theorem foldNew_mem (ord : Order) : ∀ (cs : List Ext1) (s : State) (q : Nat × Cst),
    q ∈ (cs.foldl (fun s c => s.withNewConstraint ord (.diseq c)) s).store → q ∈ s.store ∨ ∃ c ∈ cs, q.2 = .diseq c
  | [], _, q, h => .inl h
  | c :: cs, s, q, h => by
    simp only [List.foldl_cons] at h
    rcases foldNew_mem ord cs (s.withNewConstraint ord (.diseq c)) q h with h1 | ⟨c', hc', e⟩
    · exact (mem_withNew h1).imp_right fun h1 => ⟨c, List.mem_cons_self, by rw [h1]⟩
    · exact .inr ⟨c', List.mem_cons_of_mem _ hc', e⟩

/-- one `push_and_normalize` -/
def normStep (ord : Order) (acc : List Ext1) (c : Ext1) : List Ext1 :=
  if acc.any (fun s => State.subsumes ord s c) then acc
  else (acc.filter fun s => !State.subsumes ord c s) ++ [c]

theorem normalizedCs_eq (ord : Order) (L : List Ext1) : normalizedCs ord L = L.foldl (normStep ord) [] := rfl

theorem mem_normStep {ord : Order} {acc : List Ext1} {c c' : Ext1} (h : c' ∈ normStep ord acc c) :
    c' ∈ acc ∨ c' = c := by
  unfold normStep at h
  split at h
  · exact .inl h
  · rcases List.mem_append.1 h with h | h
    · exact .inl (List.mem_filter.1 h).1
    · exact .inr (List.mem_singleton.1 h)

/-- pushing a disequality keeps the meaning of the conjunction: what is dropped is subsumed by what stays -/
theorem normStep_sem {ord : Order} (ho : OrderOK ord) (acc : List Ext1) (c : Ext1) (γ : Subst) :
    (∀ s ∈ normStep ord acc c, DiseqHolds γ s) ↔ ((∀ s ∈ acc, DiseqHolds γ s) ∧ DiseqHolds γ c) := by
  unfold normStep
  split
  · rename_i hany
    obtain ⟨s0, hs0, hsub⟩ := List.any_eq_true.1 hany
    exact ⟨fun a => ⟨a, subsumes_sound ho hsub γ (a s0 hs0)⟩, fun a => a.1⟩
  · constructor
    · intro a
      have hc : DiseqHolds γ c := a c (List.mem_append.2 (.inr (List.mem_singleton.2 rfl)))
      refine ⟨fun s0 hs0 => ?_, hc⟩
      by_cases hk : State.subsumes ord c s0 = true
      · exact subsumes_sound ho hk γ hc
      · exact a s0 (List.mem_append.2 (.inl (List.mem_filter.2 ⟨hs0, by rw [Bool.not_eq_true] at hk; rw [hk]; rfl⟩)))
    · rintro ⟨a, b⟩ s0 hs0
      rcases List.mem_append.1 hs0 with h | h
      · exact a s0 (List.mem_filter.1 h).1
      · rw [List.mem_singleton.1 h]
        exact b

theorem foldNorm_sem {ord : Order} (ho : OrderOK ord) (γ : Subst) : ∀ (L acc : List Ext1),
    (∀ c ∈ L.foldl (normStep ord) acc, DiseqHolds γ c) ↔ ((∀ c ∈ acc, DiseqHolds γ c) ∧ ∀ c ∈ L, DiseqHolds γ c)
  | [], acc => by simp
  | c :: L, acc => by
    rw [List.foldl_cons, foldNorm_sem ho γ L, normStep_sem ho, and_assoc, List.forall_mem_cons]

theorem foldNorm_sub {ord : Order} : ∀ (L acc : List Ext1) (c : Ext1),
    c ∈ L.foldl (normStep ord) acc → c ∈ acc ∨ c ∈ L
  | [], _, _, h => .inl h
  | c0 :: L, acc, c, h => by
    rcases foldNorm_sub L _ c h with h | h
    · exact (mem_normStep h).imp_right fun e => List.mem_cons.2 (.inl e)
    · exact .inr (List.mem_cons_of_mem _ h)

theorem normalizedCs_sem {ord : Order} (ho : OrderOK ord) (L : List Ext1) (γ : Subst) :
    (∀ c ∈ normalizedCs ord L, DiseqHolds γ c) ↔ ∀ c ∈ L, DiseqHolds γ c := by
  rw [normalizedCs_eq, foldNorm_sem ho γ L []]
  exact ⟨fun a => a.2, fun a => ⟨fun _ h => (nomatch h), a⟩⟩

theorem normalizedCs_sub (ord : Order) (L : List Ext1) : ∀ c ∈ normalizedCs ord L, c ∈ L :=
  fun c hc => (foldNorm_sub L [] c hc).resolve_left fun h => nomatch h

/-- `r` renames `y`: maps it to a variable other than `y` (what `allReified` tests of every variable of a term) -/
def IsReified (σr : Subst) (y : Nat) : Prop := (match σr y with | .var z => z != y | _ => false) = true

theorem allReified_iff (s : State) (t : Term) :
    allReified s t = true ↔ ∀ y ∈ t.vars, IsReified s.σ y := by
  unfold allReified
  rw [List.all_eq_true]
  exact Iff.rfl

theorem mem_purified {s : State} {ps : Ext1} : ps ∈ purified s ↔
    (∃ q ∈ s.store, q.2 = .diseq ps) ∧ ∀ pr ∈ ps, allReified s (.var pr.1) = true ∧ allReified s pr.2 = true := by
  unfold purified
  rw [List.mem_filter, List.mem_filterMap]
  constructor
  · rintro ⟨⟨q, hq, e⟩, hall⟩
    refine ⟨⟨q, hq, ?_⟩, fun pr hpr => by simpa using (List.all_eq_true.1 hall) pr hpr⟩
    split at e
    · rename_i ps' he; simp only [Option.some.injEq] at e; subst e; exact he
    · cases e
  · rintro ⟨⟨q, hq, e⟩, hall⟩
    refine ⟨⟨q, hq, by rw [e]⟩, List.all_eq_true.2 fun pr hpr => by simpa using hall pr hpr⟩

theorem mem_purified_vars {s : State} {ps : Ext1} : ps ∈ purified s ↔
    (∃ q ∈ s.store, q.2 = .diseq ps) ∧
      ∀ y ∈ diseqVars ps, IsReified s.σ y := by
  rw [mem_purified]
  refine and_congr_right fun _ => ⟨fun h y hy => ?_, fun h pr hpr => ⟨?_, ?_⟩⟩
  · obtain ⟨pr, hpr, hy⟩ := List.mem_flatMap.1 hy
    rcases List.mem_cons.1 hy with rfl | hy
    · exact (allReified_iff s _).1 (h pr hpr).1 _ (List.mem_singleton.2 rfl)
    · exact (allReified_iff s _).1 (h pr hpr).2 y hy
  · refine (allReified_iff s _).2 fun y hy => h y (List.mem_flatMap.2 ⟨pr, hpr, ?_⟩)
    rw [List.mem_singleton.1 hy]
    exact List.mem_cons_self
  · exact (allReified_iff s _).2 fun y hy => h y (List.mem_flatMap.2 ⟨pr, hpr, List.mem_cons_of_mem _ hy⟩)

theorem purified_keys {s : State} : ∀ c ∈ purified s, ∀ pr ∈ c, ∃ z, s.σ pr.1 = .var z := by
  intro c hc pr hpr
  have := (mem_purified_vars.1 hc).2 pr.1 (List.mem_flatMap.2 ⟨pr, hpr, List.mem_cons_self⟩)
  unfold IsReified at this
  split at this
  · rename_i z hz
    exact ⟨z, hz⟩
  · cases this

theorem walkCst_holds {τ δ : Subst} {c : Ext1} (hk : ∀ pr ∈ c, ∃ z, τ pr.1 = .var z) :
    DiseqHolds δ (walkCst τ c) ↔ DiseqHolds (fun y => apply δ (τ y)) c := by
  have key : ∀ pr ∈ c,
      (apply δ (.var (match apply τ (.var pr.1) with | .var y => y | _ => pr.1)) ≠ apply δ (apply τ pr.2)) ↔
      (apply (fun y => apply δ (τ y)) (.var pr.1) ≠ apply (fun y => apply δ (τ y)) pr.2) := by
    intro pr hpr
    obtain ⟨z, hz⟩ := hk pr hpr
    rw [apply_comp, apply_comp]
    simp only [apply, hz]
  unfold DiseqHolds walkCst
  constructor
  · rintro ⟨q, hq, hne⟩
    obtain ⟨pr, hpr, rfl⟩ := List.mem_map.1 hq
    exact ⟨pr, hpr, (key pr hpr).1 hne⟩
  · rintro ⟨pr, hpr, hne⟩
    exact ⟨_, List.mem_map.2 ⟨pr, hpr, rfl⟩, (key pr hpr).2 hne⟩

theorem diseqHolds_agree {γ1 γ2 : Subst} {c : Ext1} (h : ∀ y ∈ diseqVars c, γ1 y = γ2 y) :
    DiseqHolds γ1 c ↔ DiseqHolds γ2 c := by
  unfold DiseqHolds
  refine exists_congr fun pr => and_congr_right fun hpr => ?_
  have hk : γ1 pr.1 = γ2 pr.1 := h _ (List.mem_flatMap.2 ⟨pr, hpr, List.mem_cons_self⟩)
  have hv : apply γ1 pr.2 = apply γ2 pr.2 :=
    apply_agree fun y hy => h y (List.mem_flatMap.2 ⟨pr, hpr, List.mem_cons_of_mem _ hy⟩)
  simp only [apply, hk, hv]

section Main
variable {ord : Order} (ho : OrderOK ord) {st : State} (hg : Good st) {x : Term}

/-- in a normal-form store walking a disequality changes nothing: the re-inserted list is the stored one -/
theorem mem_walkStarStore_of_dnf (hd : DNF st) (c : Ext1) :
    c ∈ walkStarStore st.σ st.store ↔ ∃ q ∈ st.store, q.2 = .diseq c := by
  unfold walkStarStore
  rw [List.mem_filterMap]
  have hid : ∀ q ∈ st.store, ∀ ps, q.2 = .diseq ps →
      (ps.map fun r => ((match apply st.σ (.var r.1) with | .var y => y | _ => r.1), apply st.σ r.2)) = ps := by
    intro q hq ps he
    conv => rhs; rw [← List.map_id ps]
    refine List.map_congr_left fun r hr => ?_
    obtain ⟨h1, h2, _⟩ := (hd.hasNF hq he).2 r hr
    simp only [apply, h1, h2, id]
  constructor
  · rintro ⟨q, hq, e⟩
    split at e
    · rename_i ps he
      simp only [Option.some.injEq] at e
      have : ps = c := (hid q hq ps he).symm.trans e
      subst this
      exact ⟨q, hq, he⟩
    · cases e
  · rintro ⟨q, hq, he⟩
    refine ⟨q, hq, ?_⟩
    rw [he]
    simp only [Option.some.injEq]
    exact hid q hq c he

include ho hg in
theorem reifyState_facts :
    (reifyState ord st x).σ = reifySubst st.σ x st.nextVar ∧
    (∀ γ, StoreSem γ (reifyState ord st x) ↔ ∀ c ∈ walkStarStore st.σ st.store, DiseqHolds γ c) ∧
    TreeOnly (reifyState ord st x) ∧ IdsOK (reifyState ord st x) ∧
    (∀ q ∈ (reifyState ord st x).store, ∃ c ∈ walkStarStore st.σ st.store, q.2 = .diseq c) := by
  obtain ⟨t1, t2, t3, t4, t5⟩ := takes_fields st.store st
  have hempty : (takes st.store st).store = [] := by
    apply List.eq_nil_iff_forall_not_mem.2
    intro q hq
    obtain ⟨hq1, hq2⟩ := (t5 q).1 hq
    exact hq2 q hq1 rfl
  generalize hs0 : ({ (takes st.store st) with σ := reifySubst st.σ x st.nextVar, nextVar := st.nextVar + (freeVars (apply st.σ x)).length } : State) = s0
  have e0 : s0.store = [] := by subst hs0; exact hempty
  have ht0 : TreeOnly s0 := ⟨fun p hp => (by rw [e0] at hp; cases hp), (by subst hs0; show (takes st.store st).dstore = []; rw [t2]; exact hg.2.1.2)⟩
  have hi0 : IdsOK s0 := ⟨(by rw [e0]; exact List.nodup_nil), fun p hp => (by rw [e0] at hp; cases hp)⟩
  obtain ⟨r1, r2, r3, r4⟩ := foldNew_sem ho (walkStarStore st.σ st.store) s0 ht0 hi0
  have hre : reifyState ord st x = (walkStarStore st.σ st.store).foldl (fun s c => s.withNewConstraint ord (.diseq c)) s0 := by
    subst hs0; rfl
  rw [hre]
  refine ⟨by rw [r3]; subst hs0; rfl, fun γ => ?_, r1, r2, fun q hq => ?_⟩
  · rw [r4 γ]
    have : StoreSem γ s0 := fun p hp => by rw [e0] at hp; cases hp
    simp [this]
  · rcases foldNew_mem ord _ s0 q hq with h | h
    · rw [e0] at h; cases h
    · exact h

include ho hg in
theorem reifyState_store (hd : DNF st) :
    ∀ q ∈ (reifyState ord st x).store, ∀ ps, q.2 = .diseq ps → ∃ q0 ∈ st.store, q0.2 = .diseq ps := by
  intro q hq ps he
  obtain ⟨_, _, _, _, hmem⟩ := reifyState_facts ho hg (x := x)
  obtain ⟨c, hc, e⟩ := hmem q hq
  rw [he] at e
  cases e
  exact (mem_walkStarStore_of_dnf hd ps).1 hc

theorem stored_vars {m : Nat} (hd : DNF st) (hsc : Scoped m st) :
    ∀ q ∈ st.store, ∀ ps, q.2 = .diseq ps → ∀ y ∈ diseqVars ps, st.σ y = .var y ∧ y < m := by
  intro q hq ps he y hy
  obtain ⟨pr, hpr, hy⟩ := List.mem_flatMap.1 hy
  have hb := hsc.2 q hq ps he pr hpr
  obtain ⟨n1, n2, _⟩ := (hd.hasNF hq he).2 pr hpr
  rcases List.mem_cons.1 hy with rfl | hy
  · exact ⟨n1, hb.1⟩
  · exact ⟨normal_vars _ n2 y hy, hb.2 y hy⟩

theorem reifySubst_unbound {y : Nat} (hy : st.σ y = .var y) :
    reifySubst st.σ x st.nextVar y = reifyMap st.σ x st.nextVar y := by
  simp only [reifySubst, hy, apply]

theorem reified_iff {σr : Subst} (hσr : σr = reifySubst st.σ x st.nextVar) {y : Nat} (hy : st.σ y = .var y) (hlt : y < st.nextVar) :
    (match σr y with | .var z => z != y | _ => false) = true ↔ y ∈ freeVars (apply st.σ x) := by
  subst hσr
  rw [reifySubst_unbound hy]
  cases hi : (freeVars (apply st.σ x)).idxOf? y with
  | none =>
    simp only [reifyMap, hi, hy]
    have := List.idxOf?_eq_none_iff.1 hi
    simp [this]
  | some i =>
    simp only [reifyMap, hi]
    obtain ⟨h1, _, _⟩ := List.idxOf?_eq_some_iff.1 hi
    have hm : y ∈ freeVars (apply st.σ x) := by
      have : ((freeVars (apply st.σ x)).idxOf? y).isSome := by rw [hi]; rfl
      exact List.isSome_idxOf?.1 this
    simp only [hm, iff_true, bne_iff_ne, ne_eq]
    omega

end Main

/-- the renaming of the free variables of the walked query term can be undone: any values for them are the values
    of their `_` variables under some assignment -/
theorem reifyMap_undo (σ : Subst) (x : Term) (base : Nat) (γ : Subst) :
    ∃ δ : Subst, ∀ y ∈ freeVars (apply σ x), apply δ (reifyMap σ x base y) = γ y := by
  refine ⟨fun z => γ ((freeVars (apply σ x)).getD (z - base) 0), fun y hy => ?_⟩
  cases hi : (freeVars (apply σ x)).idxOf? y with
  | none => exact absurd (List.isSome_idxOf?.2 hy) (by rw [hi]; exact Bool.false_ne_true)
  | some i =>
    obtain ⟨h1, h2, _⟩ := List.idxOf?_eq_some_iff.1 hi
    simp only [reifyMap, hi, apply, Nat.add_sub_cancel_left, List.getD_eq_getElem?_getD, List.getElem?_eq_getElem h1,
      Option.getD_some, h2]

theorem below_ofList {m : Nat} : ∀ {qs : List Term}, (∀ q ∈ qs, Below m q) → Below m (Term.ofList qs)
  | [], _ => below_nil' m
  | q :: _, h => below_cons_iff.2 ⟨h q List.mem_cons_self, below_ofList fun q' hq' => h q' (List.mem_cons_of_mem _ hq')⟩

/-- The reported answer is exact.  `st`: any good state with its disequalities in normal form and all its variables
    below its counter (every state `==`/`!=` programs reach); `qs`: the query variables (any terms below the counter).
    The answer `mkAnswer` reports for the reified state — the walked query terms with their unbound variables renamed to
    `_` variables, and the purified, normalised, walked disequalities — has, under the assignments `δ` of the `_`
    variables that satisfy the reported disequalities, exactly the instances that the query terms take under the
    valuations the state describes. -/
theorem reported_answer_exact {ord : Order} (ho : OrderOK ord) {st : State} (hg : Good st) (hd : DNF st)
    (hsc : Scoped st.nextVar st) (qs : List Term) (hq : ∀ q ∈ qs, Below st.nextVar q) (ts : List Term) :
    (∃ δ : Subst, (∀ c ∈ (mkAnswer ord qs (reifyState ord st (Term.ofList qs))).constraints, DiseqHolds δ c) ∧
        ts = (mkAnswer ord qs (reifyState ord st (Term.ofList qs))).terms.map (apply δ)) ↔
    (∃ γ : Subst, StateSem γ st ∧ ts = qs.map (apply γ)) := by
  have hx : Below st.nextVar (Term.ofList qs) := below_ofList hq
  obtain ⟨f1, f2, f3, f4, f5⟩ := reifyState_facts ho hg (x := Term.ofList qs)
  generalize hst2 : reifyState ord st (Term.ofList qs) = st2 at f1 f2 f3 f4 f5 ⊢
  have hcons : (mkAnswer ord qs st2).constraints = (normalizedCs ord (purified st2)).map (walkCst st2.σ) := rfl
  have hterms : (mkAnswer ord qs st2).terms = qs.map (apply st2.σ) := rfl
  rw [hcons, hterms]
  have hfv : ∀ y ∈ freeVars (apply st.σ (Term.ofList qs)), st.σ y = .var y ∧ y < st.nextVar := fun y hy =>
    have hy' := (mem_freeVars _ _).1 hy
    ⟨normal_vars _ (apply_apply_solved hg.1 _) y hy', apply_below hsc.1 hx y hy'⟩
  have hfrom := reifyState_store ho hg hd (x := Term.ofList qs)
  rw [hst2] at hfrom
  have hvars := stored_vars hd hsc
  -- purified = stored with every variable free in the walked query term
  have hpur : ∀ c, c ∈ purified st2 ↔ ((∃ q ∈ st2.store, q.2 = .diseq c) ∧ ∀ y ∈ diseqVars c, y ∈ freeVars (apply st.σ (Term.ofList qs))) := by
    intro c
    rw [mem_purified_vars]
    refine and_congr_right fun ⟨q, hq', he⟩ => ?_
    obtain ⟨q0, hq0, he0⟩ := hfrom q hq' c he
    exact forall₂_congr fun y hy => reified_iff f1 (hvars q0 hq0 c he0 y hy).1 (hvars q0 hq0 c he0 y hy).2
  -- on the free variables of the walked query term `r` is the renaming
  have hren : ∀ y ∈ freeVars (apply st.σ (Term.ofList qs)), st2.σ y = reifyMap st.σ (Term.ofList qs) st.nextVar y := by
    intro y hy
    rw [f1, reifySubst_unbound (hfv y hy).1]
  -- the two instance computations
  have hinst : ∀ (δ γ : Subst), Ext st.σ γ →
      (∀ y ∈ freeVars (apply st.σ (Term.ofList qs)), γ y = apply δ (st2.σ y)) →
      ∀ q ∈ qs, apply δ (apply st2.σ q) = apply γ q := by
    intro δ γ hext hag q hq'
    rw [f1, apply_reifySubst, ← apply_comp, ← hext q]
    symm
    refine apply_agree fun y hy => ?_
    have hyf : y ∈ freeVars (apply st.σ (Term.ofList qs)) := (mem_freeVars _ _).2 (vars_apply_mem_ofList st.σ hq' y hy)
    rw [hag y hyf, hren y hyf]
  constructor
  · rintro ⟨δ, hδ, rfl⟩
    have h1 : ∀ c ∈ purified st2, DiseqHolds (fun y => apply δ (st2.σ y)) c := by
      refine (normalizedCs_sem ho (purified st2) _).1 fun c hc => ?_
      have hcp := normalizedCs_sub ord _ c hc
      exact (walkCst_holds (purified_keys c hcp)).1 (hδ _ (List.mem_map.2 ⟨c, hc, rfl⟩))
    have hgN : Good { st2 with σ := st.σ } := ⟨hg.1, ⟨f3.1, f3.2⟩, f4⟩
    have hdN : DNF { st2 with σ := st.σ } := .of_hasNF fun q hq' ps he =>
      have ⟨_, hq0, he0⟩ := hfrom q hq' ps he
      hd.hasNF hq0 he0
    obtain ⟨γ, hsem, hag⟩ := dnf_project (st := { st2 with σ := st.σ }) hg.1 hdN
      (freeVars (apply st.σ (Term.ofList qs))) (fun y => apply δ (st2.σ y))
      (fun q hq' ps he hv => h1 ps ((hpur ps).2 ⟨⟨q, hq', he⟩, hv⟩))
    have hstore : StoreSem γ st := by
      have h2 := (f2 γ).1 hsem.2
      intro q0 hq0 ps he0
      exact h2 ps ((mem_walkStarStore_of_dnf hd ps).2 ⟨q0, hq0, he0⟩)
    refine ⟨γ, ⟨hsem.1, hstore⟩, ?_⟩
    rw [List.map_map]
    exact List.map_congr_left fun q hq' => hinst δ γ hsem.1 (fun y hy => hag y hy (hfv y hy).1) q hq'
  · rintro ⟨γ, hγ, rfl⟩
    obtain ⟨δ, hδ⟩ := reifyMap_undo st.σ (Term.ofList qs) st.nextVar γ
    have hkey : ∀ y ∈ freeVars (apply st.σ (Term.ofList qs)), γ y = apply δ (st2.σ y) := fun y hy => by
      rw [hren y hy, hδ y hy]
    refine ⟨δ, fun c' hc' => ?_, ?_⟩
    · obtain ⟨c, hc, rfl⟩ := List.mem_map.1 hc'
      have hcp := normalizedCs_sub ord _ c hc
      refine (walkCst_holds (purified_keys c hcp)).2 ?_
      obtain ⟨⟨q, hq', he⟩, hvis⟩ := (hpur c).1 hcp
      obtain ⟨q0, hq0, he0⟩ := hfrom q hq' c he
      exact (diseqHolds_agree fun y hy => hkey y (hvis y hy)).1 (hγ.2 q0 hq0 c he0)
    · rw [List.map_map]
      exact (List.map_congr_left fun q hq' => hinst δ γ hγ.1 hkey q hq').symm

end Pv
