/-
  `reify(x)` as a goal, on the engine, from a state without finite domains: `enforce_constraints_fd` does nothing
  (`force_ans` finds no domain, `verify_all_bound` has nothing to check, the `onceo` over the — empty — list of domain
  variables succeeds once) and the final atom computes `reifyState`.  So the goal delivers exactly one state, the one
  `C02_reported_answer` (Props/C02Answer.lean) speaks about.
-/
import PvModel.Proofs.Drain
import PvModel.Proofs.ForceAns
import PvModel.Proofs.Reify
namespace Pv
open State Term Goal FD

section Id
variable [Mode]
variable (dfs : Call → State → State × G)

/-- a goal that, from a state without domains, delivers that state and nothing else (unless it runs out of the model's
    fuel, which poisons a result), and lets a poisoned state through -/
def IdOK (g : G) : Prop :=
  (∀ N s zs, s.dstore = [] → s.panic = none → evalRef dfs N g s = some zs → (∀ t ∈ zs, t.panic = none) → zs = [s]) ∧
  (∀ N s zs, s.panic ≠ none → evalRef dfs N g s = some zs → s ∈ zs) ∧
  g.isFail = false

theorem forceAns_id (ord : Order) (n : Nat) (t : Term) :
    Run dfs (fun s => s.dstore = []) (fun s zs => zs = [s]) (forceAns ord n t) :=
  forceAns_run dfs ord (I := fun s => s.dstore = []) (C := fun _ s zs => zs = [s])
    (nil := fun _ _ => rfl)
    (seq := fun _ _ s xs zs g _ c1 hg c2 => by
      subst c1
      obtain ⟨ys, ws, e, e2, rfl⟩ := flatMapM_cons_some hg
      cases e2
      rw [c2 s (List.mem_singleton.2 rfl) ys e]
      rfl)
    (keep := fun _ _ _ hd c t ht => by subst c; cases List.mem_singleton.1 ht; exact hd)
    (free := fun _ _ _ _ _ _ => rfl)
    (var := fun _ s xv d _ hd _ _ hg _ _ => by simp [State.dget, hd] at hg)
    (sub := fun _ _ _ _ _ c => c) n t

theorem forceAns_idOK (ord : Order) : ∀ (n : Nat) (t : Term), IdOK dfs (forceAns ord n t) := fun n t =>
  ⟨fun N s zs hd => forceAns_id dfs ord n t N s zs hd, (forceAns_pass dfs ord n t).through,
   (forceAns_pass dfs ord n t).notFail⟩

end Id
section Engine
variable [Mode] {ord : Order} (ho : OrderOK ord) (dfs : Call → State → State × G) (pf M : Nat)

theorem ansS_conj {g1 g2 : G} {s : State} {xs zs : List State}
    (h1 : AnsS (solveAt dfs pf (M + 1)) (solveAt dfs pf (M + 1) g1 s) xs)
    (hb : AnsB (solveAt dfs pf (M + 1)) g2 xs zs) :
    AnsS (solveAt dfs pf (M + 1)) (solveAt dfs pf (M + 1) (.conj g1 g2) s) zs := by
  show AnsS _ (Strm.lazyBind (.pause s g1) g2) zs
  exact lazyBind_ans (topOK_solveAt dfs pf M) (.pause h1) hb

theorem ansB_single {g : G} {a : State} {ys : List State}
    (h : AnsS (solveAt dfs pf (M + 1)) (solveAt dfs pf (M + 1) g a) ys) :
    AnsB (solveAt dfs pf (M + 1)) g [a] ys := by
  have := AnsB.cons (top := solveAt dfs pf (M + 1)) h (AnsB.nil (g := g))
  rwa [List.append_nil] at this

theorem ansS_conj_single {g1 g2 : G} {s b : State} {zs : List State}
    (h1 : AnsS (solveAt dfs pf (M + 1)) (solveAt dfs pf (M + 1) g1 s) [b])
    (h2 : AnsS (solveAt dfs pf (M + 1)) (solveAt dfs pf (M + 1) g2 b) zs) :
    AnsS (solveAt dfs pf (M + 1)) (solveAt dfs pf (M + 1) (.conj g1 g2) s) zs :=
  ansS_conj dfs pf M h1 (ansB_single dfs pf M h2)

theorem ansS_succeed (s : State) : AnsS (solveAt dfs pf (M + 1)) (solveAt dfs pf (M + 1) (.succeed : G) s) [s] := .unit s

/-- the goal `enforce_constraints_fd` runs after labelling the query term -/
def enforceDyn (ord : Order) : G :=
  .dyn id fun st =>
    if st.panic.isSome then .succeed
    else if !st.allBound then .atom (liftRes fun _ => .panic "unbound-domain")
    else Goal.onceo [forceAns ord forceFuel (Term.ofList ((ord.ds st.dstore).map fun p => Term.var p.1))]

omit [Mode] in
theorem enforceFd_eq (ord : Order) (x : Term) :
    enforceFd ord x = .conj (forceAns ord forceFuel x) (.conj (enforceDyn ord) .succeed) := by
  unfold enforceFd enforceDyn
  show mkConj _ (mkConj _ .succeed) = _
  unfold mkConj
  rfl

/-- Assembly of `enforce_constraints_fd` on the engine.  Let the labelling of the query term deliver the blocks `xs`
    (textbook order), and let `o c` be what the `onceo` over the remaining domain variables delivers from block `c`
    (`C17_hidden_onceo`: at most one closed state; one iff the block has a solution).  Then the whole goal delivers, for
    some engine order `xs'` of the blocks, exactly the states `o c` — one per block that has one, none for the others. -/
theorem enforce_compose (ord : Order) (x : Term) (s : State) (N : Nat) (xs : List State) (o : State → Option State)
    (h1 : evalRef dfs N (forceAns ord forceFuel x) s = some xs)
    (hb : ∀ c ∈ xs, c.panic = none ∧ c.allBound = true ∧
      start dfs (solveAt dfs pf (M + 1)) pf
        (Goal.onceo [forceAns ord forceFuel (Term.ofList ((ord.ds c.dstore).map fun p => Term.var p.1))]) c = firstStrm (o c)) :
    ∃ xs', xs.Perm xs' ∧
      AnsS (solveAt dfs pf (M + 2)) (solveAt dfs pf (M + 2) (enforceFd ord x) s) (xs'.flatMap fun c => (o c).toList) := by
  obtain ⟨xs', hxs, px⟩ := ref_perm dfs pf (M + 1) N _ s xs h1 (M + 1)
  refine ⟨xs', px, ?_⟩
  rw [enforceFd_eq]
  refine ansS_conj dfs pf (M + 1) hxs ?_
  have hb' : ∀ c ∈ xs', c.panic = none ∧ c.allBound = true ∧
      start dfs (solveAt dfs pf (M + 1)) pf
        (Goal.onceo [forceAns ord forceFuel (Term.ofList ((ord.ds c.dstore).map fun p => Term.var p.1))]) c = firstStrm (o c) :=
    fun c hc => hb c (px.mem_iff.2 hc)
  clear hxs px hb h1
  induction xs' with
  | nil => exact .nil
  | cons c rest ih =>
    simp only [List.flatMap_cons]
    refine .cons ?_ (ih fun c' hc' => hb' c' (List.mem_cons_of_mem _ hc'))
    obtain ⟨hp, hab, hst⟩ := hb' c List.mem_cons_self
    show AnsS _ (Strm.lazyBind (.pause c (enforceDyn ord)) .succeed) _
    simp only [Strm.lazyBind, Goal.isSucceed, if_true]
    refine .lazy (.pause ?_)
    show AnsS _ (start dfs (solveAt dfs pf (M + 1)) pf (enforceDyn ord) c) _
    unfold enforceDyn
    simp only [start, id, hp, Option.isSome_none, Bool.false_eq_true, if_false, hab, Bool.not_true]
    rw [hst]
    cases o c with
    | none => exact .empty
    | some b => exact .unit b

include ho in
theorem onceo_keys_no_domain (s : State) (hd : s.dstore = []) (hp : s.panic = none) :
    start dfs (solveAt dfs (pf + 2) (M + 1)) (pf + 2)
      (Goal.onceo [forceAns ord forceFuel (Term.ofList ((ord.ds s.dstore).map fun p => Term.var p.1))]) s =
      firstStrm (some s) := by
  have hds : ord.ds s.dstore = [] := by
    have := ho.2.2 s.dstore
    rw [hd] at this ⊢
    exact this.eq_nil
  have hdrain : drainF (solveAt dfs (pf + 2) (M + 1)) (pf + 2)
      (start dfs (solveAt dfs (pf + 2) (M + 1)) (pf + 2) (Goal.conjOfList [forceAns ord forceFuel .nil]) s) = some [s] := by
    rw [show Goal.conjOfList [forceAns ord forceFuel .nil] = .conj (forceAns ord forceFuel .nil) .succeed from
      conjOfList_forceAns_cons ord forceFuel .nil []]
    show drainF _ (pf + 2) (Strm.lazyBind (.pause s (forceAns ord forceFuel .nil)) .succeed) = _
    simp only [Strm.lazyBind, Goal.isSucceed, if_true, drainF, step, solveAt]
    show drainF _ (pf + 1) (start dfs _ (pf + 2) (forceAns ord (forceFuel - 1 + 1) .nil) s) = _
    simp only [forceAns, start, id, hp, Option.isSome_none, Bool.false_eq_true, if_false, walk, drainF]
  rw [hds]
  exact onceo_of_drain (solveAt dfs (pf + 2) (M + 1)) dfs (pf + 2) [forceAns ord forceFuel .nil] s [s] hdrain

omit [Mode] in
theorem allBound_of_no_fd {s : State} (hst : ∀ p ∈ s.store, p.2.isFD = false) : s.allBound = true := by
  unfold State.allBound
  rw [List.all_eq_true]
  intro p hp'
  simp [hst p hp']

include ho in
theorem enforce_dyn_tree (s : State) (hd : s.dstore = []) (hp : s.panic = none)
    (hst : ∀ p ∈ s.store, p.2.isFD = false) :
    AnsS (solveAt dfs (pf + 2) (M + 2))
      (solveAt dfs (pf + 2) (M + 2) (.dyn id fun st =>
        if st.panic.isSome then .succeed
        else if !st.allBound then .atom (liftRes fun _ => .panic "unbound-domain")
        else Goal.onceo [forceAns ord forceFuel (Term.ofList ((ord.ds st.dstore).map fun p => Term.var p.1))]) s) [s] := by
  show AnsS _ (start dfs (solveAt dfs (pf + 2) (M + 1)) (pf + 2) (.dyn id _) s) [s]
  simp only [start, id, hp, Option.isSome_none, Bool.false_eq_true, if_false, allBound_of_no_fd hst, Bool.not_true]
  rw [onceo_keys_no_domain ho dfs pf M s hd hp]
  exact .unit s

include ho in
/-- `reify(x)` as a goal, on the engine (nesting level ≥ 2, peek fuel ≥ 2), from an unpoisoned state without finite
    domains and finite-domain propagators, whenever `force_ans` finishes within the model's fuel: exactly one answer,
    the reified state -/
theorem reifyG_tree (s : State) (hd : s.dstore = []) (hp : s.panic = none) (hst : ∀ p ∈ s.store, p.2.isFD = false)
    (x : Term)
    (hfa : ∃ N zs, evalRef dfs N (forceAns ord forceFuel x) s = some zs ∧ ∀ t ∈ zs, t.panic = none) :
    AnsS (solveAt dfs (pf + 2) (M + 2)) (solveAt dfs (pf + 2) (M + 2) (reifyG ord x) s) [reifyState ord s x] := by
  obtain ⟨N, zs, hev, hall⟩ := hfa
  cases forceAns_id dfs ord forceFuel x N s zs hd hp hev hall
  -- `enforce_constraints_fd`: the one block `s`, and the `onceo` delivers it
  obtain ⟨xs', px, hE⟩ := enforce_compose dfs (pf + 2) M ord x s N [s] some hev fun c hc => by
    cases List.mem_singleton.1 hc
    exact ⟨hp, allBound_of_no_fd hst, onceo_keys_no_domain ho dfs pf M s hd hp⟩
  cases List.singleton_perm.1 px
  have hE' := ansS_conj_single dfs (pf + 2) (M + 1) (zs := [s]) hE (ansS_succeed dfs (pf + 2) (M + 1) s)
  -- the final atom
  have hRF : AnsS (solveAt dfs (pf + 2) (M + 2)) (solveAt dfs (pf + 2) (M + 2) (reifyFinal ord x) s) [reifyState ord s x] := by
    rw [reifyFinal_eq]
    show AnsS _ (start dfs _ (pf + 2) (.atom _) s) _
    simp only [start, liftRes_of_ok (f := fun st => .ok (reifyState ord st x)) hp rfl]
    exact .unit _
  have hRF' := ansS_conj_single dfs (pf + 2) (M + 1) hRF (ansS_succeed dfs (pf + 2) (M + 1) _)
  have eR : reifyG ord x = .conj (.conj (enforceFd ord x) .succeed) (.conj (reifyFinal ord x) .succeed) := by
    unfold reifyG
    show mkConj (mkConj _ (mkConj .succeed .succeed)) (mkConj _ .succeed) = _
    rw [enforceFd_eq, reifyFinal_eq]
    unfold mkConj
    rfl
  rw [eR]
  exact ansS_conj_single dfs (pf + 2) (M + 1) hE' hRF'

end Engine

end Pv
