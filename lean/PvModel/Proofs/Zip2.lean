/-
  Two lists related element by element.
-/
namespace Pv

inductive Zip2 {α β : Type} (R : α → β → Prop) : List α → List β → Prop
  | nil : Zip2 R [] []
  | cons {a b as bs} : R a b → Zip2 R as bs → Zip2 R (a :: as) (b :: bs)

theorem zip2_append {α β : Type} {R : α → β → Prop} {as as' : List α} {bs bs' : List β} (h : Zip2 R as bs)
    (h' : Zip2 R as' bs') : Zip2 R (as ++ as') (bs ++ bs') := by
  induction h with
  | nil => exact h'
  | cons r _ ih => exact .cons r ih

theorem zip2_map {α β γ δ : Type} {R : α → β → Prop} {S : γ → δ → Prop} (f : α → γ) (g : β → δ)
    (h : ∀ a b, R a b → S (f a) (g b)) {as : List α} {bs : List β} (z : Zip2 R as bs) : Zip2 S (as.map f) (bs.map g) := by
  induction z with
  | nil => exact .nil
  | cons r _ ih => exact .cons (h _ _ r) ih

theorem zip2_imp {α β : Type} {R R' : α → β → Prop} (h : ∀ a b, R a b → R' a b) {as : List α} {bs : List β}
    (z : Zip2 R as bs) : Zip2 R' as bs := by
  induction z with
  | nil => exact .nil
  | cons r _ ih => exact .cons (h _ _ r) ih

theorem Zip2.length_eq {α β : Type} {R : α → β → Prop} : ∀ {xs : List α} {ys : List β}, Zip2 R xs ys → xs.length = ys.length := by
  intro xs ys h
  induction h with
  | nil => rfl
  | cons _ _ ih => exact congrArg (· + 1) ih

theorem zip2_perm_left {α β : Type} {R : α → β → Prop} : ∀ {xs zs : List α}, xs.Perm zs → ∀ {ys : List β}, Zip2 R xs ys →
    ∃ ws, ws.Perm ys ∧ Zip2 R zs ws := by
  intro xs zs h
  induction h with
  | nil => intro ys z; exact ⟨ys, .refl _, z⟩
  | cons a _ ih =>
    intro ys z
    cases z with
    | cons r t =>
      obtain ⟨ws, pw, zw⟩ := ih t
      exact ⟨_ :: ws, .cons _ pw, .cons r zw⟩
  | swap a b l =>
    intro ys z
    cases z with
    | cons r1 t1 =>
      cases t1 with
      | cons r2 t2 => exact ⟨_ :: _ :: _, .swap _ _ _, .cons r2 (.cons r1 t2)⟩
  | trans _ _ ih1 ih2 =>
    intro ys z
    obtain ⟨w1, p1, z1⟩ := ih1 z
    obtain ⟨w2, p2, z2⟩ := ih2 z1
    exact ⟨w2, p2.trans p1, z2⟩

theorem zip2_refl {α : Type} {R : α → α → Prop} (hr : ∀ a, R a a) (l : List α) : Zip2 R l l := by
  induction l with
  | nil => exact .nil
  | cons a _ ih => exact .cons (hr a) ih

theorem zip2_trans_perm {α : Type} {xs ys zs : List (List α)} (h : Zip2 List.Perm xs ys) (h' : Zip2 List.Perm ys zs) :
    Zip2 List.Perm xs zs := by
  induction h generalizing zs with
  | nil => exact h'
  | cons r _ ih =>
    cases h' with
    | cons r' t' => exact .cons (r.trans r') (ih t')

theorem zip2_product {α : Type} {f f' : List α → List α → List α}
    (h : ∀ {x x' y y'}, x.Perm x' → y.Perm y' → (f x y).Perm (f' x' y')) {P P' Q Q' : List (List α)}
    (hp : Zip2 List.Perm P P') (hq : Zip2 List.Perm Q Q') :
    Zip2 List.Perm (P.flatMap fun x => Q.map (f x)) (P'.flatMap fun x => Q'.map (f' x)) := by
  induction hp with
  | nil => exact .nil
  | cons r _ ih =>
    simp only [List.flatMap_cons]
    exact zip2_append (zip2_map _ _ (fun _ _ s => h r s) hq) ih

theorem zip2_filterMap {α β γ : Type} {S : α → α → Prop} {R : β → γ → Prop} {h1 : α → Option β} {h2 : α → Option γ}
    {as bs : List α} (z : Zip2 S as bs)
    (h : ∀ a b, a ∈ as → b ∈ bs → S a b → (h1 a = none ∧ h2 b = none) ∨ ∃ u v, h1 a = some u ∧ h2 b = some v ∧ R u v) :
    Zip2 R (as.filterMap h1) (bs.filterMap h2) := by
  induction z with
  | nil => exact .nil
  | @cons a b as bs r _ ih =>
    have ih := ih fun a' b' ha hb => h a' b' (List.mem_cons_of_mem _ ha) (List.mem_cons_of_mem _ hb)
    rcases h a b List.mem_cons_self List.mem_cons_self r with ⟨n1, n2⟩ | ⟨u, v, s1, s2, ruv⟩
    · simp only [List.filterMap_cons, n1, n2]; exact ih
    · simp only [List.filterMap_cons, s1, s2]; exact .cons ruv ih

theorem zip2_mem_left {α β : Type} {R : α → β → Prop} : ∀ {xs : List α} {ys : List β}, Zip2 R xs ys → ∀ x ∈ xs, ∃ y ∈ ys, R x y := by
  intro xs ys z
  induction z with
  | nil => exact fun _ h => nomatch h
  | cons r _ ih =>
    intro x h
    rcases List.mem_cons.1 h with rfl | h
    · exact ⟨_, List.mem_cons_self, r⟩
    · obtain ⟨y, hy, hr⟩ := ih x h
      exact ⟨y, List.mem_cons_of_mem _ hy, hr⟩

theorem zip2_mem_right {α β : Type} {R : α → β → Prop} {xs : List α} {ys : List β} (z : Zip2 R xs ys) :
    ∀ y ∈ ys, ∃ x ∈ xs, R x y := by
  induction z with
  | nil => exact fun _ h => nomatch h
  | cons r _ ih =>
    intro y h
    rcases List.mem_cons.1 h with rfl | h
    · exact ⟨_, List.mem_cons_self, r⟩
    · obtain ⟨x, hx, hr⟩ := ih y h
      exact ⟨x, List.mem_cons_of_mem _ hx, hr⟩

end Pv
