/-
  Terms, and `==` / `!=` atoms, over the variables below a bound: the counter `nextVar` of a state is such a bound for
  everything the state has been asked so far.
-/
import PvModel.Spec.Tree
namespace Pv
open Term

def Below (m : Nat) (t : Term) : Prop := ∀ y ∈ t.vars, y < m

theorem Below.mono {m m' : Nat} {t : Term} (h : Below m t) (hm : m ≤ m') : Below m' t :=
  fun y hy => Nat.lt_of_lt_of_le (h y hy) hm

theorem below_var {m k : Nat} (h : k < m) : Below m (.var k) := fun y hy => by
  simp only [Term.vars, List.mem_singleton] at hy; subst hy; exact h

theorem below_cons {m : Nat} {h t : Term} (h1 : Below m h) (h2 : Below m t) : Below m (.cons h t) := fun y hy => by
  simp only [Term.vars, List.mem_append] at hy
  exact hy.elim (h1 y) (h2 y)

theorem below_nil (m : Nat) : Below m .nil := fun y hy => by simp [Term.vars] at hy

theorem below_nil' (m : Nat) : Below m .nil := below_nil m

theorem below_fresh (n : Nat) {i k : Nat} (h : i < k := by decide) : Below (n + k) (.var (n + i)) :=
  below_var (Nat.add_lt_add_left h n)

def TAtom.Below (m : Nat) : TAtom → Prop
  | .eq u v => Pv.Below m u ∧ Pv.Below m v
  | .neq u v => Pv.Below m u ∧ Pv.Below m v

theorem TAtom.Below.mono {m m' : Nat} : ∀ {t : TAtom}, t.Below m → m ≤ m' → t.Below m'
  | .eq _ _, h, hm => ⟨h.1.mono hm, h.2.mono hm⟩
  | .neq _ _, h, hm => ⟨h.1.mono hm, h.2.mono hm⟩

end Pv
