/-
  Labelling grounds the query term.  If every variable of the walked query term has a domain, every state `force_ans(x)`
  delivers binds all of them, to numbers, so `x` is ground in it: all valuations the state describes give `x` the same
  value.  (`forceAns_reachDone` of Proofs/EnforceKeys.lean, read on the query term.)
-/
import PvModel.Proofs.EnforceKeys
import PvModel.Proofs.DiseqNF
namespace Pv
open State Term Goal FD
attribute [local instance] Mode.strict

section
variable {ord : Order} (ho : OrderOK ord) (dfs : Call → State → State × G)
include ho

/-- every variable of the walked term is done in every delivered state -/
def DoneOK (g : G) (x : Term) : Prop :=
  ∀ N s zs, LInv s → s.panic = none → evalRef dfs N g s = some zs → (∀ t ∈ zs, t.panic = none) →
    ∀ t ∈ zs, ∀ y ∈ (apply s.σ x).vars, KeyDone t y

theorem forceAns_doneOK : ∀ (n : Nat) (x : Term), DoneOK dfs (forceAns ord n x) x := fun n x N s zs hi hp h hall t ht =>
  (forceAns_reachDone ho dfs n x N s zs hi hp h hall).done ht (List.mem_singleton.2 rfl)

omit ho in
theorem vars_apply_numonly {τ : Subst} : ∀ {u : Term}, (∀ v ∈ u.vars, τ v = .var v ∨ ∃ n, τ v = Term.num n) →
    ∀ y ∈ (apply τ u).vars, y ∈ u.vars ∧ τ y = .var y := by
  intro u
  induction u with
  | var z =>
    intro h y hy
    have hy : y ∈ (τ z).vars := hy
    rcases h z (List.mem_singleton.2 rfl) with e | ⟨n, e⟩
    · rw [e] at hy
      cases List.mem_singleton.1 hy
      exact ⟨List.mem_singleton.2 rfl, e⟩
    · rw [e] at hy
      cases hy
  | val _ => exact fun _ _ hy => nomatch hy
  | nil => exact fun _ _ hy => nomatch hy
  | cons a b iha ihb =>
    intro h y hy
    rcases List.mem_append.1 (hy : y ∈ (apply τ a).vars ++ (apply τ b).vars) with hy | hy
    · obtain ⟨p, q⟩ := iha (fun v hv => h v (List.mem_append.2 (.inl hv))) y hy
      exact ⟨List.mem_append.2 (.inl p), q⟩
    · obtain ⟨p, q⟩ := ihb (fun v hv => h v (List.mem_append.2 (.inr hv))) y hy
      exact ⟨List.mem_append.2 (.inr p), q⟩
  | comp _ a ih => exact ih

omit ho in
theorem apply_ground {γ : Subst} : ∀ {t : Term}, t.vars = [] → apply γ t = t
  | .var z, h => by simp [Term.vars] at h
  | .val v, _ => rfl
  | .nil, _ => rfl
  | .cons a b, h => by
    simp only [Term.vars, List.append_eq_nil_iff] at h
    simp only [apply, apply_ground h.1, apply_ground h.2]
  | .comp g a, h => by
    simp only [Term.vars] at h
    simp only [apply, apply_ground h]

theorem blocks_ground (n N : Nat) (x : Term) (s : State) (xs : List State) (hi : LInv s) (hp : s.panic = none)
    (hdom : ∀ y ∈ (apply s.σ x).vars, (s.dget y).isSome)
    (h : evalRef dfs N (forceAns ord n x) s = some xs) (hall : ∀ t ∈ xs, t.panic = none) :
    ∀ c ∈ xs, (apply c.σ x).vars = [] ∧ ∀ γ, Sem NoI γ c → apply γ x = apply c.σ x := by
  intro c hc
  have rd := forceAns_reachDone ho dfs n x N s xs hi hp h hall
  obtain ⟨li, kn, _, _⟩ := reach_inv ho hi (rd.reach hc)
  have hunb : ∀ v ∈ (apply s.σ x).vars, s.σ v = .var v := normal_vars _ (apply_apply_solved hi.w.solved x)
  have hg : (apply c.σ x).vars = [] := by
    apply List.eq_nil_iff_forall_not_mem.2
    intro y hy
    rw [← kn.ext x] at hy
    obtain ⟨hyv, hyu⟩ := vars_apply_numonly (fun v hv => kn.numonly v (hunb v hv)) y hy
    rcases rd.done hc (List.mem_singleton.2 rfl) y hyv with b | b
    · exact b hyu
    · have := kn.dom y (hunb y hyv) hyu (hdom y hyv)
      rw [b] at this; cases this
  refine ⟨hg, fun γ hγ => ?_⟩
  rw [← hγ.1 x]
  exact apply_ground hg

end
end Pv
