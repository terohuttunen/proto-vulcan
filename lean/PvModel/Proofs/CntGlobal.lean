/-
  The constraint-lifecycle invariant (`withs = takes + |store|`, identities distinct and below the next
  fresh one) through the whole state machine of Model/State.lean, including the re-entrant
  `run_constraints → c.run → process_domain → resolve_storable_domain → run_constraints` loop of CLP(FD)
  and the direct bindings of CLP(Z): by induction on the nesting level.
-/
import PvModel.Proofs.Tree
import PvModel.Proofs.StateInv
namespace Pv
open State

def ids (st : State) : List Nat := st.store.map (·.1)

def Inv (st : State) : Prop := Cnt st ∧ IdsOK st

/-- `st'` was reached from `st` by lifecycle-respecting operations that may have (re-)added the identity
    `i`: invariant kept, identity source monotone, no identity invented below the old source -/
structure StepI (i : Option Nat) (st st' : State) : Prop where
  inv : Inv st'
  mono : st.nextId ≤ st'.nextId
  sub : ∀ j ∈ ids st', j ∈ ids st ∨ some j = i ∨ st.nextId ≤ j
  /-- the poison flag of the goal layer is never touched by the state machine -/
  pan : st'.panic = st.panic

theorem StepI.refl {i : Option Nat} {st : State} (h : Inv st) : StepI i st st :=
  ⟨h, Nat.le_refl _, fun _ hj => .inl hj, rfl⟩

theorem StepI.weaken {st st' : State} {i : Option Nat} (h : StepI none st st') : StepI i st st' :=
  ⟨h.inv, h.mono, fun j hj => by
    rcases h.sub j hj with a | a | a
    · exact .inl a
    · cases a
    · exact .inr (.inr a), h.pan⟩

theorem StepI.trans {i : Option Nat} {st st1 st2 : State} (h1 : StepI i st st1) (h2 : StepI i st1 st2) :
    StepI i st st2 :=
  ⟨h2.inv, Nat.le_trans h1.mono h2.mono, fun j hj => by
    rcases h2.sub j hj with a | a | a
    · exact h1.sub j a
    · exact .inr (.inl a)
    · exact .inr (.inr (Nat.le_trans h1.mono a)), h2.pan.trans h1.pan⟩

/-- a state that differs only in substitution / domains / log -/
def SameStore (st st' : State) : Prop :=
  st'.store = st.store ∧ st'.nextId = st.nextId ∧ st'.withs = st.withs ∧ st'.takes = st.takes ∧
    st'.panic = st.panic

theorem SameStore.nextId_eq {st st' : State} (h : SameStore st st') : st'.nextId = st.nextId := h.2.1
theorem SameStore.panic_eq {st st' : State} (h : SameStore st st') : st'.panic = st.panic := h.2.2.2.2

theorem SameStore.trans {a b c : State} (h1 : SameStore a b) (h2 : SameStore b c) : SameStore a c :=
  ⟨h2.1.trans h1.1, h2.2.1.trans h1.2.1, h2.2.2.1.trans h1.2.2.1, h2.2.2.2.1.trans h1.2.2.2.1, h2.2.2.2.2.trans h1.2.2.2.2⟩

theorem SameStore.of_σ (st : State) (σ' : Subst) : SameStore st { st with σ := σ' } := ⟨rfl, rfl, rfl, rfl, rfl⟩
theorem SameStore.dremove (st : State) (x : Nat) : SameStore st (st.dremove x) := ⟨rfl, rfl, rfl, rfl, rfl⟩
theorem SameStore.dinsert (st : State) (x : Nat) (d : FD) : SameStore st (st.dinsert x d) := ⟨rfl, rfl, rfl, rfl, rfl⟩

theorem SameStore.inv {st st' : State} (h : SameStore st st') (hi : Inv st) : Inv st' := by
  obtain ⟨h1, h2, h3, h4, _⟩ := h
  obtain ⟨hc, hn, hl⟩ := hi
  refine ⟨?_, ?_, ?_⟩
  · simp only [Cnt] at hc ⊢; rw [h1, h3, h4]; exact hc
  · rw [h1]; exact hn
  · intro p hp; rw [h1] at hp; rw [h2]; exact hl p hp

theorem Inv.of_σ {st : State} (hi : Inv st) (σ' : Subst) : Inv { st with σ := σ' } := (SameStore.of_σ st σ').inv hi
theorem Inv.dremove {st : State} (hi : Inv st) (x : Nat) : Inv (st.dremove x) := (SameStore.dremove st x).inv hi

theorem SameStore.ids {st st' : State} (h : SameStore st st') : ids st' = ids st := by
  unfold Pv.ids
  rw [h.1]

theorem SameStore.step {i : Option Nat} {st st' : State} (h : SameStore st st') (hi : Inv st) : StepI i st st' :=
  ⟨h.inv hi, Nat.le_of_eq h.nextId_eq.symm, fun _ hj => .inl (h.ids ▸ hj), h.panic_eq⟩

/-- the nested `run_constraints` respects the lifecycle -/
def RcOK (rc : State → Res State) : Prop := ∀ st st', Inv st → rc st = .ok st' → StepI none st st'

theorem take_panic (st : State) (i : Nat) : (st.takeConstraint i).1.panic = st.panic := by
  unfold State.takeConstraint; split <;> rfl

theorem takes_panic : ∀ (l : List (Nat × Cst)) (st : State), (takes l st).panic = st.panic
  | [], _ => rfl
  | p :: l, st => by
    have : takes (p :: l) st = takes l (st.takeConstraint p.1).1 := rfl
    rw [this, takes_panic l, take_panic]

theorem take_step (st : State) (i : Nat) (hi : Inv st) :
    Inv (st.takeConstraint i).1 ∧ (st.takeConstraint i).1.nextId = st.nextId ∧
    (∀ j ∈ ids (st.takeConstraint i).1, j ∈ ids st) ∧
    (∀ c, (st.takeConstraint i).2 = some c → i ∉ ids (st.takeConstraint i).1 ∧ i < st.nextId) := by
  obtain ⟨hc, hn, hl⟩ := hi
  obtain ⟨f1, f2, f3, f4⟩ := take_fields st i
  have hsub : ∀ q, q ∈ (st.takeConstraint i).1.store → q ∈ st.store := fun q hq => by
    rw [f4] at hq; exact (List.mem_filter.mp hq).1
  refine ⟨⟨cnt_take st i hn hc, ?_, ?_⟩, f3, ?_, ?_⟩
  · rw [f4]; exact (List.Sublist.map (fun q : Nat × Cst => q.1) List.filter_sublist).nodup hn
  · intro p hp; rw [f3]; exact hl p (hsub p hp)
  · intro j hj
    obtain ⟨q, hq, rfl⟩ := List.mem_map.1 hj
    exact List.mem_map_of_mem (hsub q hq)
  · intro c hcc
    have hm : (i, c) ∈ st.store := take_some hcc
    refine ⟨?_, hl _ hm⟩
    intro hj
    obtain ⟨q, hq, e⟩ := List.mem_map.1 hj
    rw [f4] at hq
    have := (List.mem_filter.mp hq).2
    simp only [bne_iff_ne, ne_eq] at this
    exact this e

theorem takesAll_inv : ∀ (l : List (Nat × Cst)) (st : State), Inv st →
    Inv (l.foldl (fun s p => (s.takeConstraint p.1).1) st)
  | [], _, h => h
  | p :: l, st, h => takesAll_inv l _ (take_step st p.1 h).1

theorem store_step {st s1 : State} {i : Nat} (c : Cst) (hlt : i < st.nextId) (hni : i ∉ ids st) (h1 : Inv s1)
    (hn : s1.nextId = st.nextId) (hp : s1.panic = st.panic) (hsub : ∀ q ∈ s1.store, q ∈ st.store) :
    StepI (some i) st { s1 with withs := s1.withs + 1, store := s1.store ++ [(i, c)] } := by
  obtain ⟨hc, hnd, hl⟩ := h1
  have hni1 : i ∉ s1.store.map (·.1) := fun hj => by
    obtain ⟨q, hq, e⟩ := List.mem_map.1 hj
    exact hni (e ▸ List.mem_map_of_mem (hsub q hq))
  refine ⟨⟨?_, ?_, ?_⟩, Nat.le_of_eq hn.symm, ?_, hp⟩
  · simp only [Cnt, List.length_append, List.length_singleton] at hc ⊢; omega
  · simp only [List.map_append, List.map_cons, List.map_nil]
    exact List.nodup_append.2 ⟨hnd, by simp, fun a ha b hb => by
      simp only [List.mem_singleton] at hb; subst hb; intro e; exact hni1 (e ▸ ha)⟩
  · intro p hp
    rcases List.mem_append.1 hp with h | h
    · exact hl p h
    · simp only [List.mem_singleton] at h; subst h; exact hn ▸ hlt
  · intro j hj
    simp only [ids, List.map_append, List.map_cons, List.map_nil, List.mem_append, List.mem_singleton] at hj
    rcases hj with h | h
    · obtain ⟨q, hq, rfl⟩ := List.mem_map.1 h
      exact .inl (List.mem_map_of_mem (hsub q hq))
    · exact .inr (.inl (by rw [h]))

theorem with_step (ord : Order) (st : State) (i : Nat) (c : Cst) (hi : Inv st) (hlt : i < st.nextId)
    (hni : i ∉ ids st) : StepI (some i) st (st.withConstraint ord i c) := by
  cases hd : c.isDiseq with
  | false =>
    rw [withConstraint_other ord st i hd, filter_ne_self hni]
    exact store_step c hlt hni hi rfl rfl fun _ h => h
  | true =>
    obtain ⟨ps, rfl⟩ := Cst.eq_diseq_of_isDiseq hd
    rw [withConstraint_diseq_eq]
    split
    · exact StepI.refl hi
    · -- the stored disequalities it subsumes are taken out first
      obtain ⟨_, _, t3, t4, _⟩ := takes_fields ((ord.cs st.store).filter (subOf ord ps)) st
      exact store_step _ hlt hni (takesAll_inv _ st hi) t3 (takes_panic _ st) fun q hq => t4.subset hq

/-- the identity `i` is free for (re-)adding -/
def Fr (i : Nat) (st : State) : Prop := Inv st ∧ i < st.nextId ∧ i ∉ ids st

theorem Fr.inv {i : Nat} {st : State} (f : Fr i st) : Inv st := f.1

theorem Fr.step {i : Nat} {st st1 : State} (h : Fr i st) (s : StepI none st st1) : Fr i st1 :=
  ⟨s.inv, Nat.lt_of_lt_of_le h.2.1 s.mono, fun hj => by
    rcases s.sub i hj with a | a | a
    · exact h.2.2 a
    · cases a
    · exact absurd h.2.1 (by omega)⟩

/-- a re-run one level down respects the lifecycle -/
def SelfOK (self : Nat → Cst → State → Res State) : Prop :=
  ∀ i c st st', Fr i st → self i c st = .ok st' → StepI (some i) st st'

theorem selfOK_fuel : SelfOK (fun _ _ _ => .fuel) := fun _ _ _ _ _ h => by cases h

theorem Fr.readd (ord : Order) {i : Nat} {st : State} (f : Fr i st) (c : Cst) :
    StepI (some i) st (st.withConstraint ord i c) :=
  with_step ord st i c f.inv f.2.1 f.2.2

theorem fresh_fr {st : State} (hi : Inv st) : Fr st.nextId { st with nextId := st.nextId + 1 } := by
  obtain ⟨hc, hn, hl⟩ := hi
  refine ⟨⟨hc, hn, fun p hp => Nat.lt_succ_of_lt (hl p hp)⟩, Nat.lt_succ_self _, fun hj => ?_⟩
  obtain ⟨q, hq, e⟩ := List.mem_map.1 hj
  exact Nat.lt_irrefl _ (e ▸ hl q hq)

/-- what was done under a fresh identity invented no identity below the old source -/
theorem StepI.of_fresh {j : Option Nat} {st st' : State}
    (s : StepI (some st.nextId) { st with nextId := st.nextId + 1 } st') : StepI j st st' := by
  refine ⟨s.inv, Nat.le_trans (Nat.le_succ _) s.mono, fun k hk => ?_, s.pan⟩
  rcases s.sub k hk with a | a | a
  · exact .inl a
  · cases a; exact .inr (.inr (Nat.le_refl _))
  · exact .inr (.inr (Nat.le_of_succ_le a))

theorem withNew_step {i : Option Nat} (ord : Order) (st : State) (c : Cst) (hi : Inv st) :
    StepI i st (st.withNewConstraint ord c) :=
  ((fresh_fr hi).readd ord c).of_fresh

theorem fresh_run {self : Nat → Cst → State → Res State} (hs : SelfOK self) {j : Option Nat} {c : Cst}
    {st st' : State} (hi : Inv st)
    (h : self st.nextId c { st with nextId := st.nextId + 1 } = .ok st') : StepI j st st' :=
  (hs _ _ _ _ (fresh_fr hi) h).of_fresh

theorem take_fr {st st1 : State} {i : Nat} {c : Cst} (hi : Inv st) (e : st.takeConstraint i = (st1, some c)) :
    Fr i st1 := by
  obtain ⟨ti, tn, _, tf⟩ := take_step st i hi
  rw [e] at ti tn tf
  obtain ⟨hni, hlt⟩ := tf c rfl
  exact ⟨ti, by rw [tn]; exact hlt, hni⟩

/-- a constraint taken out and then run: the identity that may have come back was there before -/
theorem StepI.of_take {st st1 st' : State} {i : Nat} {c : Cst} (e : st.takeConstraint i = (st1, some c))
    (s : StepI (some i) st1 st') : StepI none st st' := by
  obtain ⟨hm, rfl⟩ := take_some_ok e
  refine ⟨s.inv, s.mono, fun k hk => ?_, s.pan⟩
  rcases s.sub k hk with a | a | a
  · obtain ⟨q, hq, rfl⟩ := List.mem_map.1 a
    exact .inl (List.mem_map_of_mem (List.mem_filter.1 hq).1)
  · cases a; exact .inl (List.mem_map_of_mem (f := (·.1)) hm)
  · exact .inr (.inr a)

theorem SameStore.pre {i : Option Nat} {st st0 st' : State} (h : SameStore st st0) (s : StepI i st0 st') :
    StepI i st st' :=
  ⟨s.inv, h.nextId_eq ▸ s.mono, fun j hj => by
    rcases s.sub j hj with a | a | a
    · exact .inl (h.ids ▸ a)
    · exact .inr (.inl a)
    · exact .inr (.inr (h.nextId_eq ▸ a)), s.pan.trans h.panic_eq⟩

theorem SameStore.fr {i : Nat} {st st0 : State} (h : SameStore st st0) (f : Fr i st) : Fr i st0 :=
  ⟨h.inv f.inv, h.nextId_eq.symm ▸ f.2.1, h.ids.symm ▸ f.2.2⟩

section WithRC
variable {rc : State → Res State} (hrc : RcOK rc) (ord : Order)
include hrc

theorem processDomain_step {st st' : State} {x : Term} {d : FD} (hi : Inv st)
    (h : processDomain rc st x d = .ok st') : StepI none st st' := by
  rcases processDomain_ok h with ⟨_, _, _, rfl⟩ | ⟨y, i, _, _, ⟨_, rfl⟩ | ⟨n, _, hr⟩⟩
  · exact StepI.refl hi
  · exact (SameStore.dinsert st y i).step hi
  · exact ((SameStore.of_σ st _).trans (SameStore.dremove _ y)).pre (hrc _ _ ((hi.of_σ _).dremove y) hr)

theorem excludeFromDomain_step {st st' : State} {xs : List Term} {ex : FD} (hi : Inv st)
    (h : excludeFromDomain rc st xs ex = .ok st') : StepI none st st' := by
  unfold excludeFromDomain at h
  refine (foldl_bind_ok (fun _ cur => StepI none st cur) _ ?_ xs (.ok st) st' h).elim fun s0 ⟨e0, p⟩ => ?_
  · intro y _ cur cur' hp hy
    split at hy
    · split at hy
      · split at hy
        · exact hp.trans (processDomain_step hrc hp.inv hy)
        · cases hy
      · cases hy; exact hp
    · cases hy; exact hp
  · cases e0
    exact p (StepI.refl hi)

theorem ranZ_step {i : Nat} {c : Cst} {u v w : Term} {st st' : State} (f : Fr i st)
    (r : RanZ rc ord i c u v w st st') : StepI (some i) st st' := by
  cases r with
  | ground e => subst e; exact StepI.refl f.inv
  | bound _ _ x n _ h =>
    exact ((SameStore.of_σ st _).pre (hrc _ _ (f.inv.of_σ _) h)).weaken
  | readd _ _ _ _ e => subst e; exact f.readd ord c

omit hrc in
theorem tail_step {self : Nat → Cst → State → Res State} (hs : SelfOK self) {i : Nat} {c : Cst}
    {st st1 st' : State} {ws : List Term} (f : Fr i st) (s : StepI none st st1)
    (h : (if operandBound st1 ws then self i c st1 else .ok (st1.withConstraint ord i c)) = .ok st') :
    StepI (some i) st st' := by
  have f1 := f.step s
  split at h
  · exact s.weaken.trans (hs _ _ _ _ f1 h)
  · cases h; exact s.weaken.trans (f1.readd ord c)

theorem narrow3_step {self : Nat → Cst → State → Res State} (hs : SelfOK self) {i : Nat} {c : Cst}
    {uw vw ww : Term} {wi ui vi : FD} {st st' : State} (f : Fr i st)
    (h : narrow3 rc ord self i c uw vw ww wi ui vi st = .ok st') : StepI (some i) st st' := by
  unfold narrow3 at h
  obtain ⟨s1, e1, h⟩ := Res.bind_ok h
  obtain ⟨s2, e2, h⟩ := Res.bind_ok h
  obtain ⟨s3, e3, h⟩ := Res.bind_ok h
  have p1 := processDomain_step hrc f.inv e1
  have p2 := processDomain_step hrc p1.inv e2
  have p3 := processDomain_step hrc p2.inv e3
  exact tail_step ord hs f ((p1.trans p2).trans p3) h

theorem ranLte_step {self : Nat → Cst → State → Res State} (hs : SelfOK self) {i : Nat}
    {u v : Term} {st st' : State} (f : Fr i st) (r : RanLte rc ord self i u v st st') : StepI (some i) st st' := by
  cases r with
  | both _ _ _ _ _ _ _ _ s1 s2 _ _ _ _ _ e1 _ e2 h =>
    have p1 := processDomain_step hrc f.inv e1
    have p2 := processDomain_step hrc p1.inv e2
    exact tail_step ord hs f (p1.trans p2) h
  | left _ _ _ _ _ _ _ h => exact (processDomain_step hrc f.inv h).weaken
  | right _ _ _ _ _ _ _ h => exact (processDomain_step hrc f.inv h).weaken
  | ground e => subst e; exact StepI.refl f.inv
  | readd _ e => subst e; exact f.readd ord _

theorem ran3_step {self : Nat → Cst → State → Res State} (hs : SelfOK self) {i : Nat} {c : Cst}
    {u v w : Term} {st st' : State} (f : Fr i st) (r : Ran3 rc ord self i c u v w st st') :
    StepI (some i) st st' := by
  match r with
  | .ground (e := e) .. => subst e; exact StepI.refl f.inv
  | .readd (e := e) .. => subst e; exact f.readd ord c
  | .narrow (h := h) .. => exact narrow3_step hrc ord hs f h

theorem ranDiseqFd_step {i : Nat} {u v : Term} {st st' : State} (f : Fr i st)
    (r : RanDiseqFd rc ord i u v st st') : StepI (some i) st st' := by
  have w := f.readd ord (.diseqfd u v)
  cases r with
  | same e => subst e; exact StepI.refl f.inv
  | readd _ e => subst e; exact w
  | narrow _ _ _ _ _ h => exact w.trans (processDomain_step hrc w.inv h).weaken

omit hrc in
theorem runDistinctFd_step {self : Nat → Cst → State → Res State} (hs : SelfOK self) {i : Nat}
    {u : Term} {st st' : State} (f : Fr i st)
    (h : runDistinctFd ord self i u st = .ok st') : StepI (some i) st st' := by
  unfold runDistinctFd at h
  split at h
  · cases h; exact f.readd ord _
  · exact fresh_run hs f.inv h
  · simp only at h
    split at h
    · split at h
      · cases h
      · exact fresh_run hs f.inv h
    · cases h
  · cases h

theorem runDistinctFd2_step {j : Option Nat} {u : Term} {y : List Term} {n : List Int} {st st' : State}
    (hi : Inv st) (h : runDistinctFd2 rc ord u y n st = .ok st') : StepI j st st' := by
  unfold runDistinctFd2 at h
  obtain ⟨⟨x, n'⟩, _, h⟩ := Res.bind_ok h
  simp only at h
  have w : StepI j st (st.withNewConstraint ord (.distinctfd2 u x n')) := withNew_step ord st _ hi
  split at h
  · cases h; exact w
  · exact w.trans (excludeFromDomain_step hrc w.inv h).weaken

omit hrc in
theorem runDiseq_step {j : Option Nat} {ps : Ext1} {st st' : State} (hi : Inv st)
    (h : runDiseq ord st ps = .ok st') : StepI j st st' := by
  rcases runDiseq_ok h with rfl | ⟨e, rfl⟩
  · exact StepI.refl hi
  · exact withNew_step ord st _ hi

theorem runCstBody_step {self : Nat → Cst → State → Res State} (hs : SelfOK self) {i : Nat} {c : Cst}
    {st st' : State} (f : Fr i st) (h : runCstBody rc ord self i c st = .ok st') :
    StepI (some i) st st' := by
  cases c with
  | diseq ps => exact runDiseq_step ord f.inv h
  | plusz u v w => exact ranZ_step hrc ord f (runPlusZ_ok h)
  | timesz u v w => exact ranZ_step hrc ord f (runTimesZ_ok h)
  | ltefd u v => exact ranLte_step hrc ord hs f (runLteFd_ok h)
  | plusfd u v w => exact ran3_step hrc ord hs f (runPlusFd_ok h)
  | minusfd u v w => exact ran3_step hrc ord hs f (runMinusFd_ok h)
  | timesfd u v w => exact ran3_step hrc ord hs f (runTimesFd_ok h)
  | diseqfd u v => exact ranDiseqFd_step hrc ord f (runDiseqFd_ok h)
  | distinctfd u => exact runDistinctFd_step ord hs f h
  | distinctfd2 u y n => exact runDistinctFd2_step hrc ord f.inv h

theorem runCst_selfOK : ∀ k, SelfOK (runCst rc ord k)
  | 0 => fun _ _ _ _ f h => runCstBody_step hrc ord selfOK_fuel f h
  | k + 1 => fun _ _ _ _ f h => runCstBody_step hrc ord (runCst_selfOK k) f h

theorem runSnapshot_step {st st' : State} {snap : List (Nat × Cst)} (hi : Inv st)
    (h : runSnapshot rc ord st snap = .ok st') : StepI none st st' := by
  obtain ⟨s0, e0, p⟩ := foldl_bind_ok (fun _ cur => StepI none st cur) (snapStep rc ord)
    (by
      intro p _ cur cur' hp hy
      unfold snapStep at hy
      split at hy
      · rename_i st1 c e
        exact hp.trans (StepI.of_take e (runCst_selfOK hrc ord 4 _ _ _ _ (take_fr hp.inv e) hy))
      · rename_i st1 e
        cases hy
        rw [(take_none_ok e).1]; exact hp) snap (.ok st) st' h
  cases e0
  exact p (StepI.refl hi)

end WithRC

theorem runConstraintsF_ok (ord : Order) : ∀ n, RcOK (runConstraintsF ord n)
  | 0 => fun _ _ _ h => by cases h
  | n + 1 => fun _ _ hi h => runSnapshot_step (runConstraintsF_ok ord n) ord hi h

theorem postCst_step (ord : Order) {st st' : State} {c : Cst} (hi : Inv st)
    (h : postCst ord st c = .ok st') : StepI none st st' :=
  fresh_run (runCst_selfOK (runConstraintsF_ok ord rcFuel) ord 4) hi h

theorem processExtensionFd_step (ord : Order) {st st' : State} {e : Ext1} (hi : Inv st)
    (h : processExtensionFd ord st e = .ok st') : StepI none st st' := by
  unfold processExtensionFd at h
  refine (foldl_bind_ok (fun _ cur => StepI none st cur) _ ?_ (ord.ps e) (.ok st) st' h).elim fun s0 ⟨e0, p⟩ => ?_
  · intro p _ cur cur' hp hy
    split at hy
    · obtain ⟨s1, e1, hy⟩ := Res.bind_ok hy
      have p1 := processDomain_step (runConstraintsF_ok ord rcFuel) hp.inv e1
      split at hy
      · exact (hp.trans p1).trans
          ((SameStore.dremove s1 p.1).pre (runConstraintsF_ok ord _ _ _ (p1.inv.dremove p.1) hy))
      · cases hy
    · cases hy; exact hp
  · cases e0
    exact p (StepI.refl hi)

theorem unify_step (ord : Order) {st st' : State} {u v : Term} (hi : Inv st)
    (h : unify ord st u v = .ok st') : StepI none st st' := by
  obtain ⟨σ', e, s1, s2, _, e1, e2, rfl⟩ := unify_ok h
  have ss := SameStore.of_σ st σ'
  have p1 := runConstraintsF_ok ord _ _ _ (hi.of_σ σ') e1
  have p2 := processExtensionFd_step ord p1.inv e2
  exact ss.pre ((p1.trans p2).trans (SameStore.step ⟨rfl, rfl, rfl, rfl, rfl⟩ p2.inv))

theorem disunify_step (ord : Order) {st st' : State} {u v : Term} (hi : Inv st)
    (h : disunify ord st u v = .ok st') : StepI none st st' := by
  rcases disunify_ok h with rfl | ⟨e, rfl⟩
  · exact StepI.refl hi
  · exact withNew_step ord st _ hi

theorem domFd_step (ord : Order) {st st' : State} {x : Term} {d : FD} (hi : Inv st)
    (h : domFd ord st x d = .ok st') : StepI none st st' :=
  processDomain_step (runConstraintsF_ok ord rcFuel) hi h

theorem inv_empty (n : Nat) : Inv (State.empty n) :=
  ⟨rfl, by simp [State.empty], by simp [State.empty]⟩

theorem postAtom_inv (ord : Order) {st st' : State} {a : TAtom} (hi : Inv st) (hr : postAtom ord st a = .ok st') :
    Inv st' := by
  cases a with
  | eq u v => exact (unify_step ord hi hr).inv
  | neq u v => exact (disunify_step ord hi hr).inv

theorem postAll_inv (ord : Order) (as : List TAtom) {st st' : State} (hi : Inv st) (hr : postAll ord st as = .ok st') :
    Inv st' :=
  postAll_invariant (fun _ _ _ _ hi h => postAtom_inv ord hi h) hi hr

end Pv
