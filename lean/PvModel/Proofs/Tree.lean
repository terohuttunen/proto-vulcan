/-
  Tree constraints (C02): posting `==`/`!=` preserves the semantic invariant.  Also what `run_constraints` leaves in the
  store (every stored disequality is re-unified under the new substitution), from which the invariants of
  Proofs/DiseqNF.lean and Proofs/Scoped.lean follow, and `unify` on a good state as the unifier followed by
  `run_constraints`.
-/
import PvModel.Proofs.TreeAux
namespace Pv

theorem take_spec {st st1 : State} {i : Nat} {c : Cst} (ht : TreeOnly st) (hi : IdsOK st)
    (hc : st.takeConstraint i = (st1, some c)) :
    ∃ ps, c = .diseq ps ∧ st1.σ = st.σ ∧ TreeOnly st1 ∧ IdsOK st1 ∧
      ∀ γ, StoreSem γ st ↔ (StoreSem γ st1 ∧ DiseqHolds γ ps) := by
  obtain ⟨hm, rfl⟩ := take_some_ok hc
  obtain ⟨ps, rfl⟩ := Cst.eq_diseq_of_isDiseq (ht.1 _ hm)
  have hsub : ∀ q, q ∈ st.store.filter (fun p => p.1 != i) → q ∈ st.store := fun q hq => (List.mem_filter.1 hq).1
  refine ⟨ps, rfl, rfl, ⟨fun q hq => ht.1 q (hsub q hq), ht.2⟩,
    ⟨(List.Sublist.map (fun q : Nat × Cst => q.1) List.filter_sublist).nodup hi.1, fun q hq => hi.2 q (hsub q hq)⟩,
    fun γ => ⟨fun a => ⟨fun q hq => a q (hsub q hq), a _ hm ps rfl⟩, ?_⟩⟩
  rintro ⟨a, b⟩ q hq qs he
  by_cases hqi : q.1 = i
  · cases nodup_fst_eq hi.1 hq hm hqi
    cases he
    exact b
  · exact a q (List.mem_filter.2 ⟨hq, by simpa using hqi⟩) qs he

/-- one iteration of the loop of `run_constraints` -/
def snapStep (rc : State → Res State) (ord : Order) (st : State) (p : Nat × Cst) : Res State :=
  match st.takeConstraint p.1 with
  | (st', some c) => State.runCst rc ord 4 p.1 c st'
  | (st', none) => .ok st'

theorem runSnapshot_eq (rc : State → Res State) (ord : Order) (st : State) (snap : List (Nat × Cst)) :
    State.runSnapshot rc ord st snap =
      snap.foldl (fun r p => r.bind fun st => snapStep rc ord st p) (.ok st) := rfl

theorem runCst_diseq (rc : State → Res State) (ord : Order) (k id : Nat) (ps : Ext1) (st : State) :
    State.runCst rc ord k id (.diseq ps) st = State.runDiseq ord st ps := by
  cases k with
  | zero => rfl
  | succ k => rfl

theorem snapStep_spec (rc : State → Res State) {ord : Order} (ho : OrderOK ord) {st : State}
    (hs : Solved st.σ) (ht : TreeOnly st) (hi : IdsOK st) (p : Nat × Cst) :
    Posts st (fun _ => True) (snapStep rc ord st p) := by
  unfold snapStep
  rcases hc : st.takeConstraint p.1 with ⟨st1, oc⟩
  cases oc with
  | none =>
    obtain ⟨rfl, _⟩ := take_none_ok hc
    refine ⟨fun st' h => ?_, fun h => (nomatch h), fun _ h => (nomatch h)⟩
    cases h
    exact AddOK.of_entailed ht hi (fun _ _ => trivial)
  | some c =>
    obtain ⟨ps, rfl, h1, t1, i1, sem1⟩ := take_spec ht hi hc
    simp only [runCst_diseq]
    have hs1 : Solved st1.σ := by rw [h1]; exact hs
    obtain ⟨rok, rfail, rpanic⟩ := runDiseq_spec ho hs1 t1 i1 ps
    refine ⟨fun st' h => ?_, fun h γ hx hsem _ => ?_, rpanic⟩
    · have a := rok st' h
      have hnv1 : st1.nextVar = st.nextVar := by rw [(take_some_ok hc).2]
      refine ⟨a.sig.trans h1, a.tree, a.ids, fun γ hx => ?_, a.nv.trans hnv1⟩
      rw [a.sem γ (by rw [h1]; exact hx), ← sem1 γ]
      simp
    · exact rfail h γ (by rw [h1]; exact hx) ((sem1 γ).mp hsem).1 ((sem1 γ).mp hsem).2

theorem foldl_bind_absorbing {α : Type} (g : State → α → Res State) {r : Res State}
    (hr : ∀ f : State → Res State, r.bind f = r) (l : List α) :
    l.foldl (fun (r : Res State) p => r.bind fun st => g st p) r = r := by
  induction l with
  | nil => rfl
  | cons a l ih => rw [List.foldl_cons, hr]; exact ih

theorem foldl_bind_fail {α : Type} (g : State → α → Res State) (l : List α) :
    l.foldl (fun (r : Res State) p => r.bind fun st => g st p) (Res.fail) = Res.fail :=
  foldl_bind_absorbing g (fun _ => rfl) l

theorem foldl_bind_fuel {α : Type} (g : State → α → Res State) (l : List α) :
    l.foldl (fun (r : Res State) p => r.bind fun st => g st p) (Res.fuel) = Res.fuel :=
  foldl_bind_absorbing g (fun _ => rfl) l

theorem foldl_bind_panic {α : Type} (g : State → α → Res State) (s : String) (l : List α) :
    l.foldl (fun (r : Res State) p => r.bind fun st => g st p) (Res.panic s) = Res.panic s :=
  foldl_bind_absorbing g (fun _ => rfl) l

theorem runSnapshot_cons (rc : State → Res State) (ord : Order) (st : State) (p : Nat × Cst)
    (rest : List (Nat × Cst)) :
    State.runSnapshot rc ord st (p :: rest) =
      (snapStep rc ord st p).bind fun s1 => State.runSnapshot rc ord s1 rest := by
  rw [runSnapshot_eq, List.foldl_cons]
  show List.foldl _ (snapStep rc ord st p) rest = _
  cases snapStep rc ord st p with
  | ok s1 => rfl
  | fail => exact foldl_bind_fail _ _
  | fuel => exact foldl_bind_fuel _ _
  | panic s => exact foldl_bind_panic _ _ _

theorem runSnapshot_spec (rc : State → Res State) {ord : Order} (ho : OrderOK ord) :
    ∀ (snap : List (Nat × Cst)) (st : State), Solved st.σ → TreeOnly st → IdsOK st →
      Posts st (fun _ => True) (State.runSnapshot rc ord st snap) := by
  intro snap
  induction snap with
  | nil =>
    intro st hs ht hi
    refine ⟨fun st' h => ?_, fun h => (nomatch h), fun _ h => (nomatch h)⟩
    cases h
    exact AddOK.of_entailed ht hi (fun _ _ => trivial)
  | cons p rest ih =>
    intro st hs ht hi
    rw [runSnapshot_cons]
    obtain ⟨sok, sfail, spanic⟩ := snapStep_spec rc ho hs ht hi p
    cases hstep : snapStep rc ord st p with
    | ok st1 =>
      have a := sok st1 hstep
      obtain ⟨iok, ifail, ipanic⟩ := ih st1 (by rw [a.sig]; exact hs) a.tree a.ids
      refine ⟨fun st' h => ?_, fun h γ hx hsem => ?_, ipanic⟩
      · exact (a.trans (iok st' h)).congr (fun _ _ => by simp)
      · exact ifail h γ (by rw [a.sig]; exact hx) ((a.sem γ hx).mpr ⟨hsem, trivial⟩)
    | fail => exact ⟨fun _ h => (nomatch h), fun _ => sfail hstep, fun _ h => (nomatch h)⟩
    | fuel => exact ⟨fun _ h => (nomatch h), fun h => (nomatch h), fun _ h => (nomatch h)⟩
    | panic s => exact absurd hstep (spanic s)

theorem runConstraintsF_succ (ord : Order) (n : Nat) (st : State) :
    State.runConstraintsF ord (n + 1) st =
      State.runSnapshot (State.runConstraintsF ord n) ord st (ord.cs st.store) := by
  rw [State.runConstraintsF]

theorem snapStep_store (rc : State → Res State) {ord : Order} {st s1 : State} (ht : TreeOnly st)
    (p : Nat × Cst) (hres : snapStep rc ord st p = .ok s1) :
    ∀ q ∈ s1.store, (q ∈ st.store ∧ q.1 ≠ p.1) ∨
      ∃ ps σ' e, (p.1, Cst.diseq ps) ∈ st.store ∧
        unifyPairsF unifyFuel st.σ [] (State.eqsOf (ord.ps ps)) = some (some (σ', e)) ∧ e ≠ [] ∧ q.2 = .diseq e := by
  unfold snapStep at hres
  rcases hc : st.takeConstraint p.1 with ⟨st1, oc⟩
  rw [hc] at hres
  cases oc with
  | none =>
    cases hres
    obtain ⟨rfl, hne⟩ := take_none_ok hc
    exact fun q hq => .inl ⟨hq, hne q hq⟩
  | some c =>
    obtain ⟨hm, rfl⟩ := take_some_ok hc
    obtain ⟨ps, rfl⟩ := Cst.eq_diseq_of_isDiseq (ht.1 _ hm)
    simp only [runCst_diseq] at hres
    rw [runDiseq_eq] at hres
    intro q hq
    rcases (diseqResult_store hres).2.2 q hq with h | ⟨σ', e, hu, hne, he⟩
    · obtain ⟨h1, h2⟩ := List.mem_filter.1 h
      exact .inl ⟨h1, by simpa using h2⟩
    · exact .inr ⟨ps, σ', e, hm, hu, hne, he⟩

theorem runSnapshot_store (rc : State → Res State) {ord : Order} (ho : OrderOK ord) {J I : Ext1 → Prop} {σ : Subst}
    (hIJ : ∀ ps, I ps → J ps)
    (hrun : ∀ ps σ' e, J ps → unifyPairsF unifyFuel σ [] (State.eqsOf (ord.ps ps)) = some (some (σ', e)) → e ≠ [] → I e) :
    ∀ (snap : List (Nat × Cst)) (st st' : State), st.σ = σ → Solved st.σ → TreeOnly st → IdsOK st →
      (∀ q ∈ st.store, ∀ ps, q.2 = .diseq ps → (q.1 ∈ snap.map (·.1) ∧ J ps) ∨ I ps) →
      State.runSnapshot rc ord st snap = .ok st' → ∀ q ∈ st'.store, ∀ ps, q.2 = .diseq ps → I ps := by
  intro snap
  induction snap with
  | nil =>
    intro st st' _ _ _ _ h hres q hq ps he
    cases hres
    exact (h q hq ps he).resolve_left fun a => nomatch a.1
  | cons p rest ih =>
    intro st st' hσ hs ht hi h hres
    rw [runSnapshot_cons] at hres
    cases hstep : snapStep rc ord st p with
    | ok s1 =>
      have a := (snapStep_spec rc ho hs ht hi p).ok s1 hstep
      rw [hstep] at hres
      refine ih s1 st' (a.sig.trans hσ) (by rw [a.sig]; exact hs) a.tree a.ids (fun q hq ps he => ?_) hres
      rcases snapStep_store rc ht p hstep q hq with ⟨h0, hne⟩ | ⟨ps0, σ', e, hm, hu, hne, hqe⟩
      · refine (h q h0 ps he).imp_left fun b => ⟨?_, b.2⟩
        exact (List.mem_cons.1 b.1).resolve_left hne
      · rw [he] at hqe
        cases hqe
        have hJ : J ps0 := (h _ hm ps0 rfl).elim (fun b => b.2) (hIJ ps0)
        exact .inr (hrun ps0 σ' ps hJ (hσ ▸ hu) hne)
    | _ => rw [hstep] at hres; cases hres

theorem foldl_ok_id {α : Type} (f : Res State → α → Res State)
    (hf : ∀ cur a, f (.ok cur) a = .ok cur) (l : List α) (cur : State) :
    l.foldl f (.ok cur) = .ok cur := by
  induction l with
  | nil => rfl
  | cons a l ih => rw [List.foldl_cons, hf]; exact ih

theorem processExtensionFd_tree (ord : Order) (st : State) (e : Ext1) (hd : st.dstore = []) :
    State.processExtensionFd ord st e = .ok st := by
  unfold State.processExtensionFd
  simp only []
  have hget : ∀ x, st.dget x = none := fun x => by simp [State.dget, hd]
  apply foldl_ok_id
  intro cur a
  simp only [Res.bind, hget]

theorem runConstraintsF_spec {ord : Order} (ho : OrderOK ord) (n : Nat) {st : State} (hs : Solved st.σ) (ht : TreeOnly st)
    (hi : IdsOK st) : Posts st (fun _ => True) (State.runConstraintsF ord (n + 1) st) := by
  rw [runConstraintsF_succ]
  exact runSnapshot_spec _ ho _ st hs ht hi

/-- `run_constraints` re-runs every stored disequality: if each has `J` and re-unifying one with `J` returns an
    extension with `I`, all those stored at the end have `I` -/
theorem runConstraintsF_store {ord : Order} (ho : OrderOK ord) (n : Nat) {J I : Ext1 → Prop} {st st' : State} (hs : Solved st.σ)
    (ht : TreeOnly st) (hi : IdsOK st) (hIJ : ∀ ps, I ps → J ps)
    (hrun : ∀ ps σ' e, J ps → unifyPairsF unifyFuel st.σ [] (State.eqsOf (ord.ps ps)) = some (some (σ', e)) → e ≠ [] → I e)
    (hJ : ∀ q ∈ st.store, ∀ ps, q.2 = .diseq ps → J ps) (hres : State.runConstraintsF ord (n + 1) st = .ok st') :
    ∀ q ∈ st'.store, ∀ ps, q.2 = .diseq ps → I ps := by
  rw [runConstraintsF_succ] at hres
  refine runSnapshot_store _ ho hIJ hrun _ st st' rfl hs ht hi (fun q hq ps he => .inl ⟨?_, hJ q hq ps he⟩) hres
  exact List.mem_map_of_mem ((ho.1 st.store).mem_iff.2 hq)

theorem loop_spec (rc : State → Res State) {ord : Order} (ho : OrderOK ord) :
    ∀ (snap : List (Nat × Cst)) (st : State), Solved st.σ → TreeOnly st → IdsOK st →
      Posts st (fun _ => True) (State.runSnapshot rc ord st snap) := runSnapshot_spec rc ho

theorem rc_spec {ord : Order} (ho : OrderOK ord) (n : Nat) {st : State} (hs : Solved st.σ) (ht : TreeOnly st)
    (hi : IdsOK st) : Posts st (fun _ => True) (State.runConstraintsF ord (n + 1) st) :=
  runConstraintsF_spec ho n hs ht hi

theorem processExtension_tree {ord : Order} (ho : OrderOK ord) {st : State} (hs : Solved st.σ) (ht : TreeOnly st)
    (hi : IdsOK st) (e : Ext1) :
    State.processExtension ord st e =
      (State.runConstraintsF ord (State.rcFuel + 1) st).bind fun st2 => .ok { st2 with extLog := e :: st2.extLog } := by
  unfold State.processExtension
  cases hl : State.runConstraintsF ord (State.rcFuel + 1) st with
  | ok st2 =>
    have a := (runConstraintsF_spec ho _ hs ht hi).ok st2 hl
    simp only [Res.bind, processExtensionFd_tree ord st2 e a.tree.2]
  | _ => rfl

theorem unify_ok_good {ord : Order} (ho : OrderOK ord) {st st' : State} (hg : Good st) {u v : Term}
    (h : st.unify ord u v = .ok st') :
    ∃ σ' e st2, unifyF unifyFuel st.σ [] u v = some (some (σ', e)) ∧ Good { st with σ := σ' } ∧
      State.runConstraintsF ord (State.rcFuel + 1) { st with σ := σ' } = .ok st2 ∧
      st' = { st2 with extLog := e :: st2.extLog } := by
  obtain ⟨σ', e, s1, s2, hu, e1, e2, rfl⟩ := unify_ok h
  have hg1 : Good { st with σ := σ' } := ⟨(unifyF_sound _ _ _ _ _ _ _ hg.1 hu).1, hg.2.1, hg.2.2⟩
  rw [processExtensionFd_tree ord s1 e ((runConstraintsF_spec ho _ hg1.1 hg1.2.1 hg1.2.2).ok s1 e1).tree.2] at e2
  cases e2
  exact ⟨σ', e, s1, hu, hg1, e1, rfl⟩

theorem unify_spec {ord : Order} (ho : OrderOK ord) {st : State} (hg : Good st) (u v : Term) :
    (∀ st', st.unify ord u v = .ok st' →
      Good st' ∧ ∀ γ, StateSem γ st' ↔ (StateSem γ st ∧ apply γ u = apply γ v)) ∧
    (st.unify ord u v = .fail → ∀ γ, ¬ (StateSem γ st ∧ apply γ u = apply γ v)) ∧
    (∀ s, st.unify ord u v ≠ .panic s) := by
  obtain ⟨hs, ht, hi⟩ := hg
  unfold State.unify
  cases hu : unifyF unifyFuel st.σ [] u v with
  | none => exact ⟨fun _ h => (nomatch h), fun h => (nomatch h), fun _ h => (nomatch h)⟩
  | some r =>
    cases r with
    | none =>
      refine ⟨fun _ h => (nomatch h), fun _ γ hsem => ?_, fun _ h => (nomatch h)⟩
      exact unifyF_fail _ _ _ _ _ hs hu ⟨γ, hsem.1.1, hsem.2⟩
    | some q =>
      obtain ⟨σ', e⟩ := q
      obtain ⟨s', x', un⟩ := unifyF_sound _ _ _ _ _ _ _ hs hu
      have mg := unifyF_mgu _ _ _ _ _ _ _ hs hu
      have hext : ∀ γ, Ext σ' γ ↔ (Ext st.σ γ ∧ apply γ u = apply γ v) := fun γ =>
        ⟨fun a => ⟨Ext.trans x' a, unifies_of_ext a un⟩, fun a => mg γ a.1 a.2⟩
      have hst1 : ∀ γ, StateSem γ { st with σ := σ' } ↔ (StateSem γ st ∧ apply γ u = apply γ v) := fun γ => by
        show (Ext σ' γ ∧ StoreSem γ st) ↔ ((Ext st.σ γ ∧ StoreSem γ st) ∧ _)
        rw [hext γ, and_right_comm]
      simp only [processExtension_tree (st := { st with σ := σ' }) ho s' ht hi]
      obtain ⟨lok, lfail, lpanic⟩ := (runConstraintsF_spec ho State.rcFuel (st := { st with σ := σ' }) s' ht hi).stateSem s'
      cases hl : State.runConstraintsF ord (State.rcFuel + 1) { st with σ := σ' } with
      | ok st2 =>
        obtain ⟨g2, sem2⟩ := lok st2 hl
        refine ⟨fun st' h => ?_, fun h => (nomatch h), fun _ h => (nomatch h)⟩
        cases h
        exact ⟨g2, fun γ => ((sem2 γ).trans (and_iff_left trivial)).trans (hst1 γ)⟩
      | fail =>
        exact ⟨fun _ h => (nomatch h), fun _ γ hsem => lfail hl γ ⟨(hst1 γ).2 hsem, trivial⟩, fun _ h => (nomatch h)⟩
      | fuel => exact ⟨fun _ h => (nomatch h), fun h => (nomatch h), fun _ h => (nomatch h)⟩
      | panic s => exact absurd hl (lpanic s)

theorem good_empty (n : Nat) : Good (State.empty n) := by
  refine ⟨solved_id, ⟨?_, rfl⟩, ?_, ?_⟩
  · intro p hp; cases hp
  · simp [State.empty]
  · intro p hp; cases hp

theorem stateSem_empty (n : Nat) (γ : Subst) : StateSem γ (State.empty n) := by
  refine ⟨ext_id γ, ?_⟩
  intro p hp; cases hp

theorem postAtom_spec (ord : Order) (ho : OrderOK ord) (st : State) (a : TAtom) (hg : Good st) :
    (∀ st', postAtom ord st a = .ok st' →
      Good st' ∧ ∀ γ : Subst, StateSem γ st' ↔ (StateSem γ st ∧ a.Sat γ)) ∧
    (postAtom ord st a = .fail → ∀ γ : Subst, ¬ (StateSem γ st ∧ a.Sat γ)) ∧
    (∀ s, postAtom ord st a ≠ .panic s) := by
  cases a with
  | eq u v => exact unify_spec ho hg u v
  | neq u v => exact (disunify_spec ho hg.1 hg.2.1 hg.2.2 u v).stateSem hg.1

theorem postAtom_ok (ord : Order) (ho : OrderOK ord) (st st' : State) (a : TAtom) (hg : Good st)
    (h : postAtom ord st a = .ok st') :
    Good st' ∧ ∀ γ : Subst, StateSem γ st' ↔ (StateSem γ st ∧ a.Sat γ) :=
  (postAtom_spec ord ho st a hg).1 st' h

theorem postAtom_fail (ord : Order) (ho : OrderOK ord) (st : State) (a : TAtom) (hg : Good st)
    (h : postAtom ord st a = .fail) :
    ∀ γ : Subst, ¬ (StateSem γ st ∧ a.Sat γ) :=
  (postAtom_spec ord ho st a hg).2.1 h

theorem postAtom_no_panic (ord : Order) (ho : OrderOK ord) (st : State) (a : TAtom) (hg : Good st)
    (site : String) : postAtom ord st a ≠ .panic site :=
  (postAtom_spec ord ho st a hg).2.2 site

theorem postAtom_nv {ord : Order} (ho : OrderOK ord) {st st' : State} (a : TAtom) (hg : Good st)
    (hres : postAtom ord st a = .ok st') : st'.nextVar = st.nextVar := by
  cases a with
  | neq u v => exact ((disunify_spec ho hg.1 hg.2.1 hg.2.2 u v).ok st' hres).nv
  | eq u v =>
    obtain ⟨σ', e, st2, -, g1, h2, rfl⟩ := unify_ok_good ho hg hres
    exact ((rc_spec ho _ g1.1 g1.2.1 g1.2.2).ok st2 h2).nv

theorem postAll_cons_ok {ord : Order} {st st' : State} {a : TAtom} {as : List TAtom}
    (h : postAll ord st (a :: as) = .ok st') :
    ∃ st1, postAtom ord st a = .ok st1 ∧ postAll ord st1 as = .ok st' := by
  simp only [postAll] at h
  cases h1 : postAtom ord st a with
  | ok st1 => rw [h1] at h; exact ⟨st1, rfl, h⟩
  | _ => rw [h1] at h; cases h

theorem postAll_invariant {ord : Order} {I : State → Prop} : ∀ {as : List TAtom} {st st' : State},
    (∀ a ∈ as, ∀ s s', I s → postAtom ord s a = .ok s' → I s') → I st → postAll ord st as = .ok st' → I st'
  | [], st, st', _, hI, h => by
    simp only [postAll, Res.ok.injEq] at h
    subst h
    exact hI
  | a :: as, st, st', step, hI, h => by
    obtain ⟨st1, h1, h2⟩ := postAll_cons_ok h
    exact postAll_invariant (fun b hb => step b (List.mem_cons_of_mem _ hb))
      (step a List.mem_cons_self st st1 hI h1) h2

theorem postAll_good_invariant {ord : Order} (ho : OrderOK ord) {I : State → Prop} {as : List TAtom} {st st' : State}
    (step : ∀ a ∈ as, ∀ s s', Good s → I s → postAtom ord s a = .ok s' → I s') (hg : Good st) (hI : I st)
    (h : postAll ord st as = .ok st') : I st' :=
  (postAll_invariant (I := fun s => Good s ∧ I s)
    (fun a ha s s' hs h1 => ⟨(postAtom_ok ord ho s s' a hs.1 h1).1, step a ha s s' hs.1 hs.2 h1⟩) ⟨hg, hI⟩ h).2

theorem postAll_ok (ord : Order) (ho : OrderOK ord) (st st' : State) (as : List TAtom) (hg : Good st)
    (h : postAll ord st as = .ok st') :
    Good st' ∧ ∀ γ : Subst, StateSem γ st' ↔ (StateSem γ st ∧ ∀ a ∈ as, a.Sat γ) := by
  induction as generalizing st with
  | nil =>
    simp only [postAll, Res.ok.injEq] at h
    subst h
    exact ⟨hg, fun γ => by simp⟩
  | cons a as ih =>
    obtain ⟨st1, h1, h2⟩ := postAll_cons_ok h
    obtain ⟨g1, sem1⟩ := postAtom_ok ord ho st st1 a hg h1
    obtain ⟨g2, sem2⟩ := ih st1 g1 h2
    refine ⟨g2, fun γ => ?_⟩
    rw [sem2 γ, sem1 γ]
    simp only [List.mem_cons, forall_eq_or_imp, and_assoc]

theorem postAll_fail (ord : Order) (ho : OrderOK ord) (st : State) (as : List TAtom) (hg : Good st)
    (h : postAll ord st as = .fail) :
    ∀ γ : Subst, ¬ (StateSem γ st ∧ ∀ a ∈ as, a.Sat γ) := by
  induction as generalizing st with
  | nil => simp [postAll] at h
  | cons a as ih =>
    simp only [postAll] at h
    intro γ hsem
    have ha : a.Sat γ := hsem.2 a (List.mem_cons_self ..)
    have has : ∀ b ∈ as, b.Sat γ := fun b hb => hsem.2 b (List.mem_cons_of_mem _ hb)
    cases h1 : postAtom ord st a with
    | ok st1 =>
      rw [h1] at h
      obtain ⟨g1, sem1⟩ := postAtom_ok ord ho st st1 a hg h1
      exact ih st1 g1 h γ ⟨(sem1 γ).mpr ⟨hsem.1, ha⟩, has⟩
    | fail => exact postAtom_fail ord ho st a hg h1 γ ⟨hsem.1, ha⟩
    | fuel => rw [h1] at h; cases h
    | panic s => rw [h1] at h; cases h

/-- two lists with the same atoms, posted from a good state under any two iteration orders, give failure in both cases or
    two states describing the same valuations (whenever both runs finish) -/
theorem postAll_order_free (o1 o2 : Order) (h1 : OrderOK o1) (h2 : OrderOK o2) {st : State} (hg : Good st)
    {as bs : List TAtom} (hp : ∀ a, a ∈ as ↔ a ∈ bs) :
    (∀ s1 s2, postAll o1 st as = .ok s1 → postAll o2 st bs = .ok s2 → ∀ γ : Subst, StateSem γ s1 ↔ StateSem γ s2) ∧
    (∀ s1, postAll o1 st as = .ok s1 → postAll o2 st bs = .fail → ∀ γ : Subst, ¬ StateSem γ s1) ∧
    (postAll o1 st as = .fail → ∀ s2, postAll o2 st bs = .ok s2 → ∀ γ : Subst, ¬ StateSem γ s2) := by
  have hab : ∀ γ : Subst, (∀ a ∈ as, a.Sat γ) ↔ ∀ a ∈ bs, a.Sat γ := fun γ =>
    ⟨fun h a ha => h a ((hp a).2 ha), fun h a ha => h a ((hp a).1 ha)⟩
  refine ⟨fun s1 s2 e1 e2 γ => ?_, fun s1 e1 e2 γ hs => ?_, fun e1 s2 e2 γ hs => ?_⟩
  · rw [(postAll_ok o1 h1 _ _ as hg e1).2 γ, (postAll_ok o2 h2 _ _ bs hg e2).2 γ, hab γ]
  · rw [(postAll_ok o1 h1 _ _ as hg e1).2 γ, hab γ] at hs
    exact postAll_fail o2 h2 _ bs hg e2 γ hs
  · rw [(postAll_ok o2 h2 _ _ bs hg e2).2 γ, ← hab γ] at hs
    exact postAll_fail o1 h1 _ as hg e1 γ hs

theorem postAll_no_panic_of_good (ord : Order) (ho : OrderOK ord) : ∀ (st : State) (as : List TAtom), Good st →
    ∀ s, postAll ord st as ≠ .panic s
  | st, [], _, s => by simp [postAll]
  | st, a :: as, hg, s => by
    simp only [postAll]
    cases h1 : postAtom ord st a with
    | ok st1 => exact postAll_no_panic_of_good ord ho st1 as (postAtom_ok ord ho st st1 a hg h1).1 s
    | fail => simp [Res.bind]
    | fuel => simp [Res.bind]
    | panic s' => exact absurd h1 (postAtom_no_panic ord ho st a hg s')

end Pv
