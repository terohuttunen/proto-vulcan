/-
  Big-step semantics of goals with relation calls, and its equivalence with the engine.

  `BigF n g a b`: "b is an answer of goal g from state a", by a derivation of height ≤ n: atoms are applied,
  conjunctions chain, disjunctions choose, relation calls unfold their body (`defs`) — the textbook
  least-fixpoint semantics, also for searches with infinitely many answers (where `evalRef` has no value).
  `Big g a b := ∃ n, BigF n g a b`.

  For goals without committed choice, at every solver nesting level, the states that occur in the engine's stream for
  `g` from `a` (`MemS`, which by C06/C07 are exactly the states the engine eventually delivers) are exactly the
  big-step answers.
-/
import PvModel.Proofs.StreamAux
namespace Pv
open Strm Goal

section
variable {St K : Type} (defs : K → St → St × Goal St K)

def BigF : Nat → Goal St K → St → St → Prop
  | 0, _, _, _ => False
  | _ + 1, .succeed, a, b => a = b
  | _ + 1, .fail, _, _ => False
  | _ + 1, .atom f, a, b => f a = some b
  | n + 1, .dyn fs fg, a, b => BigF n (fg a) (fs a) b
  | n + 1, .conj g1 g2, a, c => ∃ b, BigF n g1 a b ∧ BigF n g2 b c
  | n + 1, .conjD g1 g2, a, c => ∃ b, BigF n g1 a b ∧ BigF n g2 b c
  | n + 1, .disj g1 g2, a, b => BigF n g1 a b ∨ BigF n g2 a b
  | n + 1, .disjD g1 g2, a, b => BigF n g1 a b ∨ BigF n g2 a b
  | n + 1, .alt g1 g2, a, b => BigF n g1 a b ∨ BigF n g2 a b
  | n + 1, .altD g1 g2, a, b => BigF n g1 a b ∨ BigF n g2 a b
  | n + 1, .fresh g, a, b => BigF n g a b
  | n + 1, .anyo g, a, b => BigF n g a b ∨ BigF n (.anyo (mkConj (mkConj g .succeed) .succeed)) a b
  | n + 1, .call k, a, b => BigF n (defs k a).2 (defs k a).1 b
  | _ + 1, .conda .., _, _ => False
  | _ + 1, .condu .., _, _ => False

def Big (g : Goal St K) (a b : St) : Prop := ∃ n, BigF defs n g a b

/-- goals without committed choice (relation calls are not unfolded) -/
inductive Plain : Goal St K → Prop
  | succeed : Plain .succeed
  | fail : Plain .fail
  | atom (f) : Plain (.atom f)
  | dyn {fs fg} : (∀ a, Plain (fg a)) → Plain (.dyn fs fg)
  | conj {g1 g2} : Plain g1 → Plain g2 → Plain (.conj g1 g2)
  | conjD {g1 g2} : Plain g1 → Plain g2 → Plain (.conjD g1 g2)
  | disj {g1 g2} : Plain g1 → Plain g2 → Plain (.disj g1 g2)
  | disjD {g1 g2} : Plain g1 → Plain g2 → Plain (.disjD g1 g2)
  | alt {g1 g2} : Plain g1 → Plain g2 → Plain (.alt g1 g2)
  | altD {g1 g2} : Plain g1 → Plain g2 → Plain (.altD g1 g2)
  | fresh {g} : Plain g → Plain (.fresh g)
  | anyo {g} : Plain g → Plain (.anyo g)
  | call (k) : Plain (.call k)

def PlainDefs : Prop := ∀ k a, Plain (K := K) (defs k a).2

variable {defs}

theorem BigF.mono : ∀ {n : Nat} {g : Goal St K} {a b : St}, BigF defs n g a b → BigF defs (n + 1) g a b := by
  intro n
  induction n with
  | zero => intro g a b h; exact h.elim
  | succ n ih =>
    intro g a b h
    cases g with
    | succeed | fail | atom f | conda _ _ _ | condu _ _ _ => exact h
    | dyn fs fg | fresh g | call k => exact ih h
    | conj g1 g2 | conjD g1 g2 => obtain ⟨c, h1, h2⟩ := h; exact ⟨c, ih h1, ih h2⟩
    | disj g1 g2 | disjD g1 g2 | alt g1 g2 | altD g1 g2 | anyo g => exact h.imp ih ih

theorem BigF.mono_le {n m : Nat} {g : Goal St K} {a b : St} (h : BigF defs n g a b) (hm : n ≤ m) :
    BigF defs m g a b := by
  induction hm with
  | refl => exact h
  | step _ ih => exact ih.mono

theorem BigF.succeed_eq {n : Nat} {a b : St} : BigF defs n (.succeed : Goal St K) a b → a = b := by
  cases n with
  | zero => exact False.elim
  | succ n => exact id

theorem BigF.not_fail {n : Nat} {a b : St} : ¬ BigF defs n (.fail : Goal St K) a b := by
  cases n with
  | zero => exact id
  | succ n => exact id

theorem big_iff_succ {g : Goal St K} {a b : St} : Big defs g a b ↔ ∃ n, BigF defs (n + 1) g a b :=
  ⟨fun ⟨n, h⟩ => ⟨n, h.mono⟩, fun ⟨n, h⟩ => ⟨n + 1, h⟩⟩

theorem big_unary {g g' : Goal St K} {a a' b : St} (hg : ∀ n, BigF defs (n + 1) g a b ↔ BigF defs n g' a' b) :
    Big defs g a b ↔ Big defs g' a' b :=
  big_iff_succ.trans (exists_congr hg)

theorem big_or {g g1 g2 : Goal St K} {a b : St}
    (hg : ∀ n, BigF defs (n + 1) g a b ↔ BigF defs n g1 a b ∨ BigF defs n g2 a b) :
    Big defs g a b ↔ Big defs g1 a b ∨ Big defs g2 a b :=
  big_iff_succ.trans ((exists_congr hg).trans exists_or)

theorem big_seq {g g1 g2 : Goal St K} {a c : St}
    (hg : ∀ n, BigF defs (n + 1) g a c ↔ ∃ b, BigF defs n g1 a b ∧ BigF defs n g2 b c) :
    Big defs g a c ↔ ∃ b, Big defs g1 a b ∧ Big defs g2 b c :=
  big_iff_succ.trans
    ⟨fun ⟨n, h⟩ => have ⟨b, h1, h2⟩ := (hg n).1 h; ⟨b, ⟨n, h1⟩, ⟨n, h2⟩⟩,
     fun ⟨b, ⟨n1, h1⟩, ⟨n2, h2⟩⟩ =>
      ⟨max n1 n2, (hg _).2 ⟨b, h1.mono_le (Nat.le_max_left _ _), h2.mono_le (Nat.le_max_right _ _)⟩⟩⟩

theorem big_succeed {a b : St} : Big defs (.succeed : Goal St K) a b ↔ a = b :=
  ⟨fun ⟨_, h⟩ => h.succeed_eq, fun h => ⟨1, h⟩⟩

theorem big_fail {a b : St} : ¬ Big defs (.fail : Goal St K) a b :=
  fun ⟨_, h⟩ => h.not_fail

theorem big_atom {f : St → Option St} {a b : St} : Big defs (.atom f : Goal St K) a b ↔ f a = some b :=
  big_iff_succ.trans ⟨fun ⟨_, h⟩ => h, fun h => ⟨0, h⟩⟩

theorem big_dyn {fs : St → St} {fg : St → Goal St K} {a b : St} :
    Big defs (.dyn fs fg) a b ↔ Big defs (fg a) (fs a) b :=
  big_unary fun _ => Iff.rfl

theorem big_conj {g1 g2 : Goal St K} {a c : St} :
    Big defs (.conj g1 g2) a c ↔ ∃ b, Big defs g1 a b ∧ Big defs g2 b c :=
  big_seq fun _ => Iff.rfl

theorem big_conjD {g1 g2 : Goal St K} {a c : St} :
    Big defs (.conjD g1 g2) a c ↔ ∃ b, Big defs g1 a b ∧ Big defs g2 b c :=
  big_seq fun _ => Iff.rfl

theorem big_alt {g1 g2 : Goal St K} {a b : St} : Big defs (.alt g1 g2) a b ↔ Big defs g1 a b ∨ Big defs g2 a b :=
  big_or fun _ => Iff.rfl

theorem big_altD {g1 g2 : Goal St K} {a b : St} : Big defs (.altD g1 g2) a b ↔ Big defs g1 a b ∨ Big defs g2 a b :=
  big_or fun _ => Iff.rfl

theorem big_disj {g1 g2 : Goal St K} {a b : St} : Big defs (.disj g1 g2) a b ↔ Big defs g1 a b ∨ Big defs g2 a b :=
  big_or fun _ => Iff.rfl

theorem big_disjD {g1 g2 : Goal St K} {a b : St} : Big defs (.disjD g1 g2) a b ↔ Big defs g1 a b ∨ Big defs g2 a b :=
  big_or fun _ => Iff.rfl

theorem big_fresh {g : Goal St K} {a b : St} : Big defs (.fresh g) a b ↔ Big defs g a b :=
  big_unary fun _ => Iff.rfl

theorem big_anyo {g : Goal St K} {a b : St} :
    Big defs (.anyo g) a b ↔ Big defs g a b ∨ Big defs (.anyo (mkConj (mkConj g .succeed) .succeed)) a b :=
  big_or fun _ => Iff.rfl

theorem big_call {k : K} {a b : St} : Big defs (.call k) a b ↔ Big defs (defs k a).2 (defs k a).1 b :=
  big_unary fun _ => Iff.rfl

/-- the short-cuts of `mkConj` and `mkConjD` agree with the rule of the conjunction -/
theorem big_succeed_seq {a c : St} :
    Big defs (.succeed : Goal St K) a c ↔ ∃ b, Big defs (.succeed : Goal St K) a b ∧ Big defs (.succeed : Goal St K) b c := by
  simp only [big_succeed]
  exact ⟨fun h => ⟨a, rfl, h⟩, fun ⟨b, h1, h2⟩ => h1.trans h2⟩

theorem big_fail_seq {g1 g2 : Goal St K} {a c : St} (h : g1 = .fail ∨ g2 = .fail) :
    Big defs (.fail : Goal St K) a c ↔ ∃ b, Big defs g1 a b ∧ Big defs g2 b c := by
  refine ⟨fun h' => (big_fail h').elim, fun ⟨b, h1, h2⟩ => ?_⟩
  rcases h with rfl | rfl
  · exact (big_fail h1).elim
  · exact (big_fail h2).elim

theorem big_mkConj {g1 g2 : Goal St K} {a c : St} :
    Big defs (mkConj g1 g2) a c ↔ ∃ b, Big defs g1 a b ∧ Big defs g2 b c :=
  mkConj_cases (P := fun g => Big defs g a c ↔ ∃ b, Big defs g1 a b ∧ Big defs g2 b c)
    (fun e1 e2 => by subst e1 e2; exact big_succeed_seq) big_fail_seq big_conj

theorem big_mkConjD {g1 g2 : Goal St K} {a c : St} :
    Big defs (mkConjD g1 g2) a c ↔ ∃ b, Big defs g1 a b ∧ Big defs g2 b c :=
  mkConjD_cases (P := fun g => Big defs g a c ↔ ∃ b, Big defs g1 a b ∧ Big defs g2 b c)
    (fun e1 e2 => by subst e1 e2; exact big_succeed_seq) big_fail_seq big_conjD

mutual
/-- every state the stream can deliver satisfies `P` -/
inductive TyS : (St → Prop) → Strm St K → Prop
  | empty {P} : TyS P .empty
  | unit {P a} : P a → TyS P (.unit a)
  | cons {P a l} : P a → TyL P l → TyS P (.cons a l)
  | lazy {P l} : TyL P l → TyS P (.lazy l)
inductive TyL : (St → Prop) → Lz St K → Prop
  | mplus {P l1 l2} : TyL P l1 → TyL P l2 → TyL P (.mplus l1 l2)
  | mplusD {P l1 l2} : TyL P l1 → TyL P l2 → TyL P (.mplusD l1 l2)
  | pause {P b g} : Plain g → (∀ c, Big defs g b c → P c) → TyL P (.pause b g)
  | delay {P s} : TyS P s → TyL P (.delay s)
  | bind {P Q l g} : TyL Q l → Plain g → (∀ b, Q b → ∀ c, Big defs g b c → P c) → TyL P (.bind l g)
  | bindD {P Q l g} : TyL Q l → Plain g → (∀ b, Q b → ∀ c, Big defs g b c → P c) → TyL P (.bindD l g)
end

theorem TyS.weaken : ∀ {P Q : St → Prop} {s : Strm St K}, TyS (defs := defs) Q s → (∀ a, Q a → P a) → TyS (defs := defs) P s :=
  fun {P _ _} h w =>
  TyS.rec (motive_1 := fun Q s _ => ∀ P : St → Prop, (∀ a, Q a → P a) → TyS (defs := defs) P s)
    (motive_2 := fun Q l _ => ∀ P : St → Prop, (∀ a, Q a → P a) → TyL (defs := defs) P l)
    (fun _ _ => .empty) (fun h _ w => .unit (w _ h)) (fun h _ ih _ w => .cons (w _ h) (ih _ w))
    (fun _ ih _ w => .lazy (ih _ w))
    (fun _ _ ih1 ih2 _ w => .mplus (ih1 _ w) (ih2 _ w)) (fun _ _ ih1 ih2 _ w => .mplusD (ih1 _ w) (ih2 _ w))
    (fun hp hb _ w => .pause hp fun c hc => w _ (hb c hc)) (fun _ ih _ w => .delay (ih _ w))
    (fun hl hp hb _ _ w => .bind hl hp fun b hq c hc => w _ (hb b hq c hc))
    (fun hl hp hb _ _ w => .bindD hl hp fun b hq c hc => w _ (hb b hq c hc)) h P w

theorem TyL.weaken {P Q : St → Prop} {l : Lz St K} (h : TyL (defs := defs) Q l) (w : ∀ a, Q a → P a) :
    TyL (defs := defs) P l :=
  match TyS.weaken (.lazy h) w with
  | .lazy h' => h'

theorem mplus_ty {P : St → Prop} {s : Strm St K} {l : Lz St K} (hs : TyS (defs := defs) P s) (hl : TyL (defs := defs) P l) :
    TyS (defs := defs) P (mplus s l) := by
  cases hs with
  | empty => exact .lazy hl
  | unit h => exact .cons h hl
  | cons h h1 => exact .cons h (.mplus hl h1)
  | lazy h1 => exact .lazy (.mplus hl h1)

theorem mplusD_ty {P : St → Prop} {s : Strm St K} {l : Lz St K} (hs : TyS (defs := defs) P s) (hl : TyL (defs := defs) P l) :
    TyS (defs := defs) P (mplusD s l) := by
  cases hs with
  | empty => exact .lazy hl
  | unit h => exact .cons h hl
  | cons h h1 => exact .cons h (.mplusD h1 hl)
  | lazy h1 => exact .lazy (.mplusD h1 hl)

theorem bind_ty {P Q : St → Prop} {s : Strm St K} {g : Goal St K} (hs : TyS (defs := defs) Q s) (hp : Plain g)
    (hb : ∀ b, Q b → ∀ c, Big defs g b c → P c) : TyS (defs := defs) P (bind s g) := by
  rcases g.shortcut_cases with rfl | rfl | ⟨h1, h2⟩
  · exact hs.weaken fun a ha => hb a ha a (big_succeed.2 rfl)
  · exact .empty
  simp only [Strm.bind, h1, h2, Bool.false_eq_true, if_false]
  cases hs with
  | empty => exact .empty
  | unit h => exact .lazy (.pause hp (hb _ h))
  | cons h hl => exact .lazy (.mplus (.pause hp (hb _ h)) (.bind hl hp hb))
  | lazy hl => exact .lazy (.bind hl hp hb)

theorem bindD_ty {P Q : St → Prop} {s : Strm St K} {g : Goal St K} (hs : TyS (defs := defs) Q s) (hp : Plain g)
    (hb : ∀ b, Q b → ∀ c, Big defs g b c → P c) : TyS (defs := defs) P (bindD s g) := by
  rcases g.shortcut_cases with rfl | rfl | ⟨h1, h2⟩
  · exact hs.weaken fun a ha => hb a ha a (big_succeed.2 rfl)
  · exact .empty
  simp only [Strm.bindD, h1, h2, Bool.false_eq_true, if_false]
  cases hs with
  | empty => exact .empty
  | unit h => exact .lazy (.pause hp (hb _ h))
  | cons h hl => exact .lazy (.mplusD (.pause hp (hb _ h)) (.bindD hl hp hb))
  | lazy hl => exact .lazy (.bindD hl hp hb)

theorem plain_mkConj {g1 g2 : Goal St K} (h1 : Plain g1) (h2 : Plain g2) : Plain (mkConj g1 g2) :=
  mkConj_closed .succeed .fail .conj h1 h2

theorem start_ty (hD : PlainDefs defs) {top0 : Goal St K → St → Strm St K} (pf : Nat)
    (htop0 : ∀ (g : Goal St K) (a : St) (P : St → Prop), Plain g → (∀ c, Big defs g a c → P c) → TyS (defs := defs) P (top0 g a))
    {g : Goal St K} (hg : Plain g) : ∀ (a : St) (P : St → Prop), (∀ c, Big defs g a c → P c) →
      TyS (defs := defs) P (start defs top0 pf g a) := by
  induction hg with
  | succeed => intro a P h; exact .unit (h a (big_succeed.2 rfl))
  | fail => intro a P _; exact .empty
  | atom f =>
    intro a P h
    simp only [start]
    cases hf : f a with
    | none => exact .empty
    | some b => exact .unit (h b (big_atom.2 hf))
  | dyn _ ih => intro a P h; exact ih a _ P fun c hc => h c (big_dyn.2 hc)
  | @conj g1 g2 h1 h2 _ _ =>
    intro a P h
    exact bind_ty (Q := fun b => Big defs g1 a b) (.lazy (.pause h1 fun c hc => hc)) h2
      fun b hb c hc => h c (big_conj.2 ⟨b, hb, hc⟩)
  | @conjD g1 g2 h1 h2 _ _ =>
    intro a P h
    exact bindD_ty (Q := fun b => Big defs g1 a b) (.lazy (.pause h1 fun c hc => hc)) h2
      fun b hb c hc => h c (big_conjD.2 ⟨b, hb, hc⟩)
  | disj h1 h2 _ _ =>
    intro a P h
    exact .lazy (.mplus (.pause h1 fun c hc => h c (big_disj.2 (.inl hc))) (.pause h2 fun c hc => h c (big_disj.2 (.inr hc))))
  | disjD h1 h2 _ _ =>
    intro a P h
    exact .lazy (.mplusD (.pause h1 fun c hc => h c (big_disjD.2 (.inl hc))) (.pause h2 fun c hc => h c (big_disjD.2 (.inr hc))))
  | alt _ _ ih1 ih2 =>
    intro a P h
    exact mplus_ty (ih1 a P fun c hc => h c (big_alt.2 (.inl hc))) (.delay (ih2 a P fun c hc => h c (big_alt.2 (.inr hc))))
  | altD _ _ ih1 ih2 =>
    intro a P h
    exact mplusD_ty (ih1 a P fun c hc => h c (big_altD.2 (.inl hc))) (.delay (ih2 a P fun c hc => h c (big_altD.2 (.inr hc))))
  | fresh h1 _ => intro a P h; exact .lazy (.pause h1 fun c hc => h c (big_fresh.2 hc))
  | @anyo g h1 _ =>
    intro a P h
    rw [start_anyo]
    exact mplus_ty (bind_ty (Q := (a = ·)) (.unit rfl) h1 fun b e c hc => h c (big_anyo.2 (.inl (e ▸ hc))))
      (.delay (mplus_ty (.lazy (.pause (.anyo (plain_mkConj (plain_mkConj h1 .succeed) .succeed))
        fun c hc => h c (big_anyo.2 (.inr hc)))) (.delay .empty)))
  | call k => intro a P h; exact htop0 _ _ P (hD k a) fun c hc => h c (big_call.2 hc)

theorem solveAt_ty (hD : PlainDefs defs) (pf : Nat) : ∀ (n : Nat) (g : Goal St K) (a : St) (P : St → Prop), Plain g →
    (∀ c, Big defs g a c → P c) → TyS (defs := defs) P (solveAt defs pf n g a)
  | 0, _, _, _, hg, h => .lazy (.pause hg h)
  | n + 1, _, a, P, hg, h => start_ty hD pf (fun g a P hg h => solveAt_ty hD pf n g a P hg h) hg a P h

/-- a member of a stream typed by `P` satisfies `P`, for any solver `top` of paused goals that respects the
    typing (the cases are those of `MemS`, then `MemL`, in their order) -/
theorem TyS.sound {top : Goal St K → St → Strm St K}
    (htop : ∀ (g : Goal St K) (a : St) (P : St → Prop), Plain g → (∀ c, Big defs g a c → P c) → TyS (defs := defs) P (top g a))
    {a : St} {s : Strm St K} (m : MemS top a s) : ∀ {P : St → Prop}, TyS (defs := defs) P s → P a :=
  MemS.rec (motive_1 := fun a s _ => ∀ P : St → Prop, TyS (defs := defs) P s → P a)
    (motive_2 := fun a l _ => ∀ P : St → Prop, TyL (defs := defs) P l → P a)
    (fun _ _ t => by cases t with | unit h => exact h)
    (fun _ _ _ t => by cases t with | cons h _ => exact h)
    (fun _ ih _ t => by cases t with | cons _ hl => exact ih _ hl)
    (fun _ ih _ t => by cases t with | lazy hl => exact ih _ hl)
    (fun _ ih _ t => by cases t with | mplus h1 _ => exact ih _ h1)
    (fun _ ih _ t => by cases t with | mplus _ h2 => exact ih _ h2)
    (fun _ ih _ t => by cases t with | mplusD h1 _ => exact ih _ h1)
    (fun _ ih _ t => by cases t with | mplusD _ h2 => exact ih _ h2)
    (fun _ ih _ t => by cases t with | pause hp hb => exact ih _ (htop _ _ _ hp hb))
    (fun _ ih _ t => by cases t with | delay hs => exact ih _ hs)
    (fun _ _ ih1 ih2 _ t => by cases t with | bind hl hp hb => exact ih2 _ (htop _ _ _ hp (hb _ (ih1 _ hl))))
    (fun _ _ ih1 ih2 _ t => by cases t with | bindD hl hp hb => exact ih2 _ (htop _ _ _ hp (hb _ (ih1 _ hl))))
    m _

theorem memS_ty (hD : PlainDefs defs) (pf M : Nat) {a : St} {s : Strm St K} (m : MemS (solveAt defs pf (M + 1)) a s)
    {P : St → Prop} (t : TyS (defs := defs) P s) : P a :=
  TyS.sound (fun g a P => solveAt_ty hD pf (M + 1) g a P) m t

theorem memL_ty (hD : PlainDefs defs) (pf M : Nat) : ∀ {a : St} {l : Lz St K}, MemL (solveAt defs pf (M + 1)) a l →
    ∀ {P : St → Prop}, TyL (defs := defs) P l → P a :=
  fun m _ t => memS_ty hD pf M (.lazy m) (.lazy t)

theorem bigF_mem (pf M : Nat) : ∀ (n : Nat) (g : Goal St K) (a b : St), BigF defs n g a b →
    ∀ j, MemS (solveAt defs pf (M + 1)) b (solveAt defs pf (j + 1) g a) := by
  have hT := topOK_solveAt defs pf M
  intro n
  induction n with
  | zero => intro g a b h; exact h.elim
  | succ n ih =>
    intro g a b h j
    show MemS _ b (start defs (solveAt defs pf j) pf g a)
    cases g with
    | succeed =>
      cases h.succeed_eq
      exact .unit a
    | fail => exact h.elim
    | atom f =>
      have hf : f a = some b := h
      simp only [start, hf]
      exact .unit b
    | dyn fs fg => exact ih (fg a) (fs a) b h j
    | conj g1 g2 =>
      obtain ⟨c, h1, h2⟩ := h
      exact (mem_bind_iff hT).2 ⟨c, .lazy (.pause (ih g1 a c h1 M)), ih g2 c b h2 M⟩
    | conjD g1 g2 =>
      obtain ⟨c, h1, h2⟩ := h
      exact (mem_bindD_iff hT).2 ⟨c, .lazy (.pause (ih g1 a c h1 M)), ih g2 c b h2 M⟩
    | disj g1 g2 =>
      rcases h with h | h
      · exact .lazy (.mplusL (.pause (ih g1 a b h M)))
      · exact .lazy (.mplusR (.pause (ih g2 a b h M)))
    | disjD g1 g2 =>
      rcases h with h | h
      · exact .lazy (.mplusDL (.pause (ih g1 a b h M)))
      · exact .lazy (.mplusDR (.pause (ih g2 a b h M)))
    | alt g1 g2 =>
      show MemS _ b (mplus (start defs _ pf g1 a) (.delay (start defs _ pf g2 a)))
      rcases h with h | h
      · exact mem_mplus_iff.2 (.inl (ih g1 a b h j))
      · exact mem_mplus_iff.2 (.inr (.delay (ih g2 a b h j)))
    | altD g1 g2 =>
      show MemS _ b (mplusD (start defs _ pf g1 a) (.delay (start defs _ pf g2 a)))
      rcases h with h | h
      · exact mem_mplusD_iff.2 (.inl (ih g1 a b h j))
      · exact mem_mplusD_iff.2 (.inr (.delay (ih g2 a b h j)))
    | fresh g => exact .lazy (.pause (ih g a b h M))
    | anyo g =>
      rw [start_anyo]
      rcases h with h | h
      · exact mem_mplus_iff.2 (.inl ((mem_bind_iff hT (s := .unit a)).2 ⟨a, .unit a, ih g a b h M⟩))
      · exact mem_mplus_iff.2 (.inr (.delay (mem_mplus_iff.2 (.inl (.lazy (.pause (ih _ a b h M)))))))
    | call k =>
      show MemS _ b (solveAt defs pf j (defs k a).2 (defs k a).1)
      cases j with
      | zero => exact .lazy (.pause (ih _ _ b h M))
      | succ j => exact ih _ _ b h j
    | conda _ _ _ => exact h.elim
    | condu _ _ _ => exact h.elim

theorem big_mem (pf M j : Nat) {g : Goal St K} {a b : St} (h : Big defs g a b) :
    MemS (solveAt defs pf (M + 1)) b (solveAt defs pf j g a) := by
  obtain ⟨n, h⟩ := h
  cases j with
  | zero => exact .lazy (.pause (bigF_mem pf M n g a b h M))
  | succ j => exact bigF_mem pf M n g a b h j

/-- at every nesting level `j` of the solver, the states in the engine's stream for goal `g` from state `a` are exactly
    the big-step answers of `g` from `a` -/
theorem mem_iff_big (hD : PlainDefs defs) (pf M j : Nat) {g : Goal St K} (hg : Plain g) (a b : St) :
    MemS (solveAt defs pf (M + 1)) b (solveAt defs pf j g a) ↔ Big defs g a b :=
  ⟨fun m => memS_ty hD pf M m (solveAt_ty hD pf j g a (fun c => Big defs g a c) hg fun c hc => hc), big_mem pf M j⟩

end
end Pv
