/-
  The dispatch over constraint kinds and the `run_constraints` loop, semantically (continuation of
  FDGlobal.lean; the `distinctfd` propagators are in FDDistinct.lean).
-/
import PvModel.Proofs.FDDistinct
namespace Pv
open State Term FD
variable {I : Nat → Prop} [Mode]

section WithRC
variable {rc : State → Res State} (hrc : RcOK rc) (hrs : RcSem rc) {ord : Order} (ho : OrderOK ord)
include hrc hrs ho

theorem runCstBody_sem {self : Nat → Cst → State → Res State} (hss : SelfSem self) {i : Nat} {c : Cst}
    {st : State} (hI : IOK I st) (ws : WFS st) (f : Fr i st) (hnd : CstOK c) :
    Ref I (fun γ => CstSem γ c) st (runCstBody rc ord self i c st) := by
  cases c with
  | diseq ps => exact runDiseq_sem ho ws f.1 ps
  | plusz u v w => exact runPlusZ_sem hrs ord hI ws f
  | timesz u v w => exact runTimesZ_sem hrs ord hI ws f
  | ltefd u v => exact runLteFd_sem hrc hrs ord hss hI ws f
  | plusfd u v w => exact runPlusFd_sem hrc hrs ord hss hI ws f
  | minusfd u v w => exact runMinusFd_sem hrc hrs ord hss hI ws f
  | timesfd u v w => exact runTimesFd_sem hrc hrs ord hss hI ws f
  | diseqfd u v => exact runDiseqFd_sem hrc hrs ord hI ws f
  | distinctfd u => exact runDistinctFd_sem hss hI ws f hnd
  | distinctfd2 u y n => exact runDistinctFd2_sem hrc hrs ord hI ws f.1 hnd

theorem runCst_selfSem : ∀ k, SelfSem (runCst rc ord k)
  | 0 => fun _ _ _ _ hI w f _ hnd => runCstBody_sem hrc hrs ho selfSem_fuel hI w f hnd
  | k + 1 => fun _ _ _ _ hI w f _ hnd => runCstBody_sem hrc hrs ho (runCst_selfSem k) hI w f hnd

theorem runSnapshot_sem {st : State} {snap : List (Nat × Cst)} (hI : IOK I st) (ws : WFS st) (hi : Inv st) :
    Ref I (fun _ => True) st (runSnapshot rc ord st snap) := by
  unfold runSnapshot
  refine fold_ref (fun _ => True) (fun (cur : State) (p : Nat × Cst) =>
      match cur.takeConstraint p.1 with
      | (st', some c) => runCst rc ord 4 p.1 c st'
      | (st', none) => .ok st') snap (fun cur p _ _ w hi => ?_) trivial ws hi
  obtain ⟨ti, _, _, tf⟩ := take_step cur p.1 hi
  split
  · rename_i st1 c e
    obtain ⟨hm, rfl⟩ := take_some_ok e
    rw [e] at ti tf
    obtain ⟨hni, hlt⟩ := tf c rfl
    have fr : Fr p.1 _ := ⟨ti, hlt, hni⟩
    refine ⟨?_, fun cur' h => ⟨(runCst_selfOK hrc ord 4 _ _ _ _ fr h).inv, trivial⟩⟩
    -- `runCst 4` is its body over `runCst 3`; the constraint taken out of the store is the one that is run
    refine Ref.base ?_ (fun γ => by rw [take_sem hi hm γ, and_iff_left trivial])
      (runCstBody_sem hrc hrs ho (runCst_selfSem hrc hrs ho 3) hI.any ?_ fr (w.nodist _ hm))
    · exact Keeps.same w.solved rfl rfl
    · exact w.same rfl rfl fun q hq => .inl (List.mem_filter.1 hq).1
  · rename_i st1 e
    cases (take_none_ok e).1
    exact ⟨Ref.entailed w fun _ _ => trivial, fun cur' h => by cases h; exact ⟨hi, trivial⟩⟩

end WithRC

theorem runConstraintsF_sem {ord : Order} (ho : OrderOK ord) : ∀ n, RcSem (runConstraintsF ord n)
  | 0 => fun _ _ _ _ _ => trivial
  | n + 1 => fun _ _ hI w hi =>
    runSnapshot_sem (runConstraintsF_ok ord n) (runConstraintsF_sem ho n) ho hI w hi

end Pv
