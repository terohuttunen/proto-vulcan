/-
  Local facts about the CLP(FD) propagators of Model/State.lean (`runCst`):
  * ground-exactness: with all operands numbers a propagator succeeds exactly when its arithmetic
    relation holds, and it leaves the state unchanged;
  * the interval bounds the propagators narrow to are sound: no value that takes part in a solution
    within the current bounds is cut off (plus, minus, lte; times: four-corner product bounds for all
    sign combinations, quotient bounds for non-negative operands).
-/
import PvModel.Model.State
namespace Pv
open Term State

section Ground
variable (rc : State → Res State) (ord : Order)

theorem walk_num (σ : Subst) (n : Int) : walk σ (Term.num n) = Term.num n := rfl

/-- an operand that walks to a number -/
def IsNumAt (st : State) (t : Term) (n : Int) : Prop := walk st.σ t = .val (.num n)

theorem plusfd_ground (k id : Nat) (st : State) (u v w : Term) (a b c : Int)
    (hu : IsNumAt st u a) (hv : IsNumAt st v b) (hw : IsNumAt st w c) :
    runCst rc ord k id (.plusfd u v w) st = if a + b = c then .ok st else .fail := by
  unfold IsNumAt at *
  cases k <;> simp only [runCst, runCstBody, runPlusFd, hu, hv, hw]

theorem minusfd_ground (k id : Nat) (st : State) (u v w : Term) (a b c : Int)
    (hu : IsNumAt st u a) (hv : IsNumAt st v b) (hw : IsNumAt st w c) :
    runCst rc ord k id (.minusfd u v w) st = if a - b = c then .ok st else .fail := by
  unfold IsNumAt at *
  cases k <;> simp only [runCst, runCstBody, runMinusFd, hu, hv, hw]

theorem timesfd_ground (k id : Nat) (st : State) (u v w : Term) (a b c : Int)
    (hu : IsNumAt st u a) (hv : IsNumAt st v b) (hw : IsNumAt st w c) :
    runCst rc ord k id (.timesfd u v w) st = if a * b = c then .ok st else .fail := by
  unfold IsNumAt at *
  cases k <;> simp only [runCst, runCstBody, runTimesFd, hu, hv, hw]

theorem ltefd_ground (k id : Nat) (st : State) (u v : Term) (a b : Int)
    (hu : IsNumAt st u a) (hv : IsNumAt st v b) :
    runCst rc ord k id (.ltefd u v) st = if a ≤ b then .ok st else .fail := by
  unfold IsNumAt at *
  cases k <;> simp only [runCst, runCstBody, runLteFd, hu, hv]

theorem diseqfd_ground (k id : Nat) (st : State) (u v : Term) (a b : Int)
    (hu : IsNumAt st u a) (hv : IsNumAt st v b) :
    runCst rc ord k id (.diseqfd u v) st = if a = b then .fail else .ok st := by
  unfold IsNumAt at *
  cases k <;>
    simp [runCst, runCstBody, runDiseqFd, hu, hv, opDomain, FD.ofInt, FD.isSingleton, FD.min?]

theorem plusz_ground (k id : Nat) (st : State) (u v w : Term) (a b c : Int)
    (hu : IsNumAt st u a) (hv : IsNumAt st v b) (hw : IsNumAt st w c) :
    runCst rc ord k id (.plusz u v w) st = if a + b = c then .ok st else .fail := by
  unfold IsNumAt at *
  cases k <;> simp only [runCst, runCstBody, runPlusZ, hu, hv, hw]

theorem timesz_ground (k id : Nat) (st : State) (u v w : Term) (a b c : Int)
    (hu : IsNumAt st u a) (hv : IsNumAt st v b) (hw : IsNumAt st w c) :
    runCst rc ord k id (.timesz u v w) st = if a * b = c then .ok st else .fail := by
  unfold IsNumAt at *
  cases k <;> simp only [runCst, runCstBody, runTimesZ, hu, hv, hw]

end Ground

theorem plus_bounds (u v w umin umax vmin vmax wmin wmax : Int)
    (hu : umin ≤ u ∧ u ≤ umax) (hv : vmin ≤ v ∧ v ≤ vmax) (hw : wmin ≤ w ∧ w ≤ wmax) (h : u + v = w) :
    (umin + vmin ≤ w ∧ w ≤ umax + vmax) ∧ (wmin - vmax ≤ u ∧ u ≤ wmax - vmin) ∧
    (wmin - umax ≤ v ∧ v ≤ wmax - umin) := by omega

theorem minus_bounds (u v w umin umax vmin vmax wmin wmax : Int)
    (hu : umin ≤ u ∧ u ≤ umax) (hv : vmin ≤ v ∧ v ≤ vmax) (hw : wmin ≤ w ∧ w ≤ wmax) (h : u - v = w) :
    (umin - vmax ≤ w ∧ w ≤ umax - vmin) ∧ (wmin + vmin ≤ u ∧ u ≤ wmax + vmax) ∧
    (umin - wmax ≤ v ∧ v ≤ umax - wmin) := by
  have p := plus_bounds w v u wmin wmax vmin vmax umin umax hw hv hu (by rw [← h, Int.sub_add_cancel])
  exact ⟨p.2.1, p.1, p.2.2⟩

theorem mul_between (x lo hi k : Int) (h1 : lo ≤ x) (h2 : x ≤ hi) :
    min (lo * k) (hi * k) ≤ x * k ∧ x * k ≤ max (lo * k) (hi * k) := by
  rcases Int.le_total 0 k with hk | hk
  · exact ⟨Int.le_trans (Int.min_le_left ..) (Int.mul_le_mul_of_nonneg_right h1 hk),
      Int.le_trans (Int.mul_le_mul_of_nonneg_right h2 hk) (Int.le_max_right ..)⟩
  · exact ⟨Int.le_trans (Int.min_le_right ..) (Int.mul_le_mul_of_nonpos_right h2 hk),
      Int.le_trans (Int.mul_le_mul_of_nonpos_right h1 hk) (Int.le_max_left ..)⟩

/-- Four-corner lemma: for `u ∈ [umin, umax]`, `v ∈ [vmin, vmax]` (any signs), the product lies between
    the smallest and the largest of the four corner products — the bounds `timesfd` narrows `w` to. -/
theorem times_corners (u v umin umax vmin vmax : Int)
    (hu : umin ≤ u ∧ u ≤ umax) (hv : vmin ≤ v ∧ v ≤ vmax) :
    min (min (umin * vmin) (umin * vmax)) (min (umax * vmin) (umax * vmax)) ≤ u * v ∧
    u * v ≤ max (max (umin * vmin) (umin * vmax)) (max (umax * vmin) (umax * vmax)) := by
  -- `u * v` lies between `umin * v` and `umax * v`, and each of these between its two corners
  have h1 := mul_between u umin umax v hu.1 hu.2
  have h2 := mul_between v vmin vmax umin hv.1 hv.2
  have h3 := mul_between v vmin vmax umax hv.1 hv.2
  rw [Int.mul_comm v umin, Int.mul_comm vmin umin, Int.mul_comm vmax umin] at h2
  rw [Int.mul_comm v umax, Int.mul_comm vmin umax, Int.mul_comm vmax umax] at h3
  exact ⟨Int.le_trans (Int.le_min.2 ⟨Int.le_trans (Int.min_le_left ..) h2.1, Int.le_trans (Int.min_le_right ..) h3.1⟩) h1.1,
    Int.le_trans h1.2 (Int.max_le.2 ⟨Int.le_trans h2.2 (Int.le_max_left ..), Int.le_trans h3.2 (Int.le_max_right ..)⟩)⟩

/-- lower quotient bound: for non-negative operands with `u * v = w`, `wmin ≤ w`, `v ≤ vmax`:
    `checked_div(wmin, vmax).unwrap_or(umin) ≤ u` -/
theorem cdiv_low (u v w umin vmax wmin : Int) (hu0 : 0 ≤ umin) (hu : umin ≤ u) (hv0 : 0 ≤ v) (hv : v ≤ vmax)
    (hw0 : 0 ≤ wmin) (hw : wmin ≤ w) (h : u * v = w) : cdiv wmin vmax umin ≤ u := by
  unfold cdiv
  split
  · exact hu
  · rename_i hne
    have hpos : 0 < vmax := Int.lt_iff_le_and_ne.2 ⟨Int.le_trans hv0 hv, Ne.symm hne⟩
    rw [Int.tdiv_eq_ediv_of_nonneg hw0]
    apply Int.ediv_le_of_le_mul hpos
    have : u * v ≤ u * vmax := Int.mul_le_mul_of_nonneg_left hv (Int.le_trans hu0 hu)
    rw [h] at this
    exact Int.le_trans hw this

/-- upper quotient bound: `u ≤ checked_div(wmax, vmin).unwrap_or(umax)` -/
theorem cdiv_high (u v w umax vmin wmax : Int) (hu0 : 0 ≤ u) (hu : u ≤ umax) (hv0 : 0 ≤ vmin) (hv : vmin ≤ v)
    (hw : w ≤ wmax) (h : u * v = w) : u ≤ cdiv wmax vmin umax := by
  unfold cdiv
  split
  · exact hu
  · rename_i hne
    have hpos : 0 < vmin := Int.lt_iff_le_and_ne.2 ⟨hv0, Ne.symm hne⟩
    have hw0 : 0 ≤ wmax := by
      have : 0 ≤ u * v := Int.mul_nonneg hu0 (Int.le_trans hv0 hv)
      rw [h] at this
      exact Int.le_trans this hw
    rw [Int.tdiv_eq_ediv_of_nonneg hw0]
    apply Int.le_ediv_of_mul_le hpos
    have : u * vmin ≤ u * v := Int.mul_le_mul_of_nonneg_left hv hu0
    rw [h] at this
    exact Int.le_trans this hw

/-- soundness of the intervals `timesfd` narrows to (`timesBounds`), for all sign combinations:
    every `(u, v, w)` with `u * v = w` inside the current bounds stays inside the narrowed intervals. -/
theorem timesBounds_sound (u v w umin umax vmin vmax wmin wmax : Int)
    (hu : umin ≤ u ∧ u ≤ umax) (hv : vmin ≤ v ∧ v ≤ vmax) (hw : wmin ≤ w ∧ w ≤ wmax) (h : u * v = w) :
    (timesBounds umin umax vmin vmax wmin wmax).1.Mem w ∧
    (timesBounds umin umax vmin vmax wmin wmax).2.1.Mem u ∧
    (timesBounds umin umax vmin vmax wmin wmax).2.2.Mem v := by
  have hc := times_corners u v umin umax vmin vmax hu hv
  rw [h] at hc
  refine ⟨hc, ?_, ?_⟩
  · simp only [timesBounds, FD.Mem]
    split
    · rename_i hn
      simp only [Bool.and_eq_true, decide_eq_true_eq] at hn
      obtain ⟨⟨h1, h2⟩, h3⟩ := hn
      exact ⟨cdiv_low u v w umin vmax wmin h1 hu.1 (Int.le_trans h2 hv.1) hv.2 h3 hw.1 h,
             cdiv_high u v w umax vmin wmax (Int.le_trans h1 hu.1) hu.2 h2 hv.1 hw.2 h⟩
    · exact hu
  · simp only [timesBounds, FD.Mem]
    split
    · rename_i hn
      simp only [Bool.and_eq_true, decide_eq_true_eq] at hn
      obtain ⟨⟨h1, h2⟩, h3⟩ := hn
      have h' : v * u = w := by rw [Int.mul_comm]; exact h
      exact ⟨cdiv_low v u w vmin umax wmin h2 hv.1 (Int.le_trans h1 hu.1) hu.2 h3 hw.1 h',
             cdiv_high v u w vmax umin wmax (Int.le_trans h2 hv.1) hv.2 h1 hu.1 hw.2 h'⟩
    · exact hv

theorem lte_bounds (u v umin vmax : Int) (hu : umin ≤ u) (hv : v ≤ vmax) (h : u ≤ v) :
    ¬ (vmax < u) ∧ umin ≤ v := by omega

end Pv
