/-
  The depth-first twin of Proofs/RelFair.lean: for goals of the depth-first fragment (atoms, dfs conjunction, `cond`,
  fresh, calls of library relations made inside `dfs { }`) the engine delivers exactly the answer list of the reference
  semantics, in that order, and stops.

  The generic theorem (`ref_dfs_drain`, property C05) asks that every relation body is depth-first (`DfsDefs`); the
  model's relation table also holds the interleaving variants.  `defsD` is the table with every call forced to the
  depth-first variant; on goals without interleaving nodes and without interleaving calls the two engines are the same
  function.
-/
import PvModel.Proofs.RelFair
import PvModel.Proofs.Zip2
namespace Pv
open Strm Goal State Term

section
variable (ord : Order)

/-- the relation table with every call taken as a depth-first call -/
def defsD : Call → State → State × G := fun c st => defs ord { c with dfs := true } st

variable {ord}

theorem defsD_eq {c : Call} (h : c.dfs = true) : defsD ord c = defs ord c := by
  obtain ⟨r, as, d⟩ := c
  simp only at h
  subst h
  rfl

/-- goals of the depth-first fragment whose calls are depth-first calls -/
inductive OnlyD : G → Prop
  | succeed : OnlyD .succeed
  | fail : OnlyD .fail
  | atom (f) : OnlyD (.atom f)
  | conjD {g1 g2} : OnlyD g1 → OnlyD g2 → OnlyD (.conjD g1 g2)
  | altD {g1 g2} : OnlyD g1 → OnlyD g2 → OnlyD (.altD g1 g2)
  | fresh {g} : OnlyD g → OnlyD (.fresh g)
  | call {c} : c.dfs = true → OnlyD (.call c)

theorem onlyD_dfs {D : Call → State → State × G} {g : G} (h : OnlyD g) : DfsG D g := by
  induction h with
  | succeed => exact .succeed
  | fail => exact .fail
  | atom f => exact .atom f
  | conjD _ _ i1 i2 => exact .conjD i1 i2
  | altD _ _ i1 i2 => exact .altD i1 i2
  | fresh _ i => exact .fresh i
  | call _ => exact .call

theorem relBody_onlyD (r : Rel) (as : List Term) (n : Nat) : OnlyD (relBody ord ⟨r, as, true⟩ n).2 :=
  (relBody_bodyG _ n).elim .succeed .fail (fun h => Bool.noConfusion h) (fun h => Bool.noConfusion h) (fun _ => .conjD)
    (fun _ => .altD) .fresh (fun _ _ => .atom _) (fun _ _ => .atom _) (fun _ _ _ => .call rfl) (fun _ => .atom _)

theorem dfsDefs_D : DfsDefs (defsD ord) := fun c a => onlyD_dfs (relBody_onlyD c.rel c.args a.nextVar)

mutual
inductive OnlyDS : Strm State Call → Prop
  | empty : OnlyDS .empty
  | unit (a) : OnlyDS (.unit a)
  | cons {a l} : OnlyDL l → OnlyDS (.cons a l)
  | lazy {l} : OnlyDL l → OnlyDS (.lazy l)
inductive OnlyDL : Lz State Call → Prop
  | mplusD {l1 l2} : OnlyDL l1 → OnlyDL l2 → OnlyDL (.mplusD l1 l2)
  | bindD {l g} : OnlyDL l → OnlyD g → OnlyDL (.bindD l g)
  | pause {a g} : OnlyD g → OnlyDL (.pause a g)
  | delay {s} : OnlyDS s → OnlyDL (.delay s)
end

theorem mplusD_onlyD {s : Strm State Call} {l : Lz State Call} (hs : OnlyDS s) (hl : OnlyDL l) : OnlyDS (mplusD s l) := by
  cases hs with
  | empty => exact .lazy hl
  | unit a => exact .cons hl
  | cons h => exact .cons (.mplusD h hl)
  | lazy h => exact .lazy (.mplusD h hl)

theorem bindD_onlyD {s : Strm State Call} {g : G} (hs : OnlyDS s) (hg : OnlyD g) : OnlyDS (Strm.bindD s g) := by
  unfold Strm.bindD
  split
  · exact hs
  · split
    · exact .empty
    · cases hs with
      | empty => exact .empty
      | unit a => exact .lazy (.pause hg)
      | cons h => exact .lazy (.mplusD (.pause hg) (.bindD h hg))
      | lazy h => exact .lazy (.bindD h hg)

theorem lazyBindD_onlyD {l : Lz State Call} {g : G} (hl : OnlyDL l) (hg : OnlyD g) : OnlyDS (lazyBindD l g) := by
  unfold lazyBindD
  split
  · exact .lazy hl
  · split
    · exact .empty
    · exact .lazy (.bindD hl hg)

section Two
variable {top top' : G → State → Strm State Call}
  (heq : ∀ g a, OnlyD g → top g a = top' g a) (hod : ∀ g a, OnlyD g → OnlyDS (top g a))
include heq hod

omit heq in
theorem step_onlyD : ∀ (l : Lz State Call), OnlyDL l → OnlyDS (step top l)
  | .mplusD l1 l2, h => by cases h with | mplusD h1 h2 => exact mplusD_onlyD (step_onlyD l1 h1) h2
  | .bindD l g, h => by cases h with | bindD h1 hg => exact bindD_onlyD (step_onlyD l h1) hg
  | .pause a g, h => by cases h with | pause hg => exact hod g a hg
  | .delay s, h => by cases h with | delay hs => exact hs
  | .mplus _ _, h => by cases h
  | .bind _ _, h => by cases h

omit hod in
theorem step_eqD : ∀ (l : Lz State Call), OnlyDL l → step top l = step top' l
  | .mplusD l1 l2, h => by cases h with | mplusD h1 h2 => simp only [step, step_eqD l1 h1]
  | .bindD l g, h => by cases h with | bindD h1 hg => simp only [step, step_eqD l h1]
  | .pause a g, h => by cases h with | pause hg => exact heq g a hg
  | .delay s, _ => rfl
  | .mplus _ _, h => by cases h
  | .bind _ _, h => by cases h

theorem drainF_eqD : ∀ (n : Nat) (s : Strm State Call), OnlyDS s → drainF top n s = drainF top' n s
  | 0, _, _ => rfl
  | n + 1, .empty, _ => rfl
  | n + 1, .unit a, _ => rfl
  | n + 1, .cons a l, h => by
    cases h with
    | cons hl => simp only [drainF, drainF_eqD n (.lazy l) (.lazy hl)]
  | n + 1, .lazy l, h => by
    cases h with
    | lazy hl =>
      simp only [drainF]
      rw [← step_eqD heq l hl]
      exact drainF_eqD n _ (step_onlyD hod l hl)

end Two

theorem start_onlyD {D : Call → State → State × G} {top0 : G → State → Strm State Call} (pf : Nat)
    (hD : ∀ c a, c.dfs = true → OnlyD (D c a).2) (h0 : ∀ g a, OnlyD g → OnlyDS (top0 g a)) {g : G} (hg : OnlyD g) :
    ∀ a, OnlyDS (start D top0 pf g a) := by
  induction hg with
  | succeed => intro a; simp only [start]; exact .unit a
  | fail => intro a; simp only [start]; exact .empty
  | atom f => intro a; simp only [start]; split <;> constructor
  | conjD h1 h2 _ _ => intro a; simp only [start]; exact lazyBindD_onlyD (.pause h1) h2
  | altD _ _ i1 i2 => intro a; simp only [start]; exact mplusD_onlyD (i1 a) (.delay (i2 a))
  | fresh h _ => intro a; simp only [start]; exact .lazy (.pause h)
  | call hc => intro a; simp only [start]; exact h0 _ _ (hD _ a hc)

theorem defs_onlyD (c : Call) (a : State) (h : c.dfs = true) : OnlyD (defs ord c a).2 := by
  obtain ⟨r, as, d⟩ := c
  simp only at h
  subst h
  exact relBody_onlyD r as a.nextVar

theorem solveAt_onlyD (pf : Nat) : ∀ (n : Nat) (g : G) (a : State), OnlyD g → OnlyDS (solveAt (defs ord) pf n g a)
  | 0, _, _, hg => .lazy (.pause hg)
  | n + 1, _, a, hg => start_onlyD pf defs_onlyD (fun g a hg => solveAt_onlyD pf n g a hg) hg a

section Tables
variable {D D' : Call → State → State × G} (hD : ∀ c, c.dfs = true → D c = D' c)
  (hcl : ∀ c a, c.dfs = true → OnlyD (D c a).2)
include hD hcl

theorem start_congrD {top0 top0' : G → State → Strm State Call} (pf : Nat)
    (h0 : ∀ g a, OnlyD g → top0 g a = top0' g a) {g : G} (hg : OnlyD g) :
    ∀ a, start D top0 pf g a = start D' top0' pf g a := by
  induction hg with
  | succeed => intro a; simp only [start]
  | fail => intro a; simp only [start]
  | atom f => intro a; simp only [start]
  | conjD _ _ _ _ => intro a; simp only [start]
  | altD _ _ i1 i2 => intro a; simp only [start, i1 a, i2 a]
  | fresh _ _ => intro a; simp only [start]
  | @call c hc =>
    intro a
    simp only [start, ← hD c hc]
    exact h0 _ _ (hcl c a hc)

theorem solveAt_congrD (pf : Nat) : ∀ (n : Nat) (g : G) (a : State), OnlyD g → solveAt D pf n g a = solveAt D' pf n g a
  | 0, _, _, _ => rfl
  | n + 1, _, a, hg => start_congrD hD hcl pf (fun g a hg => solveAt_congrD pf n g a hg) hg a

theorem evalRef_congrD : ∀ (n : Nat) (g : G) (a : State), OnlyD g → evalRef D n g a = evalRef D' n g a
  | 0, _, _, _ => rfl
  | n + 1, _, a, hg => by
    cases hg with
    | succeed => rfl
    | fail => rfl
    | atom f => rfl
    | conjD h1 h2 =>
      have e2 : evalRef D n _ = evalRef D' n _ := funext fun x => evalRef_congrD n _ x h2
      simp only [evalRef, evalRef_congrD n _ a h1, e2]
    | altD h1 h2 => simp only [evalRef, evalRef_congrD n _ a h1, evalRef_congrD n _ a h2]
    | fresh h1 => exact evalRef_congrD n _ a h1
    | @call c hc =>
      show evalRef D n (D c a).2 (D c a).1 = evalRef D' n (D' c a).2 (D' c a).1
      rw [← hD c hc]
      exact evalRef_congrD n _ _ (hcl c a hc)

end Tables

theorem solveAt_eqD (pf : Nat) (n : Nat) (g : G) (a : State) (hg : OnlyD g) :
    solveAt (defs ord) pf n g a = solveAt (defsD ord) pf n g a :=
  solveAt_congrD (fun _ hc => (defsD_eq hc).symm) defs_onlyD pf n g a hg

/-- Prolog order on the depth-first fragment of the model's own relation table: whenever the reference semantics
    terminates with the list `xs`, the engine delivers exactly `xs`, in that order, and stops -/
theorem dfs_exact (pf M n : Nat) {g : G} (hg : OnlyD g) (a : State) (xs : List State)
    (h : evalRef (defs ord) n g a = some xs) :
    ∃ k, drainF (solveAt (defs ord) pf (M + 1)) k (solveAt (defs ord) pf (M + 1) g a) = some xs := by
  rw [evalRef_congrD (fun _ hc => (defsD_eq hc).symm) defs_onlyD n g a hg] at h
  obtain ⟨k, hk⟩ := ref_dfs_drain (defsD ord) pf M dfsDefs_D n g a xs (onlyD_dfs hg) h
  refine ⟨k, ?_⟩
  rw [drainF_eqD (top' := solveAt (defsD ord) pf (M + 1)) (fun g a hg => solveAt_eqD pf (M + 1) g a hg)
    (fun g a hg => solveAt_onlyD pf (M + 1) g a hg) k _ (solveAt_onlyD pf (M + 1) g a hg), solveAt_eqD pf (M + 1) g a hg]
  exact hk

end
end Pv
