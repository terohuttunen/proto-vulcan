/-
  Results about `unifyF` (Model/Unify.lean) on solved-form substitutions.  `unifyF_step` reads one call off
  the `match`; `unifyF_answers` is the one induction over the fuel: a finished run has either made a chain of
  bindings (`Chain`) whose equations say the same as the question asked, or there is no unifier.  Soundness,
  most generality, completeness of failure, the extension facts and termination then follow from facts
  about chains.
-/
import PvModel.Model.Unify

namespace Pv
open Term

theorem apply_apply (β σ : Subst) (s : Term) :
    apply β (apply σ s) = apply (fun y => apply β (σ y)) s := by
  induction s with
  | cons a b iha ihb => simp only [apply, iha, ihb]
  | comp g a ih => simp only [apply, ih]
  | _ => rfl

theorem apply_eq_iff {f g : Subst} {t : Term} :
    apply f t = apply g t ↔ ∀ y ∈ t.vars, f y = g y := by
  induction t with
  | var x => simp only [apply, vars, List.mem_singleton, forall_eq]
  | cons a b iha ihb =>
    simp only [apply, vars, Term.cons.injEq, iha, ihb, List.mem_append, or_imp, forall_and]
  | comp g a ih => simp only [apply, vars, Term.comp.injEq, true_and, ih]
  | _ => simp only [apply, vars, List.not_mem_nil, false_imp_iff, implies_true]

theorem apply_subst_id (t : Term) : apply Subst.id t = t := by
  induction t with
  | cons a b iha ihb => simp only [apply, iha, ihb]
  | comp g a ih => simp only [apply, ih]
  | _ => rfl

theorem apply_eq_self_iff {f : Subst} {t : Term} :
    apply f t = t ↔ ∀ y ∈ t.vars, f y = .var y := by
  have h := apply_eq_iff (f := f) (g := Subst.id) (t := t)
  rwa [apply_subst_id] at h

theorem mem_vars_apply {σ : Subst} {y : Nat} {t : Term} :
    y ∈ (apply σ t).vars ↔ ∃ z ∈ t.vars, y ∈ (σ z).vars := by
  induction t with
  | var x => simp only [apply, vars, List.mem_singleton, exists_eq_left]
  | cons a b iha ihb =>
    simp only [apply, vars, List.mem_append, iha, ihb, or_and_right, exists_or]
  | comp g a ih => simpa only [apply, vars] using ih
  | _ => simp only [apply, vars, List.not_mem_nil, false_and, exists_false]

theorem apply_ofList (γ : Subst) : ∀ l : List Term, apply γ (Term.ofList l) = Term.ofList (l.map (apply γ))
  | [] => rfl
  | e :: l => by simp [Term.ofList, apply, apply_ofList γ l]

theorem ofList_inj : ∀ {a b : List Term}, Term.ofList a = Term.ofList b → a = b
  | [], [], _ => rfl
  | [], _ :: _, h => nomatch h
  | _ :: _, [], h => nomatch h
  | x :: a, y :: b, h => by
    simp only [Term.ofList, Term.cons.injEq] at h
    rw [h.1, ofList_inj h.2]

theorem occurs_iff {x : Nat} {t : Term} : occurs x t = true ↔ x ∈ t.vars := by
  induction t with
  | var y => simp only [occurs, vars, beq_iff_eq, List.mem_singleton]
  | cons a b iha ihb => simp only [occurs, vars, Bool.or_eq_true, List.mem_append, iha, ihb]
  | comp g a ih => simpa only [occurs, vars] using ih
  | _ => simp only [occurs, vars, List.not_mem_nil, Bool.false_eq_true]

theorem not_mem_vars {x : Nat} {t : Term} (h : occurs x t = false) : x ∉ t.vars := fun m => by
  rw [occurs_iff.2 m] at h; cases h

theorem apply_bindS (x t σ) (s : Term) : apply (bindS x t σ) s = apply (sub1 x t) (apply σ s) :=
  (apply_apply (sub1 x t) σ s).symm

theorem bindS_self {σ : Subst} {x : Nat} {t : Term} (hx : σ x = .var x) : bindS x t σ x = t := by
  show apply (sub1 x t) (σ x) = t
  rw [hx]; exact if_pos rfl

theorem apply_sub1_noocc {x t} {s : Term} (h : occurs x s = false) : apply (sub1 x t) s = s :=
  apply_eq_self_iff.2 fun y hy =>
    show (if y = x then t else .var y) = .var y from if_neg fun (e : y = x) => not_mem_vars h (e ▸ hy)

theorem apply_sub1_absorb {θ : Subst} {x : Nat} {t : Term} (h : θ x = apply θ t) (s : Term) :
    apply θ (apply (sub1 x t) s) = apply θ s :=
  (apply_apply θ (sub1 x t) s).trans <| apply_eq_iff.2 fun y _ => by
    show apply θ (if y = x then t else .var y) = θ y
    split
    · next e => rw [e, h]
    · rfl

theorem apply_idem {σ : Subst} (hs : Solved σ) (s : Term) : apply σ (apply σ s) = apply σ s :=
  (apply_apply σ σ s).trans (apply_eq_iff.2 fun y _ => hs y)

theorem apply_apply_solved {σ} (h : Solved σ) (s : Term) : apply σ (apply σ s) = apply σ s :=
  apply_idem h s

theorem walk_eq_apply_top {σ} (h : Solved σ) (u : Term) : apply σ (walk σ u) = apply σ u := by
  cases u with
  | var x => exact h x
  | _ => rfl

theorem Ext.refl (σ : Subst) (h : Solved σ) : Ext σ σ := apply_idem h
theorem Ext.trans {a b c : Subst} (h1 : Ext a b) (h2 : Ext b c) : Ext a c := fun s => by
  rw [← h2 (apply a s), h1 s, h2 s]

theorem bind_ok {σ : Subst} {x : Nat} {t : Term} (hs : Solved σ) (hx : σ x = .var x)
    (ht : apply σ t = t) (ho : occurs x t = false) :
    Solved (bindS x t σ) ∧ Ext σ (bindS x t σ) ∧ apply (bindS x t σ) (.var x) = apply (bindS x t σ) t := by
  have bt : apply (bindS x t σ) t = t := by rw [apply_bindS, ht, apply_sub1_noocc ho]
  have bx : bindS x t σ x = apply (bindS x t σ) t := (bindS_self hx).trans bt.symm
  refine ⟨fun y => ?_, fun s => ?_, bx⟩
  · show apply (bindS x t σ) (apply (sub1 x t) (σ y)) = apply (sub1 x t) (σ y)
    rw [apply_sub1_absorb bx, apply_bindS, hs y]
  · rw [apply_bindS, apply_bindS, apply_idem hs]

theorem walk_normal {σ} (h : Solved σ) (u : Term) (x : Nat) (hw : walk σ u = .var x) : σ x = .var x := by
  cases u with
  | var y =>
    have := h y
    rwa [show σ y = .var x from hw] at this
  | _ => cases hw

theorem apply_walk_var {σ : Subst} (hs : Solved σ) {u : Term} {x : Nat} (hu : walk σ u = .var x) :
    apply σ u = .var x := by
  rw [← walk_eq_apply_top hs u, hu]; exact walk_normal hs u x hu

theorem apply_walk_cons {σ : Subst} (hs : Solved σ) {u h t : Term} (hu : walk σ u = .cons h t) :
    apply σ u = .cons (apply σ h) (apply σ t) := by
  rw [← walk_eq_apply_top hs u, hu]; rfl

theorem apply_walk_comp {σ : Subst} (hs : Solved σ) {u a : Term} {g : Nat} (hu : walk σ u = .comp g a) :
    apply σ u = .comp g (apply σ a) := by
  rw [← walk_eq_apply_top hs u, hu]; rfl

def ctorId : Term → Nat
  | .var _ => 0 | .val _ => 1 | .nil => 2 | .cons _ _ => 3 | .comp _ _ => 4

/-- one call of `unifyF` with fuel `n + 1` that returned `r`: the arm taken and what it did -/
inductive Step (n : Nat) (σ : Subst) (e : Ext1) (u v : Term) : Option (Subst × Ext1) → Prop
  | same (x : Nat) : walk σ u = .var x → walk σ v = .var x → Step n σ e u v (some (σ, e))
  | bindL (x : Nat) : walk σ u = .var x → walk σ v ≠ .var x → occurs x (apply σ v) = false →
      Step n σ e u v (some (bindS x (apply σ v) σ, (x, apply σ v) :: e))
  | occL (x : Nat) : walk σ u = .var x → (walk σ v).isVar = false → occurs x (apply σ v) = true →
      Step n σ e u v none
  | bindR (y : Nat) : walk σ v = .var y → (walk σ u).isVar = false → occurs y (apply σ u) = false →
      Step n σ e u v (some (bindS y (apply σ u) σ, (y, apply σ u) :: e))
  | occR (y : Nat) : walk σ v = .var y → (walk σ u).isVar = false → occurs y (apply σ u) = true →
      Step n σ e u v none
  | valEq (a : Val) : walk σ u = .val a → walk σ v = .val a → Step n σ e u v (some (σ, e))
  | valNe (a b : Val) : walk σ u = .val a → walk σ v = .val b → a ≠ b → Step n σ e u v none
  | nilnil : walk σ u = .nil → walk σ v = .nil → Step n σ e u v (some (σ, e))
  | consFail (h1 t1 h2 t2 : Term) : walk σ u = .cons h1 t1 → walk σ v = .cons h2 t2 →
      unifyF n σ e h1 h2 = some none → Step n σ e u v none
  | consOk (h1 t1 h2 t2 : Term) (σ1 : Subst) (e1 : Ext1) (r) :
      walk σ u = .cons h1 t1 → walk σ v = .cons h2 t2 →
      unifyF n σ e h1 h2 = some (some (σ1, e1)) → unifyF n σ1 e1 t1 t2 = some r → Step n σ e u v r
  | comp (g : Nat) (a1 a2 : Term) (r) : walk σ u = .comp g a1 → walk σ v = .comp g a2 →
      unifyF n σ e a1 a2 = some r → Step n σ e u v r
  | compNe (g1 g2 : Nat) (a1 a2 : Term) : walk σ u = .comp g1 a1 → walk σ v = .comp g2 a2 →
      g1 ≠ g2 → Step n σ e u v none
  | clash : (walk σ u).isVar = false → (walk σ v).isVar = false →
      ctorId (walk σ u) ≠ ctorId (walk σ v) → Step n σ e u v none

theorem isVar_of_ne_var {t : Term} (h : ∀ y, t = .var y → False) : t.isVar = false := by
  cases t with
  | var y => exact (h y rfl).elim
  | _ => rfl

theorem ctorId_eq {a b : Term} (h : ctorId a = ctorId b) :
    (∃ x, a = .var x) ∨ (∃ x y, a = .val x ∧ b = .val y) ∨ (a = .nil ∧ b = .nil) ∨
    (∃ h1 t1 h2 t2, a = .cons h1 t1 ∧ b = .cons h2 t2) ∨
    ∃ g1 a1 g2 a2, a = .comp g1 a1 ∧ b = .comp g2 a2 := by
  cases a <;> cases b <;> cases h
  · exact .inl ⟨_, rfl⟩
  · exact .inr (.inl ⟨_, _, rfl, rfl⟩)
  · exact .inr (.inr (.inl ⟨rfl, rfl⟩))
  · exact .inr (.inr (.inr (.inl ⟨_, _, _, _, rfl, rfl⟩)))
  · exact .inr (.inr (.inr (.inr ⟨_, _, _, _, rfl, rfl⟩)))

theorem unifyF_step {n σ e u v r} (hs : Solved σ) (h : unifyF (n + 1) σ e u v = some r) :
    Step n σ e u v r := by
  rw [unifyF] at h
  split at h
  · next x y hu hv =>
    split at h
    · next hxy => subst hxy; cases h; exact .same _ hu hv
    · next hne =>
      cases h
      rw [← apply_walk_var hs hv]
      refine .bindL x hu (by rw [hv]; exact fun hh => hne (Term.var.inj hh).symm) ?_
      rw [apply_walk_var hs hv]
      exact Bool.eq_false_iff.2 fun ho => hne (List.mem_singleton.1 (occurs_iff.1 ho))
  · next x hu hnv =>
    dsimp only at h
    rw [walk_eq_apply_top hs v] at h
    split at h <;> cases h
    · exact .occL _ hu (isVar_of_ne_var hnv) ‹_›
    · exact .bindL _ hu (hnv x) (Bool.eq_false_iff.2 ‹_›)
  · next y hv hnu =>
    dsimp only at h
    rw [walk_eq_apply_top hs u] at h
    split at h <;> cases h
    · exact .occR _ hv (isVar_of_ne_var hnu) ‹_›
    · exact .bindR _ hv (isVar_of_ne_var hnu) (Bool.eq_false_iff.2 ‹_›)
  · next a b hu hv =>
    split at h <;> cases h
    · next hab => subst hab; exact .valEq _ hu hv
    · exact .valNe _ _ hu hv ‹_›
  · next hu hv => cases h; exact .nilnil hu hv
  · next h1 t1 h2 t2 hu hv =>
    split at h
    · next σ1 e1 hh => exact .consOk _ _ _ _ _ _ _ hu hv hh h
    · next hr =>
      cases r with
      | none => exact .consFail _ _ _ _ hu hv h
      | some p => exact absurd h (hr p.1 p.2)
  · next g1 a1 g2 a2 hu hv =>
    split at h
    · next hg => subst hg; exact .comp _ _ _ _ hu hv h
    · cases h; exact .compNe _ _ _ _ hu hv ‹_›
  · next hnu hnv _ hval hnil hcons hcomp =>
    cases h
    refine .clash (isVar_of_ne_var hnu) (isVar_of_ne_var hnv) fun hid => ?_
    rcases ctorId_eq hid with ⟨x, hx⟩ | ⟨x, y, hx, hy⟩ | ⟨hx, hy⟩ | ⟨a, b, c, d, hx, hy⟩ | ⟨a, b, c, d, hx, hy⟩
    · exact hnu _ hx
    · exact hval _ _ hx hy
    · exact hnil hx hy
    · exact hcons _ _ _ _ hx hy
    · exact hcomp _ _ _ _ hx hy

theorem unifyF_cons {n σ e u v h1 t1 h2 t2} (hu : walk σ u = .cons h1 t1) (hv : walk σ v = .cons h2 t2) :
    unifyF (n + 1) σ e u v =
      match unifyF n σ e h1 h2 with
      | some (some (σ1, e1)) => unifyF n σ1 e1 t1 t2
      | r => r := by
  simp only [unifyF, hu, hv]
  rfl

theorem unifyF_comp {n σ e u v g1 a1 g2 a2} (hu : walk σ u = .comp g1 a1) (hv : walk σ v = .comp g2 a2) :
    unifyF (n + 1) σ e u v = if g1 = g2 then unifyF n σ e a1 a2 else some none := by
  simp only [unifyF, hu, hv]

theorem unifyF_leaf {σ e u v} (n m : Nat)
    (hc : ¬ ∃ h1 t1 h2 t2, walk σ u = .cons h1 t1 ∧ walk σ v = .cons h2 t2)
    (hp : ¬ ∃ g a1 a2, walk σ u = .comp g a1 ∧ walk σ v = .comp g a2) :
    unifyF (n + 1) σ e u v = unifyF (m + 1) σ e u v ∧ ∃ r, unifyF (n + 1) σ e u v = some r := by
  rw [unifyF, unifyF]
  split
  · split <;> exact ⟨rfl, _, rfl⟩
  · dsimp only; split <;> exact ⟨rfl, _, rfl⟩
  · dsimp only; split <;> exact ⟨rfl, _, rfl⟩
  · split <;> exact ⟨rfl, _, rfl⟩
  · exact ⟨rfl, _, rfl⟩
  · next hu hv => exact absurd ⟨_, _, _, _, hu, hv⟩ hc
  · next hu hv =>
    split
    · next hg => subst hg; exact absurd ⟨_, _, _, hu, hv⟩ hp
    · exact ⟨rfl, _, rfl⟩
  · exact ⟨rfl, _, rfl⟩

theorem unifyF_shape (σ : Subst) (e : Ext1) (u v : Term) :
    (∃ h1 t1 h2 t2, walk σ u = .cons h1 t1 ∧ walk σ v = .cons h2 t2) ∨
    (∃ g a1 a2, walk σ u = .comp g a1 ∧ walk σ v = .comp g a2) ∨
    ∃ r, ∀ n, unifyF (n + 1) σ e u v = some r := by
  by_cases hc : ∃ h1 t1 h2 t2, walk σ u = .cons h1 t1 ∧ walk σ v = .cons h2 t2
  · exact .inl hc
  by_cases hp : ∃ g a1 a2, walk σ u = .comp g a1 ∧ walk σ v = .comp g a2
  · exact .inr (.inl hp)
  obtain ⟨r, hr⟩ := (unifyF_leaf (e := e) 0 0 hc hp).2
  exact .inr (.inr ⟨r, fun n => (unifyF_leaf n 0 hc hp).1.trans hr⟩)

theorem unifyF_fuel_mono (n k : Nat) (σ : Subst) (e : Ext1) (u v : Term) (r : Option (Subst × Ext1))
    (h : unifyF n σ e u v = some r) : unifyF (n + k) σ e u v = some r := by
  induction n generalizing σ e u v r with
  | zero => simp [unifyF] at h
  | succ n ih =>
    rw [Nat.add_right_comm]
    rcases unifyF_shape σ e u v with ⟨h1, t1, h2, t2, hu, hv⟩ | ⟨g, a1, a2, hu, hv⟩ | ⟨r', hr⟩
    · rw [unifyF_cons hu hv] at h ⊢
      cases hh : unifyF n σ e h1 h2 with
      | none => rw [hh] at h; cases h
      | some r1 =>
        rw [hh] at h
        rw [ih _ _ _ _ _ hh]
        cases r1 with
        | none => exact h
        | some p => exact ih _ _ _ _ _ h
    · rw [unifyF_comp hu hv, if_pos rfl] at h ⊢
      exact ih _ _ _ _ _ h
    · rw [hr] at h ⊢
      exact h

theorem ext_walk {σ θ : Subst} (_ : Solved σ) (hx : Ext σ θ) (u : Term) :
    apply θ (walk σ u) = apply θ u := by
  cases u with
  | var x => exact hx (.var x)
  | _ => rfl

theorem isVar_apply {σ : Subst} {t : Term} (h : t.isVar = false) : (apply σ t).isVar = false := by
  cases t with
  | var x => cases h
  | _ => rfl

theorem ctorId_apply {σ : Subst} {t : Term} (h : t.isVar = false) : ctorId (apply σ t) = ctorId t := by
  cases t with
  | var x => cases h
  | _ => rfl

theorem ext_bind {σ θ : Subst} {x : Nat} {t : Term} (hx : Ext σ θ) (h : θ x = apply θ t) :
    Ext (bindS x t σ) θ := by
  intro s; rw [apply_bindS, apply_sub1_absorb h, hx]

theorem size_lt_of_mem_vars {θ : Subst} {x : Nat} {t : Term} (h : x ∈ t.vars) :
    t = .var x ∨ size (θ x) < size (apply θ t) := by
  have le : ∀ {s : Term}, s = .var x ∨ size (θ x) < size (apply θ s) → size (θ x) ≤ size (apply θ s) :=
    fun h => h.elim (fun e => by rw [e]; exact Nat.le_refl _) Nat.le_of_lt
  induction t with
  | var y => exact .inl (congrArg Term.var (List.mem_singleton.1 h).symm)
  | cons a b iha ihb =>
    right
    simp only [apply, size]
    rcases List.mem_append.1 h with h | h
    · have := le (iha h); omega
    · have := le (ihb h); omega
  | comp g a ih =>
    right
    simp only [apply, size]
    have := le (ih h); omega
  | _ => cases h

theorem occurs_no_unifier {θ : Subst} {x : Nat} {t : Term} (ho : occurs x t = true)
    (hv : t.isVar = false) : θ x ≠ apply θ t := fun h => by
  rcases size_lt_of_mem_vars (θ := θ) (occurs_iff.1 ho) with rfl | hlt
  · cases hv
  · rw [h] at hlt; exact Nat.lt_irrefl _ hlt

theorem bind_unbound {σ : Subst} {x : Nat} {t : Term} (_ : Solved σ) (ht : apply σ t = t)
    (y : Nat) (h : bindS x t σ y = .var y) : σ y = .var y := by
  have h' : apply (sub1 x t) (σ y) = .var y := h
  cases hσ : σ y with
  | var z =>
    rw [hσ] at h'
    by_cases e : z = x
    · -- `y` is bound to `x`, so `t` is `var y`, and `t` is normal
      have ht' : t = .var y := (if_pos e).symm.trans h'
      rw [ht'] at ht
      exact hσ.symm.trans ht
    · exact (if_neg e).symm.trans h'
  | _ => rw [hσ] at h'; cases h'

theorem ext_bindS_iff {σ θ : Subst} {x : Nat} {t : Term} (hx : σ x = .var x) (hxt : Ext σ θ) :
    Ext (bindS x t σ) θ ↔ θ x = apply θ t := by
  refine ⟨fun h => ?_, ext_bind hxt⟩
  have hb := h (.var x)
  rw [show apply (bindS x t σ) (.var x) = t from bindS_self hx] at hb
  exact hb.symm

/-- the pairs of an extension, read as equations `var x = t`, hold under `θ` -/
def AllEq (θ : Subst) (δ : Ext1) : Prop := ∀ p ∈ δ, apply θ (.var p.1) = apply θ p.2

theorem allEq_cons {θ : Subst} {x : Nat} {t : Term} {δ : Ext1} :
    AllEq θ ((x, t) :: δ) ↔ θ x = apply θ t ∧ AllEq θ δ := List.forall_mem_cons

theorem allEq_singleton {θ : Subst} {x : Nat} {t : Term} : AllEq θ [(x, t)] ↔ θ x = apply θ t :=
  List.forall_mem_singleton

theorem allEq_append {θ : Subst} {δ2 δ1 : Ext1} : AllEq θ (δ2 ++ δ1) ↔ AllEq θ δ2 ∧ AllEq θ δ1 :=
  List.forall_mem_append

theorem allEq_perm {θ : Subst} {δ δ' : Ext1} (h : δ.Perm δ') : AllEq θ δ ↔ AllEq θ δ' :=
  ⟨fun a q hq => a q (h.mem_iff.mpr hq), fun a q hq => a q (h.mem_iff.mp hq)⟩

theorem bind_ext_iff {σ θ : Subst} {x : Nat} {t : Term} (hx : σ x = .var x)
    (hxt : Ext σ θ) : Ext (bindS x t σ) θ ↔ AllEq θ [(x, t)] :=
  (ext_bindS_iff hx hxt).trans allEq_singleton.symm

/-- the substitution reached from `σ` by the bindings `δ`, newest first -/
def bindAll : Ext1 → Subst → Subst
  | [], σ => σ
  | (x, t) :: δ, σ => bindS x t (bindAll δ σ)

theorem bindAll_append (δ2 δ1 : Ext1) (σ : Subst) :
    bindAll (δ2 ++ δ1) σ = bindAll δ2 (bindAll δ1 σ) := by
  induction δ2 with
  | nil => rfl
  | cons p δ2 ih => exact congrArg (bindS p.1 p.2) ih

/-- `δ` (newest first) is a run of bindings as `unifyF` makes them, starting from the solved form `σ`: each
    binds a variable unbound so far to a term that is normal so far and does not contain the variable -/
inductive Chain (σ : Subst) : Ext1 → Prop
  | nil : Solved σ → Chain σ []
  | cons {x t δ} : Chain σ δ → bindAll δ σ x = .var x → apply (bindAll δ σ) t = t →
      occurs x t = false → Chain σ ((x, t) :: δ)

namespace Chain
variable {σ : Subst} {δ : Ext1}

theorem solved (h : Chain σ δ) : Solved (bindAll δ σ) := by
  induction h with
  | nil hs => exact hs
  | cons _ hx ht ho ih => exact (bind_ok ih hx ht ho).1

theorem ext (h : Chain σ δ) : Ext σ (bindAll δ σ) := by
  induction h with
  | nil hs => exact Ext.refl σ hs
  | cons hc hx ht ho ih => exact Ext.trans ih (bind_ok hc.solved hx ht ho).2.1

theorem unbound (h : Chain σ δ) {y : Nat} (hy : bindAll δ σ y = .var y) : σ y = .var y := by
  induction h with
  | nil _ => exact hy
  | cons hc _ ht _ ih => exact ih (bind_unbound hc.solved ht y hy)

theorem ext_iff (h : Chain σ δ) {θ : Subst} (hθ : Ext σ θ) :
    Ext (bindAll δ σ) θ ↔ AllEq θ δ := by
  induction h with
  | nil _ => exact ⟨fun _ _ hp => (nomatch hp), fun _ => hθ⟩
  | cons hc hx ht ho ih =>
    refine Iff.trans ?_ allEq_cons.symm
    constructor
    · intro h
      have h1 := Ext.trans (bind_ok hc.solved hx ht ho).2.1 h
      exact ⟨(ext_bindS_iff hx h1).1 h, ih.1 h1⟩
    · exact fun h => ext_bind (ih.2 h.2) h.1

theorem append {δ1 δ2 : Ext1} (h1 : Chain σ δ1) (h2 : Chain (bindAll δ1 σ) δ2) :
    Chain σ (δ2 ++ δ1) := by
  induction h2 with
  | nil _ => exact h1
  | cons _ hx ht ho ih =>
    rw [← bindAll_append] at hx ht
    exact .cons ih hx ht ho

theorem bound_iff (h : Chain σ δ) {y : Nat} :
    (σ y = .var y ∧ bindAll δ σ y ≠ .var y) ↔ y ∈ δ.map (·.1) := by
  induction h with
  | nil _ => exact ⟨fun h => absurd h.1 h.2, nofun⟩
  | @cons x t δ hc hx ht ho ih =>
    rw [List.map_cons, List.mem_cons, ← ih]
    constructor
    · intro ⟨h0, h2⟩
      by_cases e : y = x
      · exact .inl e
      · refine .inr ⟨h0, fun h1 => h2 ?_⟩
        show apply (sub1 x t) (bindAll δ σ y) = .var y
        rw [h1]
        exact if_neg e
    · rintro (rfl | ⟨h0, h1⟩)
      · refine ⟨hc.unbound hx, fun e => ?_⟩
        rw [show bindAll ((y, t) :: δ) σ y = t from bindS_self hx] at e
        rw [e, occurs_iff.2 (List.mem_singleton_self y)] at ho
        cases ho
      · exact ⟨h0, fun e => h1 (bind_unbound hc.solved ht _ e)⟩

theorem nodup (h : Chain σ δ) : (δ.map (·.1)).Nodup := by
  induction h with
  | nil _ => exact List.nodup_nil
  | cons hc hx _ _ ih => exact List.nodup_cons.2 ⟨fun hm => (hc.bound_iff.2 hm).2 hx, ih⟩

end Chain

theorem vars_bindAll {V : Nat → Prop} {δ : Ext1} {σ : Subst} (hδ : ∀ p ∈ δ, ∀ y ∈ p.2.vars, V y)
    {s : Term} (hs : ∀ y ∈ (apply σ s).vars, V y) : ∀ y ∈ (apply (bindAll δ σ) s).vars, V y := by
  induction δ with
  | nil => exact hs
  | cons p δ ih =>
    intro y hy
    rw [show bindAll (p :: δ) σ = bindS p.1 p.2 (bindAll δ σ) from rfl, apply_bindS] at hy
    obtain ⟨z, hz, hyz⟩ := mem_vars_apply.1 hy
    unfold sub1 at hyz
    split at hyz
    · exact hδ p (List.mem_cons_self ..) y hyz
    · rw [List.mem_singleton.1 hyz]
      exact ih (fun q hq => hδ q (List.mem_cons_of_mem _ hq)) z hz

/-- the bindings `δ` with which a run from `σ` and `e` to `σ'` and `e'` answered `P` -/
structure Answers.Ok (σ : Subst) (e : Ext1) (V : Nat → Prop) (P : Subst → Prop) (σ' : Subst) (e' δ : Ext1) :
    Prop where
  ext_eq : e' = δ ++ e
  chain : Chain σ δ
  subst_eq : σ' = bindAll δ σ
  vars : ∀ p ∈ δ, V p.1 ∧ ∀ y ∈ p.2.vars, V y
  iff : ∀ θ, Ext σ θ → (P θ ↔ AllEq θ δ)

/-- What a finished run `r` of unification from `σ` and `e` says about a question `P` put to the instances
    of `σ`, the terms asked about having their variables in `V`: success means it made a run of bindings
    over `V` whose equations are equivalent to `P`, failure that no instance satisfies `P`. -/
def Answers (σ : Subst) (e : Ext1) (V : Nat → Prop) (P : Subst → Prop) : Option (Subst × Ext1) → Prop
  | some (σ', e') => ∃ δ : Ext1, Answers.Ok σ e V P σ' e' δ
  | none => ∀ θ, Ext σ θ → ¬ P θ

namespace Answers
variable {σ : Subst} {e : Ext1} {V : Nat → Prop} {P Q : Subst → Prop} {r : Option (Subst × Ext1)}

theorem congr (h : Answers σ e V P r) (hpq : ∀ θ, Ext σ θ → (P θ ↔ Q θ)) : Answers σ e V Q r := by
  cases r with
  | none => exact fun θ hθ hq => h θ hθ ((hpq θ hθ).2 hq)
  | some p =>
    obtain ⟨δ, a⟩ := h
    exact ⟨δ, { a with iff := fun θ hθ => (hpq θ hθ).symm.trans (a.iff θ hθ) }⟩

theorem triv (hs : Solved σ) (h : ∀ θ, Ext σ θ → P θ) : Answers σ e V P (some (σ, e)) :=
  ⟨[], { ext_eq := rfl, chain := .nil hs, subst_eq := rfl, vars := nofun
         iff := fun θ hθ => ⟨fun _ => nofun, fun _ => h θ hθ⟩ }⟩

theorem bind {x : Nat} {t : Term} (hs : Solved σ) (hx : σ x = .var x) (ht : apply σ t = t)
    (ho : occurs x t = false) (hVx : V x) (hVt : ∀ y ∈ t.vars, V y) :
    Answers σ e V (fun θ => apply θ (.var x) = apply θ t) (some (bindS x t σ, (x, t) :: e)) :=
  ⟨[(x, t)], { ext_eq := rfl, chain := .cons (.nil hs) hx ht ho, subst_eq := rfl
               vars := List.forall_mem_singleton.2 ⟨hVx, hVt⟩, iff := fun _ _ => allEq_singleton.symm }⟩

theorem seq {σ1 : Subst} {e1 : Ext1} (h1 : Answers σ e V P (some (σ1, e1))) (h2 : Answers σ1 e1 V Q r) :
    Answers σ e V (fun θ => P θ ∧ Q θ) r := by
  obtain ⟨δ1, a1⟩ := h1
  obtain rfl := a1.subst_eq
  obtain rfl := a1.ext_eq
  have hx1 : ∀ θ, Ext σ θ → P θ → Ext (bindAll δ1 σ) θ :=
    fun θ hθ hp => (a1.chain.ext_iff hθ).2 ((a1.iff θ hθ).1 hp)
  cases r with
  | none => exact fun θ hθ hpq => h2 θ (hx1 θ hθ hpq.1) hpq.2
  | some p =>
    obtain ⟨δ2, a2⟩ := h2
    refine ⟨δ2 ++ δ1, { ext_eq := by rw [a2.ext_eq, List.append_assoc], chain := a1.chain.append a2.chain
                        subst_eq := by rw [a2.subst_eq, bindAll_append]
                        vars := List.forall_mem_append.2 ⟨a2.vars, a1.vars⟩, iff := fun θ hθ => ?_ }⟩
    rw [allEq_append]
    exact ⟨fun ⟨hp, hq⟩ => ⟨(a2.iff θ (hx1 θ hθ hp)).1 hq, (a1.iff θ hθ).1 hp⟩,
      fun ⟨h2, h1⟩ => have hp := (a1.iff θ hθ).2 h1; ⟨hp, (a2.iff θ (hx1 θ hθ hp)).2 h2⟩⟩

theorem solved {σ' : Subst} {e' : Ext1} (h : Answers σ e V P (some (σ', e'))) : Solved σ' := by
  obtain ⟨δ, a⟩ := h
  exact a.subst_eq ▸ a.chain.solved

theorem vars_apply {σ' : Subst} {e' : Ext1} (h : Answers σ e V P (some (σ', e'))) {s : Term}
    (hs : ∀ y ∈ (apply σ s).vars, V y) : ∀ y ∈ (apply σ' s).vars, V y := by
  obtain ⟨δ, a⟩ := h
  rw [a.subst_eq]
  exact vars_bindAll (fun p hp => (a.vars p hp).2) hs

/-- the instances of the resulting substitution are the instances of `σ` that satisfy `P` -/
theorem ext_iff {σ' : Subst} {e' : Ext1} (h : Answers σ e V P (some (σ', e'))) {θ : Subst} (hθ : Ext σ θ) :
    Ext σ' θ ↔ P θ := by
  obtain ⟨δ, a⟩ := h
  rw [a.subst_eq]
  exact (a.chain.ext_iff hθ).trans (a.iff θ hθ).symm

/-- a run that started with nothing reported reports exactly the bindings it made -/
theorem of_nil {σ' : Subst} {e' : Ext1} (h : Answers σ [] V P (some (σ', e'))) :
    σ' = bindAll e' σ ∧ Answers.Ok σ [] V P σ' e' e' := by
  obtain ⟨δ, a⟩ := h
  obtain rfl : e' = δ := a.ext_eq.trans (List.append_nil δ)
  exact ⟨a.subst_eq, a⟩

end Answers

theorem unifyF_answers (V : Nat → Prop) : ∀ (n : Nat) (σ : Subst) (e : Ext1) (u v : Term)
    (r : Option (Subst × Ext1)), Solved σ → (∀ y ∈ (apply σ u).vars, V y) → (∀ y ∈ (apply σ v).vars, V y) →
    unifyF n σ e u v = some r → Answers σ e V (fun θ => Unifies θ u v) r := by
  intro n
  induction n with
  | zero => intro σ e u v r _ _ _ h; simp [unifyF] at h
  | succ n ih =>
    intro σ e u v r hs hVu hVv h
    -- under an instance of σ the question is the same about the walks
    refine Answers.congr (P := fun θ => apply θ (walk σ u) = apply θ (walk σ v)) ?_ fun θ hθ => by
      rw [ext_walk hs hθ, ext_walk hs hθ]; exact Iff.rfl
    cases unifyF_step hs h with
    | same _ hu hv | valEq _ hu hv | nilnil hu hv =>
      rw [hu, hv]
      exact .triv hs fun _ _ => rfl
    | bindL x hu hv ho =>
      rw [apply_walk_var hs hu] at hVu
      rw [hu]
      refine (Answers.bind hs (walk_normal hs u x hu) (apply_idem hs v) ho
        (hVu x (List.mem_singleton_self x)) hVv).congr fun θ hθ => ?_
      rw [hθ v, ext_walk hs hθ]
    | bindR y hv hu ho =>
      rw [apply_walk_var hs hv] at hVv
      rw [hv]
      refine (Answers.bind hs (walk_normal hs v y hv) (apply_idem hs u) ho
        (hVv y (List.mem_singleton_self y)) hVu).congr fun θ hθ => ?_
      rw [hθ u, ext_walk hs hθ]
      exact eq_comm
    | occL x hu hv ho =>
      rw [hu]
      intro θ hθ hw
      rw [ext_walk hs hθ, ← hθ v] at hw
      refine occurs_no_unifier ho ?_ hw
      rw [← walk_eq_apply_top hs v]
      exact isVar_apply hv
    | occR y hv hu ho =>
      rw [hv]
      intro θ hθ hw
      rw [ext_walk hs hθ, ← hθ u] at hw
      refine occurs_no_unifier ho ?_ hw.symm
      rw [← walk_eq_apply_top hs u]
      exact isVar_apply hu
    | valNe a b hu hv hne =>
      rw [hu, hv]
      exact fun θ _ hw => hne (Term.val.inj hw)
    | compNe g1 g2 a1 a2 hu hv hne =>
      rw [hu, hv]
      exact fun θ _ hw => hne (Term.comp.inj hw).1
    | clash hu hv hne =>
      intro θ _ hw
      have hid := congrArg ctorId hw
      rw [ctorId_apply hu, ctorId_apply hv] at hid
      exact hne hid
    | consFail h1 t1 h2 t2 hu hv hh =>
      rw [apply_walk_cons hs hu] at hVu
      rw [apply_walk_cons hs hv] at hVv
      rw [hu, hv]
      exact fun θ hθ hw => ih _ _ _ _ _ hs (List.forall_mem_append.1 hVu).1 (List.forall_mem_append.1 hVv).1 hh
        θ hθ (Term.cons.inj hw).1
    | consOk h1 t1 h2 t2 σ1 e1 _ hu hv hh ht =>
      rw [apply_walk_cons hs hu] at hVu
      rw [apply_walk_cons hs hv] at hVv
      obtain ⟨hu1, hu2⟩ := List.forall_mem_append.1 hVu
      obtain ⟨hv1, hv2⟩ := List.forall_mem_append.1 hVv
      have a1 := ih _ _ _ _ _ hs hu1 hv1 hh
      rw [hu, hv]
      exact (a1.seq (ih _ _ _ _ _ a1.solved (a1.vars_apply hu2) (a1.vars_apply hv2) ht)).congr
        fun θ _ => (Term.cons.injEq ..).symm ▸ Iff.rfl
    | comp g a1 a2 _ hu hv ha =>
      rw [apply_walk_comp hs hu] at hVu
      rw [apply_walk_comp hs hv] at hVv
      rw [hu, hv]
      exact (ih _ _ _ _ _ hs hVu hVv ha).congr
        fun θ _ => ⟨congrArg (Term.comp g), fun h => (Term.comp.inj h).2⟩

theorem unifyF_chain {n : Nat} {σ : Subst} {e : Ext1} {u v : Term} {r : Option (Subst × Ext1)}
    (hs : Solved σ) (h : unifyF n σ e u v = some r) :
    Answers σ e (fun _ => True) (fun θ => Unifies θ u v) r :=
  unifyF_answers _ n σ e u v r hs (fun _ _ => trivial) (fun _ _ => trivial) h

theorem unifyF_most_general {n : Nat} {σ σ' : Subst} {e e' : Ext1} {u v : Term} (hs : Solved σ)
    (h : unifyF n σ e u v = some (some (σ', e'))) :
    Solved σ' ∧ Ext σ σ' ∧ ∀ θ, Ext σ θ → (Ext σ' θ ↔ Unifies θ u v) := by
  have A := unifyF_chain hs h
  have ⟨δ, a⟩ := A
  exact ⟨A.solved, a.subst_eq ▸ a.chain.ext, fun θ hθ => A.ext_iff hθ⟩

theorem unifyF_sound (n : Nat) (σ σ' : Subst) (e e' : Ext1) (u v : Term) (hs : Solved σ)
    (h : unifyF n σ e u v = some (some (σ', e'))) : Solved σ' ∧ Ext σ σ' ∧ Unifies σ' u v :=
  have ⟨a, b, c⟩ := unifyF_most_general hs h
  ⟨a, b, (c σ' b).1 (Ext.refl σ' a)⟩

theorem unifyF_sound_aux (n : Nat) (σ σ' : Subst) (e e' : Ext1) (u v : Term) (hs : Solved σ)
    (h : unifyF n σ e u v = some (some (σ', e'))) : Solved σ' ∧ Ext σ σ' ∧ Unifies σ' u v :=
  unifyF_sound n σ σ' e e' u v hs h

theorem unifyF_unbound (n : Nat) (σ σ' : Subst) (e e' : Ext1) (u v : Term) (hs : Solved σ)
    (h : unifyF n σ e u v = some (some (σ', e'))) (y : Nat) (hy : σ' y = .var y) : σ y = .var y := by
  obtain ⟨δ, a⟩ := unifyF_chain hs h
  exact a.chain.unbound (a.subst_eq ▸ hy)

theorem unifyF_unbound_aux (n : Nat) (σ σ' : Subst) (e e' : Ext1) (u v : Term) (hs : Solved σ)
    (h : unifyF n σ e u v = some (some (σ', e'))) (y : Nat) (hy : σ' y = .var y) : σ y = .var y :=
  unifyF_unbound n σ σ' e e' u v hs h y hy

theorem solved_id : Solved Subst.id := by
  intro x; simp [Subst.id, apply]

theorem solved_acyclic {σ : Subst} (hs : Solved σ) (x : Nat) :
    σ x = .var x ∨ occurs x (σ x) = false := by
  cases ho : occurs x (σ x) with
  | false => exact .inr rfl
  | true =>
    refine .inl ((size_lt_of_mem_vars (θ := σ) (occurs_iff.1 ho)).resolve_right fun hlt => ?_)
    rw [hs x] at hlt
    exact Nat.lt_irrefl _ hlt

theorem unifyF_mgu (n : Nat) (σ σ' : Subst) (e e' : Ext1) (u v : Term) (hs : Solved σ)
    (h : unifyF n σ e u v = some (some (σ', e'))) :
    ∀ θ : Subst, Ext σ θ → Unifies θ u v → Ext σ' θ :=
  fun θ hθ => ((unifyF_most_general hs h).2.2 θ hθ).2

theorem unifyF_fail (n : Nat) (σ : Subst) (e : Ext1) (u v : Term) (hs : Solved σ)
    (h : unifyF n σ e u v = some none) :
    ¬ ∃ θ : Subst, Ext σ θ ∧ Unifies θ u v :=
  fun ⟨θ, hθ, hun⟩ => unifyF_chain hs h θ hθ hun

theorem unifyF_ext (n : Nat) (σ σ' : Subst) (e e' : Ext1) (u v : Term) (hs : Solved σ)
    (h : unifyF n σ e u v = some (some (σ', e'))) :
    ∃ δ : Ext1, e' = δ ++ e ∧
      (∀ θ : Subst, Ext σ θ → (Ext σ' θ ↔ AllEq θ δ)) ∧
      (∀ p ∈ δ, σ p.1 = .var p.1) ∧
      (δ = [] → σ' = σ) := by
  obtain ⟨δ, a⟩ := unifyF_chain hs h
  rw [a.subst_eq]
  exact ⟨δ, a.ext_eq, fun θ hθ => a.chain.ext_iff hθ,
    fun p hp => (a.chain.bound_iff.2 (List.mem_map_of_mem hp)).1, fun hn => by rw [hn]; rfl⟩

/-- how many variables of `L` are unbound in `σ` -/
def cntU (L : List Nat) (σ : Subst) : Nat := L.countP fun x => σ x = .var x

theorem cntU_le {σ σ' : Subst} (hm : ∀ x, σ' x = .var x → σ x = .var x) (L : List Nat) :
    cntU L σ' ≤ cntU L σ :=
  List.countP_mono_left fun x _ h => decide_eq_true (hm x (of_decide_eq_true h))

theorem cntU_lt {σ σ' : Subst} (hm : ∀ x, σ' x = .var x → σ x = .var x) {x : Nat}
    (hx : σ x = .var x) (hx' : σ' x ≠ .var x) (L : List Nat) (hmem : x ∈ L) : cntU L σ' < cntU L σ := by
  obtain ⟨L1, L2, rfl⟩ := List.append_of_mem hmem
  have h1 := cntU_le hm L1
  have h2 := cntU_le hm L2
  unfold cntU at *
  rw [List.countP_append, List.countP_append,
    List.countP_cons_of_pos (p := fun x => decide (σ x = .var x)) (decide_eq_true hx),
    List.countP_cons_of_neg (p := fun x => decide (σ' x = .var x)) fun h => hx' (of_decide_eq_true h)]
  omega

theorem size_pos (t : Term) : 0 < size t := by
  cases t <;> exact Nat.succ_pos _

theorem size_cons_le {a b : Term} {n : Nat} (h : size (.cons a b) ≤ n + 1) : size a ≤ n ∧ size b ≤ n :=
  have h : size a + size b ≤ n := Nat.le_of_succ_le_succ h
  ⟨Nat.le_trans (Nat.le_add_right _ _) h, Nat.le_trans (Nat.le_add_left _ _) h⟩

/-- The measure: the variables of the two terms lie in `L`; a call that binds something leaves fewer
    variables of `L` unbound, a call that binds nothing hands on parts of `u` under the same `σ`. -/
theorem unifyF_terminates_aux (L : List Nat) : ∀ (k s : Nat) (σ : Subst) (e : Ext1) (u v : Term),
    Solved σ → (∀ y ∈ (apply σ u).vars, y ∈ L) → (∀ y ∈ (apply σ v).vars, y ∈ L) →
    cntU L σ ≤ k → size (apply σ u) ≤ s → ∃ n r, unifyF n σ e u v = some r := by
  intro k
  induction k using Nat.strongRecOn with
  | _ k ihk =>
    intro s
    induction s with
    | zero => exact fun σ e u v _ _ _ _ hsz => absurd (size_pos (apply σ u)) (Nat.not_lt.2 hsz)
    | succ s ihs =>
      intro σ e u v hs hLu hLv hk hsz
      rcases unifyF_shape σ e u v with ⟨h1, t1, h2, t2, hwu, hwv⟩ | ⟨g, a1, a2, hwu, hwv⟩ | ⟨r, hr⟩
      · rw [apply_walk_cons hs hwu] at hLu hsz
        rw [apply_walk_cons hs hwv] at hLv
        obtain ⟨hu1, hu2⟩ := List.forall_mem_append.1 hLu
        obtain ⟨hv1, hv2⟩ := List.forall_mem_append.1 hLv
        obtain ⟨hs1, hs2⟩ := size_cons_le hsz
        obtain ⟨n1, r1, hr⟩ := ihs σ e h1 h2 hs hu1 hv1 hk hs1
        cases r1 with
        | none => exact ⟨n1 + 1, none, by rw [unifyF_cons hwu hwv, hr]⟩
        | some p =>
          obtain ⟨σ1, e1⟩ := p
          have tail : ∃ n2 r2, unifyF n2 σ1 e1 t1 t2 = some r2 := by
            obtain ⟨δ, a⟩ := unifyF_answers (· ∈ L) n1 σ e h1 h2 _ hs hu1 hv1 hr
            obtain rfl := a.subst_eq
            have hc := a.chain
            have hV := a.vars
            have hδ := fun p hp => (hV p hp).2
            cases δ with
            | nil => exact ihs σ e1 t1 t2 hs hu2 hv2 hk hs2
            | cons p δ =>
              have hp := hc.bound_iff.2 (List.mem_map_of_mem (f := (·.1)) (List.mem_cons_self (a := p)))
              have hlt := cntU_lt (σ' := bindAll (p :: δ) σ) (fun _ => hc.unbound) hp.1 hp.2 L
                (hV p (List.mem_cons_self ..)).1
              exact ihk _ (Nat.lt_of_lt_of_le hlt hk) _ _ e1 t1 t2 hc.solved (vars_bindAll hδ hu2)
                (vars_bindAll hδ hv2) (Nat.le_refl _) (Nat.le_refl _)
          obtain ⟨n2, r2, hr2⟩ := tail
          refine ⟨n1 + n2 + 1, r2, ?_⟩
          rw [unifyF_cons hwu hwv, unifyF_fuel_mono _ n2 _ _ _ _ _ hr]
          exact Nat.add_comm n1 n2 ▸ unifyF_fuel_mono _ n1 _ _ _ _ _ hr2
      · rw [apply_walk_comp hs hwu] at hLu hsz
        rw [apply_walk_comp hs hwv] at hLv
        obtain ⟨n1, r, hr⟩ := ihs σ e a1 a2 hs hLu hLv hk (Nat.le_of_succ_le_succ hsz)
        exact ⟨n1 + 1, r, by rw [unifyF_comp hwu hwv, if_pos rfl, hr]⟩
      · exact ⟨1, r, hr 0⟩

theorem unifyF_terminates (σ : Subst) (e : Ext1) (u v : Term) (hs : Solved σ) :
    ∃ n, unifyF n σ e u v ≠ none := by
  obtain ⟨n, r, h⟩ := unifyF_terminates_aux ((apply σ u).vars ++ (apply σ v).vars) _ _ σ e u v hs
    (fun _ => List.mem_append_left _) (fun _ => List.mem_append_right _) (Nat.le_refl _) (Nat.le_refl _)
  exact ⟨n, by rw [h]; exact nofun⟩
end Pv
