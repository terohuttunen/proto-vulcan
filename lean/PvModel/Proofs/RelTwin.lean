/-
  Interleaving vs depth-first on the same program, relation calls included: a goal and its depth-first twin
  (`conj` ↦ dfs conjunction, `conde` ↦ `cond`, every library call ↦ the same call made inside `dfs { }`) have the
  same reference answer list; hence the interleaving engine delivers a permutation of what the depth-first engine
  delivers in Prolog order.
-/
import PvModel.Proofs.RelDfs
namespace Pv
open Strm Goal State Term

/-- `d` is the depth-first twin of `g` -/
inductive Twin : G → G → Prop
  | succeed : Twin .succeed .succeed
  | fail : Twin .fail .fail
  | atom (f) : Twin (.atom f) (.atom f)
  | conj {g1 g2 d1 d2} : Twin g1 d1 → Twin g2 d2 → Twin (.conj g1 g2) (.conjD d1 d2)
  | alt {g1 g2 d1 d2} : Twin g1 d1 → Twin g2 d2 → Twin (.alt g1 g2) (.altD d1 d2)
  | fresh {g d} : Twin g d → Twin (.fresh g) (.fresh d)
  | call (r : Rel) (as : List Term) : Twin (.call ⟨r, as, false⟩) (.call ⟨r, as, true⟩)

theorem Twin.isSucceed {g d : G} (h : Twin g d) : g.isSucceed = d.isSucceed := by cases h <;> rfl
theorem Twin.isFail {g d : G} (h : Twin g d) : g.isFail = d.isFail := by cases h <;> rfl

theorem twin_mkConj {g1 g2 d1 d2 : G} (h1 : Twin g1 d1) (h2 : Twin g2 d2) : Twin (mkConj g1 g2) (mkConjD d1 d2) :=
  mkConj_cases₂ (P := Twin) .conj .conjD h1.isSucceed h2.isSucceed h1.isFail h2.isFail (fun _ _ => .succeed) (fun _ => .fail)
    (.conj h1 h2)

theorem twin_conjOfList {α : Type} {f f' : α → G} : ∀ l : List α, (∀ a ∈ l, Twin (f a) (f' a)) →
    Twin (conjOfList (l.map f)) (conjDOfList (l.map f'))
  | [], _ => .succeed
  | _ :: l, h => twin_mkConj (h _ List.mem_cons_self) (twin_conjOfList l fun a ha => h a (List.mem_cons_of_mem _ ha))

theorem twin_altOfList {α : Type} {f f' : α → G} : ∀ l : List α, (∀ a ∈ l, Twin (f a) (f' a)) →
    Twin (altOfList (l.map f)) (altDOfList (l.map f'))
  | [], _ => .fail
  | _ :: l, h => .alt (h _ List.mem_cons_self) (twin_altOfList l fun a ha => h a (List.mem_cons_of_mem _ ha))

section
variable {ord : Order}

theorem Sk.twin {v : Prop} (s : Sk v) : Twin (s.interp ord false) (s.interp ord true) := by
  induction s using Sk.ind with
  | eq a b => exact .atom _
  | neq a b => exact .atom _
  | call r as _ => exact .call r as
  | fresh ih => exact .fresh ih
  | bad _ => exact .atom _
  | conjL ih =>
    rw [Sk.interp_conjL, Sk.interp_conjL]
    exact twin_conjOfList _ ih
  | one ih =>
    rw [Sk.interp_one, Sk.interp_one]
    rw [oneOf_false, oneOf_true]
    simp only [conjOfList, conjDOfList, condeOfClauses, condeDOfClauses, List.map_map]
    exact twin_mkConj (twin_altOfList _ fun c hc => twin_conjOfList c (ih c hc)) .succeed

theorem relBody_twin (r : Rel) (as : List Term) (n : Nat) :
    (relBody ord ⟨r, as, false⟩ n).1 = (relBody ord ⟨r, as, true⟩ n).1 ∧
    Twin (relBody ord ⟨r, as, false⟩ n).2 (relBody ord ⟨r, as, true⟩ n).2 := by
  obtain ⟨k, s, h⟩ := relBody_sk r as n
  rw [h, h]
  exact ⟨rfl, s.twin⟩

theorem evalRef_twin : ∀ (n : Nat) (g d : G) (a : State), Twin g d → evalRef (defs ord) n g a = evalRef (defs ord) n d a
  | 0, _, _, _, _ => rfl
  | n + 1, _, _, a, h => by
    cases h with
    | succeed => rfl
    | fail => rfl
    | atom f => rfl
    | conj h1 h2 =>
      have e2 : evalRef (defs ord) n _ = evalRef (defs ord) n _ := funext fun x => evalRef_twin n _ _ x h2
      simp only [evalRef, evalRef_twin n _ _ a h1, e2]
    | alt h1 h2 => simp only [evalRef, evalRef_twin n _ _ a h1, evalRef_twin n _ _ a h2]
    | fresh h1 => exact evalRef_twin n _ _ a h1
    | call r as =>
      obtain ⟨e, ht⟩ := relBody_twin (ord := ord) r as a.nextVar
      show evalRef (defs ord) n (relBody ord ⟨r, as, false⟩ a.nextVar).2
        { a with nextVar := a.nextVar + (relBody ord ⟨r, as, false⟩ a.nextVar).1 } = _
      rw [e]
      exact evalRef_twin n _ _ _ ht

end

/-- the depth-first twin of a program: the same program written inside `dfs { }` -/
def RProg.goalD (ord : Order) : RProg → G
  | .succeed => .succeed
  | .fail => .fail
  | .atom t => .atom (liftRes fun st => postAtom ord st t)
  | .conj p q => .conjD (RProg.goalD ord p) (RProg.goalD ord q)
  | .alt p q => .altD (RProg.goalD ord p) (RProg.goalD ord q)
  | .fresh p => .fresh (RProg.goalD ord p)
  | .call c => .call { c with dfs := true }

theorem RProg.twin (ord : Order) : ∀ (p : RProg), p.NoDfs → Twin (p.goal ord) (p.goalD ord)
  | .succeed, _ => .succeed
  | .fail, _ => .fail
  | .atom _, _ => .atom _
  | .conj p q, h => .conj (RProg.twin ord p h.1) (RProg.twin ord q h.2)
  | .alt p q, h => .alt (RProg.twin ord p h.1) (RProg.twin ord q h.2)
  | .fresh p, h => .fresh (RProg.twin ord p h)
  | .call ⟨r, as, d⟩, h => by
    simp only [RProg.NoDfs] at h
    subst h
    exact .call r as

theorem RProg.onlyD (ord : Order) : ∀ (p : RProg), OnlyD (p.goalD ord)
  | .succeed => .succeed
  | .fail => .fail
  | .atom _ => .atom _
  | .conj p q => .conjD (RProg.onlyD ord p) (RProg.onlyD ord q)
  | .alt p q => .altD (RProg.onlyD ord p) (RProg.onlyD ord q)
  | .fresh p => .fresh (RProg.onlyD ord p)
  | .call _ => .call rfl

end Pv
