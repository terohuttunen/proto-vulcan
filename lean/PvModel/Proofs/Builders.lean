/-
  Goal predicates and the list builders of Model/Stream.lean: a predicate that holds of `succeed` / `fail` and is kept by
  the binary connective holds of what `Conj::from_vec` and `Conde::from_conjunctions` build from goals that have it.
-/
import PvModel.Model.Stream
namespace Pv
open Goal

section Builders
variable {St K : Type} {P : Goal St K → Prop}

theorem isSucceed_iff {g : Goal St K} : g.isSucceed = true ↔ g = .succeed := by
  refine ⟨fun h => ?_, fun h => h ▸ rfl⟩
  unfold isSucceed at h
  split at h
  · rfl
  · cases h

theorem isFail_iff {g : Goal St K} : g.isFail = true ↔ g = .fail := by
  refine ⟨fun h => ?_, fun h => h ▸ rfl⟩
  unfold isFail at h
  split at h
  · rfl
  · cases h

/-- `mkConj`, `mkConjD` (`c := .conj`, `.conjD`) on two pairs of operands with the same `is_succeed` / `is_fail` flags
    take the same branch: the two short-cuts of `Conj::new`, or the conjunction -/
theorem mkConj_cases₂ {P : Goal St K → Goal St K → Prop} (c c' : Goal St K → Goal St K → Goal St K) {g1 g2 d1 d2 : Goal St K}
    (s1 : g1.isSucceed = d1.isSucceed) (s2 : g2.isSucceed = d2.isSucceed) (f1 : g1.isFail = d1.isFail) (f2 : g2.isFail = d2.isFail)
    (hs : g1 = .succeed → g2 = .succeed → P .succeed .succeed) (hf : g1 = .fail ∨ g2 = .fail → P .fail .fail)
    (hc : P (c g1 g2) (c' d1 d2)) :
    P (if g1.isSucceed && g2.isSucceed then .succeed else if g1.isFail || g2.isFail then .fail else c g1 g2)
      (if d1.isSucceed && d2.isSucceed then .succeed else if d1.isFail || d2.isFail then .fail else c' d1 d2) := by
  rw [← s1, ← s2, ← f1, ← f2]
  split
  · rename_i h
    simp only [Bool.and_eq_true, isSucceed_iff] at h
    exact hs h.1 h.2
  · split
    · rename_i h
      simp only [Bool.or_eq_true, isFail_iff] at h
      exact hf h
    · exact hc

theorem mkConj_cases {g1 g2 : Goal St K} (hs : g1 = .succeed → g2 = .succeed → P .succeed)
    (hf : g1 = .fail ∨ g2 = .fail → P .fail) (hc : P (.conj g1 g2)) : P (mkConj g1 g2) :=
  mkConj_cases₂ (P := fun g _ => P g) .conj .conj rfl rfl rfl rfl hs hf hc

theorem mkConjD_cases {g1 g2 : Goal St K} (hs : g1 = .succeed → g2 = .succeed → P .succeed)
    (hf : g1 = .fail ∨ g2 = .fail → P .fail) (hc : P (.conjD g1 g2)) : P (mkConjD g1 g2) :=
  mkConj_cases₂ (P := fun g _ => P g) .conjD .conjD rfl rfl rfl rfl hs hf hc

theorem mkConj_closed (hs : P .succeed) (hf : P .fail) (hc : ∀ {g1 g2}, P g1 → P g2 → P (.conj g1 g2)) {g1 g2 : Goal St K}
    (h1 : P g1) (h2 : P g2) : P (mkConj g1 g2) :=
  mkConj_cases (fun _ _ => hs) (fun _ => hf) (hc h1 h2)

theorem mkConjD_closed (hs : P .succeed) (hf : P .fail) (hc : ∀ {g1 g2}, P g1 → P g2 → P (.conjD g1 g2)) {g1 g2 : Goal St K}
    (h1 : P g1) (h2 : P g2) : P (mkConjD g1 g2) :=
  mkConjD_cases (fun _ _ => hs) (fun _ => hf) (hc h1 h2)

theorem conjOfList_closed (hs : P .succeed) (hf : P .fail) (hc : ∀ {g1 g2}, P g1 → P g2 → P (.conj g1 g2)) :
    ∀ gs : List (Goal St K), (∀ g ∈ gs, P g) → P (conjOfList gs)
  | [], _ => hs
  | _ :: gs, h =>
    mkConj_closed hs hf hc (h _ List.mem_cons_self) (conjOfList_closed hs hf hc gs fun x hx => h x (List.mem_cons_of_mem _ hx))

theorem conjDOfList_closed (hs : P .succeed) (hf : P .fail) (hc : ∀ {g1 g2}, P g1 → P g2 → P (.conjD g1 g2)) :
    ∀ gs : List (Goal St K), (∀ g ∈ gs, P g) → P (conjDOfList gs)
  | [], _ => hs
  | _ :: gs, h =>
    mkConjD_closed hs hf hc (h _ List.mem_cons_self) (conjDOfList_closed hs hf hc gs fun x hx => h x (List.mem_cons_of_mem _ hx))

theorem altOfList_closed (hf : P .fail) (ha : ∀ {g1 g2}, P g1 → P g2 → P (.alt g1 g2)) :
    ∀ gs : List (Goal St K), (∀ g ∈ gs, P g) → P (altOfList gs)
  | [], _ => hf
  | _ :: gs, h => ha (h _ List.mem_cons_self) (altOfList_closed hf ha gs fun x hx => h x (List.mem_cons_of_mem _ hx))

theorem altDOfList_closed (hf : P .fail) (ha : ∀ {g1 g2}, P g1 → P g2 → P (.altD g1 g2)) :
    ∀ gs : List (Goal St K), (∀ g ∈ gs, P g) → P (altDOfList gs)
  | [], _ => hf
  | _ :: gs, h => ha (h _ List.mem_cons_self) (altDOfList_closed hf ha gs fun x hx => h x (List.mem_cons_of_mem _ hx))

end Builders

section Fold
variable {St K : Type}

theorem conjOfIter_aux (gs : List (Goal St K)) (p : Goal St K) :
    gs.foldl (fun p g => mkConj g p) p = gs.reverse.foldr (fun g p => mkConj g p) p := by
  induction gs generalizing p with
  | nil => rfl
  | cons g gs ih =>
    rw [List.foldl_cons, ih, List.reverse_cons, List.foldr_append]
    rfl

theorem conjOfList_foldr (gs : List (Goal St K)) : conjOfList gs = gs.foldr (fun g p => mkConj g p) .succeed := by
  induction gs with
  | nil => rfl
  | cons g gs ih => rw [conjOfList, ih]; rfl

end Fold

end Pv
