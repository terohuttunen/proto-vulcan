/-
  `force_ans` finishes on a state without domains: from an unpoisoned state with a solved substitution and an empty domain
  store, the textbook evaluation of `force_ans(x)` terminates with that state and nothing else, as soon as the model's
  depth bound `n` is at least the size of the walked term.  (The hypothesis `hfa` of `reifyG_tree` / `C02_query_tree`.)
-/
import PvModel.Proofs.ForceAns
namespace Pv
open State Term Goal FD

section
variable [Mode]

theorem size_apply_iterItems (σ : Subst) : ∀ (t it : Term), it ∈ t.iterItems → (apply σ it).size ≤ (apply σ t).size := by
  intro t
  induction t using iterItems_ind with
  | cons h t ih =>
    intro it hit
    rw [iterItems_cons] at hit
    show (apply σ it).size ≤ (apply σ h).size + (apply σ t).size + 1
    rcases List.mem_cons.1 hit with rfl | hit
    · omega
    · have := ih it hit
      omega
  | nil => exact fun _ hit => nomatch hit
  | atom t e =>
    intro it hit
    rw [e] at hit
    cases List.mem_singleton.1 hit
    exact Nat.le_refl _

theorem size_apply_compFields (σ : Subst) (args f : Term) (hf : f ∈ compFields args) : (apply σ f).size ≤ (apply σ args).size := by
  unfold compFields at hf
  obtain ⟨it, hit, hfi⟩ := List.mem_flatMap.1 hf
  have h1 := size_apply_iterItems σ args it hit
  split at hfi
  · rename_i kids
    have h2 := size_apply_iterItems σ kids f hfi
    simp only [apply, Term.size] at h1
    omega
  · simp only [List.mem_singleton] at hfi
    subst hfi; exact h1

variable (dfs : Call → State → State × G)

omit [Mode] in
theorem evalR_dyn {fg : State → G} {s : State} {zs : List State} (h : EvalR dfs (fg s) s zs) : EvalR dfs (.dyn id fg) s zs :=
  h.elim fun n e => ⟨n + 1, e⟩

omit [Mode] in
theorem chainR_id {s : State} : ∀ gs : List G, (∀ g ∈ gs, EvalR dfs g s [s]) → ChainR dfs gs s [s]
  | [], _ => rfl
  | g :: gs, h =>
    ⟨[s], h g List.mem_cons_self, .cons (chainR_id gs fun x hx => h x (List.mem_cons_of_mem _ hx)) .nil⟩

omit dfs in
theorem size_apply_labelFields (σ : Subst) : ∀ (w f : Term), f ∈ labelFields w → (apply σ f).size < (apply σ w).size := by
  intro w f hf
  cases w with
  | cons h t =>
    show (apply σ f).size < (apply σ h).size + (apply σ t).size + 1
    rcases List.mem_cons.1 hf with rfl | hf
    · exact Nat.lt_succ_of_le (Nat.le_add_right _ _)
    · cases List.mem_singleton.1 hf
      exact Nat.lt_succ_of_le (Nat.le_add_left _ _)
  | comp _ args => exact Nat.lt_succ_of_le (size_apply_compFields σ args f hf)
  | var _ => exact nomatch hf
  | val _ => exact nomatch hf
  | nil => exact nomatch hf

theorem forceAns_tot (ord : Order) (s : State) (hs : Solved s.σ) (hd : s.dstore = []) (hp : s.panic = none) :
    ∀ (n : Nat) (t : Term), (apply s.σ t).size ≤ n → EvalR dfs (forceAns ord n t) s [s] := by
  intro n
  induction n with
  | zero => intro t h; have := size_pos (apply s.σ t); omega
  | succ n ih =>
    intro t h
    -- the sub-terms of the walked term are smaller, so the conjunction over them delivers `[s]`
    have sub : EvalR dfs (Goal.conjOfList ((labelFields (walk s.σ t)).map (forceAns ord n))) s [s] :=
      evalR_conjOfList _ s [s] (chainR_id dfs _ fun g hg => by
        obtain ⟨f, hf, rfl⟩ := List.mem_map.1 hg
        have := size_apply_labelFields s.σ _ f hf
        rw [walk_eq_apply_top hs t] at this
        exact ih f (by omega))
    unfold forceAns
    refine evalR_dyn dfs ?_
    simp only [hp, Option.isSome_none, Bool.false_eq_true, if_false]
    split
    · rename_i xv _
      have hg : s.dget xv = none := by simp [State.dget, hd]
      rw [hg]
      exact evalR_succeed s
    · rename_i hwk; rw [hwk] at sub; exact sub
    · rename_i hwk; rw [hwk] at sub; exact sub
    · exact evalR_succeed s

theorem forceAns_finishes (ord : Order) (s : State) (hs : Solved s.σ) (hd : s.dstore = []) (hp : s.panic = none) (x : Term)
    (hsz : (apply s.σ x).size ≤ forceFuel) :
    ∃ N zs, evalRef dfs N (forceAns ord forceFuel x) s = some zs ∧ ∀ t ∈ zs, t.panic = none := by
  obtain ⟨N, hN⟩ := forceAns_tot dfs ord s hs hd hp forceFuel x hsz
  exact ⟨N, [s], hN, fun t ht => by rw [List.mem_singleton.1 ht]; exact hp⟩

end
end Pv
