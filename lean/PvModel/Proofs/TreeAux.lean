/-
  Auxiliary lemmas for Proofs/Tree.lean: the unifier lifted to lists of pairs, the semantics of stored
  disequalities, `subsumes`, `takeConstraint` / `withConstraint` on tree-only stores.
-/
import PvModel.Spec.Tree
import PvModel.Proofs.Unify
import PvModel.Proofs.StateInv
namespace Pv
open Term

def AllUnif (θ : Subst) (ps : List (Term × Term)) : Prop := ∀ p ∈ ps, apply θ p.1 = apply θ p.2

theorem unifies_of_ext {σ θ : Subst} {u v : Term} (hx : Ext σ θ) (hu : Unifies σ u v) :
    apply θ u = apply θ v := by
  have hu' : apply σ u = apply σ v := hu
  rw [← hx u, ← hx v, hu']

theorem ext_id (θ : Subst) : Ext Subst.id θ := fun s => by rw [apply_subst_id]

theorem unifyPairsF_answers (V : Nat → Prop) (n : Nat) : ∀ (ps : List (Term × Term)) (σ : Subst) (e : Ext1)
    (r : Option (Subst × Ext1)), Solved σ →
    (∀ p ∈ ps, (∀ y ∈ (apply σ p.1).vars, V y) ∧ ∀ y ∈ (apply σ p.2).vars, V y) →
    unifyPairsF n σ e ps = some r → Answers σ e V (fun θ => AllUnif θ ps) r
  | [], σ, e, r, hs, _, h => by
    cases h
    exact Answers.triv hs fun θ _ p hp => (nomatch hp)
  | (u, v) :: ps, σ, e, r, hs, hV, h => by
    obtain ⟨hVuv, hVps⟩ := List.forall_mem_cons.1 hV
    simp only [unifyPairsF] at h
    match h1 : unifyF n σ e u v with
    | none => rw [h1] at h; cases h
    | some none =>
      rw [h1] at h
      cases h
      exact fun θ hθ hall =>
        unifyF_answers V n σ e u v _ hs hVuv.1 hVuv.2 h1 θ hθ (hall (u, v) List.mem_cons_self)
    | some (some (σ1, e1)) =>
      rw [h1] at h
      have a1 := unifyF_answers V n σ e u v _ hs hVuv.1 hVuv.2 h1
      have a2 := unifyPairsF_answers V n ps σ1 e1 r a1.solved
        (fun p hp => ⟨a1.vars_apply (hVps p hp).1, a1.vars_apply (hVps p hp).2⟩) h
      exact (a1.seq a2).congr fun θ _ =>
        (show AllUnif θ ((u, v) :: ps) ↔ _ from List.forall_mem_cons).symm

theorem unifyPairsF_chain {n : Nat} {ps : List (Term × Term)} {σ : Subst} {e : Ext1} {r : Option (Subst × Ext1)}
    (hs : Solved σ) (h : unifyPairsF n σ e ps = some r) :
    Answers σ e (fun _ => True) (fun θ => AllUnif θ ps) r :=
  unifyPairsF_answers _ n ps σ e r hs (fun _ _ => ⟨fun _ _ => trivial, fun _ _ => trivial⟩) h

theorem allUnif_eqsOf (θ : Subst) (ps : Ext1) : AllUnif θ (State.eqsOf ps) ↔ AllEq θ ps :=
  List.forall_mem_map

theorem diseqHolds_iff (γ : Subst) (ps : Ext1) : DiseqHolds γ ps ↔ ¬ AllEq γ ps := by
  simp only [DiseqHolds, AllEq, Classical.not_forall, exists_prop, ne_eq]

theorem not_diseqHolds_nil (γ : Subst) : ¬ DiseqHolds γ [] := by simp [DiseqHolds]

theorem reunify_ok {ord : Order} (ho : OrderOK ord) {σ σ' : Subst} {ps e : Ext1} (hs : Solved σ)
    (h : unifyPairsF unifyFuel σ [] (State.eqsOf (ord.ps ps)) = some (some (σ', e))) :
    (∀ γ, Ext σ γ → (DiseqHolds γ e ↔ DiseqHolds γ ps)) ∧ (e = [] → σ' = σ) ∧
    (∀ γ, Ext σ γ → (Ext σ' γ ↔ AllEq γ ps)) ∧ Solved σ' := by
  have A := unifyPairsF_chain hs h
  obtain ⟨rfl, a⟩ := A.of_nil
  have key : ∀ γ, Ext σ γ → (Ext (bindAll e σ) γ ↔ AllEq γ ps) := fun γ hx =>
    (A.ext_iff hx).trans ((allUnif_eqsOf γ _).trans (allEq_perm (ho.2.1 ps)))
  refine ⟨fun γ hx => ?_, fun hn => by rw [hn]; rfl, key, a.chain.solved⟩
  rw [diseqHolds_iff, diseqHolds_iff, ← key γ hx, a.chain.ext_iff hx]

theorem reunify_fail {ord : Order} (ho : OrderOK ord) {σ : Subst} {ps : Ext1} (hs : Solved σ)
    (h : unifyPairsF unifyFuel σ [] (State.eqsOf (ord.ps ps)) = some none) :
    ∀ γ, Ext σ γ → DiseqHolds γ ps := by
  intro γ hx
  rw [diseqHolds_iff, ← allEq_perm (ho.2.1 ps), ← allUnif_eqsOf]
  exact unifyPairsF_chain hs h γ hx

theorem substOfPairs_spec {c : Ext1} {σ2 : Subst} (h : State.substOfPairs c = some σ2) :
    Solved σ2 ∧ ∀ γ, Ext σ2 γ ↔ AllEq γ c := by
  unfold State.substOfPairs at h
  split at h
  · rename_i σ e heq
    cases h
    have a := unifyPairsF_chain solved_id heq
    exact ⟨a.solved, fun γ => (a.ext_iff (ext_id γ)).trans
      ((allUnif_eqsOf γ _).trans (allEq_perm (List.reverse_perm c)))⟩
  · cases h

theorem subsumes_sound {ord : Order} (ho : OrderOK ord) {c1 c2 : Ext1}
    (h : State.subsumes ord c1 c2 = true) : ∀ γ, DiseqHolds γ c1 → DiseqHolds γ c2 := by
  unfold State.subsumes at h
  split at h
  · cases h
  · rename_i σ2 h2
    obtain ⟨s2, iffc2⟩ := substOfPairs_spec h2
    split at h
    · rename_i σ' e heq
      have he : e = [] := by simpa using h
      obtain ⟨_, hn, key, _⟩ := reunify_ok ho s2 heq
      have hσ := hn he
      subst hσ
      intro γ h1
      rw [diseqHolds_iff] at h1 ⊢
      intro hc2
      have hx := (iffc2 γ).mpr hc2
      exact h1 ((key γ hx).mp hx)
    · cases h

theorem nodup_fst_eq : ∀ {l : List (Nat × Cst)}, (l.map (·.1)).Nodup →
    ∀ {p q : Nat × Cst}, p ∈ l → q ∈ l → p.1 = q.1 → p = q := by
  intro l
  induction l with
  | nil => intro _ p q hp; cases hp
  | cons a l ih =>
    intro hn p q hp hq hpq
    simp only [List.map_cons, List.nodup_cons] at hn
    rcases List.mem_cons.mp hp with hp | hp <;> rcases List.mem_cons.mp hq with hq | hq
    · rw [hp, hq]
    · exact absurd (by rw [← hp, hpq]; exact List.mem_map_of_mem hq) hn.1
    · exact absurd (by rw [← hq, ← hpq]; exact List.mem_map_of_mem hp) hn.1
    · exact ih hn.2 hp hq hpq

theorem TreeOnly.noFD {st : State} (h : TreeOnly st) : ∀ p ∈ st.store, p.2.isFD = false := fun p hp => by
  obtain ⟨ps, e⟩ := Cst.eq_diseq_of_isDiseq (h.1 p hp)
  rw [e]
  rfl

theorem take_fields (st : State) (i : Nat) :
    (st.takeConstraint i).1.σ = st.σ ∧ (st.takeConstraint i).1.dstore = st.dstore ∧
    (st.takeConstraint i).1.nextId = st.nextId ∧
    (st.takeConstraint i).1.store = st.store.filter (fun p => p.1 != i) := by
  unfold State.takeConstraint
  split
  · simp
  · rename_i h
    refine ⟨rfl, rfl, rfl, ?_⟩
    symm
    rw [List.filter_eq_self]
    intro p hp
    have := List.find?_eq_none.mp h p hp
    simpa using this

theorem take_some {st : State} {i : Nat} {c : Cst} (h : (st.takeConstraint i).2 = some c) :
    (i, c) ∈ st.store :=
  (take_some_ok (st1 := (st.takeConstraint i).1) (Prod.ext rfl h)).1

/-- several `take_constraint`s in a row -/
def takes (l : List (Nat × Cst)) (st : State) : State := l.foldl (fun s p => (s.takeConstraint p.1).1) st

theorem takes_fields : ∀ (l : List (Nat × Cst)) (st : State),
    (takes l st).σ = st.σ ∧ (takes l st).dstore = st.dstore ∧ (takes l st).nextId = st.nextId ∧
    (takes l st).store.Sublist st.store ∧
    (∀ q, q ∈ (takes l st).store ↔ (q ∈ st.store ∧ ∀ p ∈ l, q.1 ≠ p.1)) := by
  intro l
  induction l with
  | nil => intro st; simp [takes]
  | cons a l ih =>
    intro st
    obtain ⟨h1, h2, h3, h4⟩ := take_fields st a.1
    obtain ⟨i1, i2, i3, i4, i5⟩ := ih (st.takeConstraint a.1).1
    have e : takes (a :: l) st = takes l (st.takeConstraint a.1).1 := rfl
    rw [e]
    refine ⟨i1.trans h1, i2.trans h2, i3.trans h3, ?_, ?_⟩
    · refine i4.trans ?_
      rw [h4]; exact List.filter_sublist
    · intro q
      rw [i5 q, h4, List.mem_filter]
      simp only [bne_iff_ne, ne_eq, List.mem_cons, forall_eq_or_imp]
      constructor
      · rintro ⟨⟨a1, a2⟩, a3⟩; exact ⟨a1, a2, a3⟩
      · rintro ⟨a1, a2, a3⟩; exact ⟨⟨a1, a2⟩, a3⟩

theorem take_nextVar (st : State) (i : Nat) : (st.takeConstraint i).1.nextVar = st.nextVar := by
  unfold State.takeConstraint
  split <;> rfl

theorem takes_nextVar : ∀ (l : List (Nat × Cst)) (st : State), (takes l st).nextVar = st.nextVar
  | [], _ => rfl
  | a :: l, st => by
    have e : takes (a :: l) st = takes l (st.takeConstraint a.1).1 := rfl
    rw [e, takes_nextVar l, take_nextVar]

def subBy (ord : Order) (ps : Ext1) : Nat × Cst → Bool :=
  fun p => match p.2 with | .diseq ps' => State.subsumes ord ps' ps | _ => false

def subOf (ord : Order) (ps : Ext1) : Nat × Cst → Bool :=
  fun p => match p.2 with | .diseq ps' => State.subsumes ord ps ps' | _ => false

theorem subBy_true {ord ps p} (h : subBy ord ps p = true) :
    ∃ ps', p.2 = .diseq ps' ∧ State.subsumes ord ps' ps = true := by
  unfold subBy at h
  split at h
  · rename_i ps' he; exact ⟨ps', he, h⟩
  · cases h

theorem subOf_true {ord ps p} (h : subOf ord ps p = true) :
    ∃ ps', p.2 = .diseq ps' ∧ State.subsumes ord ps ps' = true := by
  unfold subOf at h
  split at h
  · rename_i ps' he; exact ⟨ps', he, h⟩
  · cases h

theorem withConstraint_diseq_eq (ord : Order) (st : State) (id : Nat) (ps : Ext1) :
    st.withConstraint ord id (.diseq ps) =
      if st.store.any (subBy ord ps) then st
      else
        { takes ((ord.cs st.store).filter (subOf ord ps)) st with
          withs := (takes ((ord.cs st.store).filter (subOf ord ps)) st).withs + 1,
          store := (takes ((ord.cs st.store).filter (subOf ord ps)) st).store ++ [(id, .diseq ps)] } := rfl

/-- `st'` has the substitution of `st`, is a well-formed tree-only state, and describes the
    valuations of `st` that satisfy `P` -/
structure AddOK (st : State) (P : Subst → Prop) (st' : State) : Prop where
  sig : st'.σ = st.σ
  tree : TreeOnly st'
  ids : IdsOK st'
  sem : ∀ γ, Ext st.σ γ → (StoreSem γ st' ↔ (StoreSem γ st ∧ P γ))
  /-- the source of fresh variables is not touched -/
  nv : st'.nextVar = st.nextVar

theorem AddOK.of_entailed {st : State} {P : Subst → Prop} (ht : TreeOnly st) (hi : IdsOK st)
    (h : ∀ γ, Ext st.σ γ → P γ) : AddOK st P st :=
  ⟨rfl, ht, hi, fun γ hx => ⟨fun a => ⟨a, h γ hx⟩, fun a => a.1⟩, rfl⟩

theorem AddOK.trans {st st1 st2 : State} {P Q : Subst → Prop} (h1 : AddOK st P st1)
    (h2 : AddOK st1 Q st2) : AddOK st (fun γ => P γ ∧ Q γ) st2 := by
  refine ⟨h2.sig.trans h1.sig, h2.tree, h2.ids, fun γ hx => ?_, h2.nv.trans h1.nv⟩
  have hx1 : Ext st1.σ γ := by rw [h1.sig]; exact hx
  rw [h2.sem γ hx1, h1.sem γ hx, and_assoc]

theorem AddOK.congr {st st' : State} {P Q : Subst → Prop} (h : AddOK st P st')
    (hpq : ∀ γ, Ext st.σ γ → (P γ ↔ Q γ)) : AddOK st Q st' :=
  ⟨h.sig, h.tree, h.ids, fun γ hx => by rw [h.sem γ hx, hpq γ hx], h.nv⟩

/-- what an operation that only adds to the store may return: on success a state that describes the valuations of
    `st` satisfying `P`; failure only if `st` describes none; never a panic -/
structure Posts (st : State) (P : Subst → Prop) (r : Res State) : Prop where
  ok : ∀ st', r = .ok st' → AddOK st P st'
  fail : r = .fail → ∀ γ, Ext st.σ γ → StoreSem γ st → ¬ P γ
  nopanic : ∀ s, r ≠ .panic s

/-- the same in terms of the states described: the reading `postAtom` is stated in -/
theorem Posts.stateSem {st : State} {P : Subst → Prop} {r : Res State} (h : Posts st P r) (hs : Solved st.σ) :
    (∀ st', r = .ok st' → Good st' ∧ ∀ γ, StateSem γ st' ↔ (StateSem γ st ∧ P γ)) ∧
    (r = .fail → ∀ γ, ¬ (StateSem γ st ∧ P γ)) ∧
    (∀ s, r ≠ .panic s) := by
  refine ⟨fun st' hr => ?_, fun hr γ hsem => h.fail hr γ hsem.1.1 hsem.1.2 hsem.2, h.nopanic⟩
  have a := h.ok st' hr
  refine ⟨⟨by rw [a.sig]; exact hs, a.tree, a.ids⟩, fun γ => ?_⟩
  show (Ext st'.σ γ ∧ StoreSem γ st') ↔ ((Ext st.σ γ ∧ StoreSem γ st) ∧ P γ)
  rw [a.sig, and_assoc]
  exact and_congr_right fun hx => a.sem γ hx

/-- what `withNewConstraint` of the disequality `ps` makes of `st`: it touches the store and the identities only.  The
    store stays as it is when a stored disequality subsumes the new one; otherwise the stored ones that the new one
    subsumes leave and the new one is appended. -/
structure WithNew (ord : Order) (st : State) (ps : Ext1) (st' : State) : Prop where
  sig : st'.σ = st.σ
  nv : st'.nextVar = st.nextVar
  dstore : st'.dstore = st.dstore
  nextId : st'.nextId = st.nextId + 1
  store : (st'.store = st.store ∧ ∃ p ∈ st.store, subBy ord ps p = true) ∨
    ∃ kept, st'.store = kept ++ [(st.nextId, .diseq ps)] ∧ kept.Sublist st.store ∧
      ∀ q ∈ st.store, q ∈ kept ∨ ∃ p ∈ ord.cs st.store, subOf ord ps p = true ∧ q.1 = p.1

theorem withNew_store (ord : Order) (st : State) (ps : Ext1) :
    WithNew ord st ps (st.withNewConstraint ord (.diseq ps)) := by
  unfold State.withNewConstraint
  rw [withConstraint_diseq_eq]
  split
  · rename_i hany
    exact ⟨rfl, rfl, rfl, rfl, .inl ⟨rfl, List.any_eq_true.mp hany⟩⟩
  · obtain ⟨t1, t2, t3, t4, t5⟩ :=
      takes_fields ((ord.cs st.store).filter (subOf ord ps)) { st with nextId := st.nextId + 1 }
    refine ⟨t1, takes_nextVar _ _, t2, t3, .inr ⟨_, rfl, t4, fun q hq => ?_⟩⟩
    by_cases hk : ∀ p ∈ (ord.cs st.store).filter (subOf ord ps), q.1 ≠ p.1
    · exact .inl ((t5 q).2 ⟨hq, hk⟩)
    · obtain ⟨p, hp⟩ := Classical.not_forall.1 hk
      obtain ⟨hp, hqp⟩ := Classical.not_imp.1 hp
      obtain ⟨hp1, hp2⟩ := List.mem_filter.1 hp
      exact .inr ⟨p, hp1, hp2, Classical.not_not.1 hqp⟩

theorem mem_withNew {ord : Order} {st : State} {ps : Ext1} {q : Nat × Cst}
    (hq : q ∈ (st.withNewConstraint ord (.diseq ps)).store) : q ∈ st.store ∨ q = (st.nextId, .diseq ps) := by
  rcases (withNew_store ord st ps).store with ⟨e, _⟩ | ⟨kept, e, hsub, _⟩
  · exact .inl (e ▸ hq)
  · rw [e, List.mem_append, List.mem_singleton] at hq
    exact hq.imp_left fun h => hsub.subset h

theorem withNew_storeSem {ord : Order} (ho : OrderOK ord) {st : State} (hi : IdsOK st) (ps : Ext1) (γ : Subst) :
    StoreSem γ (st.withNewConstraint ord (.diseq ps)) ↔ (StoreSem γ st ∧ DiseqHolds γ ps) := by
  rcases (withNew_store ord st ps).store with ⟨e, p, hp, hsub⟩ | ⟨kept, e, hkept, hgone⟩
  · -- the new disequality is subsumed by a stored one
    unfold StoreSem
    rw [e]
    obtain ⟨ps', he, hs⟩ := subBy_true hsub
    exact ⟨fun a => ⟨a, subsumes_sound ho hs γ (a p hp ps' he)⟩, fun a => a.1⟩
  · unfold StoreSem
    rw [e]
    constructor
    · intro a
      have hnew : DiseqHolds γ ps := a _ (List.mem_append.2 (.inr (List.mem_singleton.2 rfl))) ps rfl
      refine ⟨fun q hq qs he => ?_, hnew⟩
      rcases hgone q hq with hin | ⟨p, hp, hsub, hqp⟩
      · exact a q (List.mem_append.2 (.inl hin)) qs he
      · -- `q` was taken out: the new disequality subsumes it
        have : q = p := nodup_fst_eq hi.1 hq ((ho.1 st.store).mem_iff.1 hp) hqp
        subst this
        obtain ⟨ps', he', hs⟩ := subOf_true hsub
        rw [he] at he'
        cases he'
        exact subsumes_sound ho hs γ hnew
    · rintro ⟨a, b⟩ q hq qs he
      rcases List.mem_append.1 hq with hq | hq
      · exact a q (hkept.subset hq) qs he
      · rw [List.mem_singleton.1 hq] at he
        cases he
        exact b

theorem withNew_diseq {ord : Order} (ho : OrderOK ord) {st : State} (ht : TreeOnly st) (hi : IdsOK st)
    (ps : Ext1) : AddOK st (fun γ => DiseqHolds γ ps) (st.withNewConstraint ord (.diseq ps)) := by
  have w := withNew_store ord st ps
  refine ⟨w.sig, ⟨fun q hq => ?_, w.dstore.trans ht.2⟩, ⟨?_, fun q hq => ?_⟩, fun γ _ => withNew_storeSem ho hi ps γ, w.nv⟩
  · rcases mem_withNew hq with hq | rfl
    · exact ht.1 q hq
    · rfl
  · rcases w.store with ⟨e, _⟩ | ⟨kept, e, hkept, _⟩
    · rw [e]; exact hi.1
    · rw [e, List.map_append, List.nodup_append]
      refine ⟨(hkept.map (·.1)).nodup hi.1, by simp, fun a ha b hb => ?_⟩
      obtain ⟨q, hq, rfl⟩ := List.mem_map.1 ha
      rw [List.mem_singleton.1 hb]
      exact Nat.ne_of_lt (hi.2 q (hkept.subset hq))
  · rw [w.nextId]
    rcases mem_withNew hq with hq | rfl
    · exact Nat.lt_succ_of_lt (hi.2 q hq)
    · exact Nat.lt_succ_self _

/-- what `DisequalityConstraint::run` and `disunify` do with the result of the unifier -/
def diseqResult (ord : Order) (st : State) : Option (Option (Subst × Ext1)) → Res State
  | none => .fuel
  | some none => .ok st
  | some (some (_, e)) => if e.isEmpty then .fail else .ok (st.withNewConstraint ord (.diseq e))

theorem runDiseq_eq (ord : Order) (st : State) (ps : Ext1) :
    State.runDiseq ord st ps =
      diseqResult ord st (unifyPairsF unifyFuel st.σ [] (State.eqsOf (ord.ps ps))) := by
  unfold State.runDiseq diseqResult; rfl

theorem disunify_eq (ord : Order) (st : State) (u v : Term) :
    State.disunify ord st u v = diseqResult ord st (unifyF unifyFuel st.σ [] u v) := by
  unfold State.disunify diseqResult; rfl

theorem diseqResult_store {ord : Order} {st st' : State} {r : Option (Option (Subst × Ext1))}
    (h : diseqResult ord st r = .ok st') :
    st'.σ = st.σ ∧ st'.nextVar = st.nextVar ∧
    ∀ q ∈ st'.store, q ∈ st.store ∨ ∃ σ' e, r = some (some (σ', e)) ∧ e ≠ [] ∧ q.2 = .diseq e := by
  match r, h with
  | some none, h =>
    cases h
    exact ⟨rfl, rfl, fun q hq => .inl hq⟩
  | some (some (σ', p :: e)), h =>
    cases h
    have w := withNew_store ord st (p :: e)
    exact ⟨w.sig, w.nv, fun q hq => (mem_withNew hq).imp_right fun hq =>
      ⟨σ', p :: e, rfl, List.cons_ne_nil p e, by rw [hq]⟩⟩

theorem diseqResult_spec {ord : Order} (ho : OrderOK ord) {st : State} (ht : TreeOnly st)
    (hi : IdsOK st) {P : Subst → Prop} {r : Option (Option (Subst × Ext1))}
    (hfail : r = some none → ∀ γ, Ext st.σ γ → P γ)
    (hok : ∀ σ' e, r = some (some (σ', e)) → ∀ γ, Ext st.σ γ → (DiseqHolds γ e ↔ P γ)) :
    Posts st P (diseqResult ord st r) := by
  cases r with
  | none => exact ⟨fun _ h => (nomatch h), fun h => (nomatch h), fun _ h => (nomatch h)⟩
  | some r =>
    cases r with
    | none =>
      refine ⟨fun st' h => ?_, fun h => (nomatch h), fun _ h => (nomatch h)⟩
      cases h
      exact AddOK.of_entailed ht hi (hfail rfl)
    | some q =>
      obtain ⟨σ', e⟩ := q
      have hk := hok σ' e rfl
      cases e with
      | nil =>
        refine ⟨fun _ h => (nomatch h), fun _ γ hx _ hp => ?_, fun _ h => (nomatch h)⟩
        exact not_diseqHolds_nil γ ((hk γ hx).mpr hp)
      | cons p e =>
        refine ⟨fun st' h => ?_, fun h => (nomatch h), fun _ h => (nomatch h)⟩
        cases h
        exact (withNew_diseq ho ht hi (p :: e)).congr hk

theorem runDiseq_spec {ord : Order} (ho : OrderOK ord) {st : State} (hs : Solved st.σ)
    (ht : TreeOnly st) (hi : IdsOK st) (ps : Ext1) :
    Posts st (fun γ => DiseqHolds γ ps) (State.runDiseq ord st ps) := by
  rw [runDiseq_eq]
  exact diseqResult_spec ho ht hi (fun h => reunify_fail ho hs h)
    (fun σ' e h => (reunify_ok ho hs h).1)

theorem disunify_spec {ord : Order} (ho : OrderOK ord) {st : State} (hs : Solved st.σ)
    (ht : TreeOnly st) (hi : IdsOK st) (u v : Term) :
    Posts st (fun γ => apply γ u ≠ apply γ v) (State.disunify ord st u v) := by
  rw [disunify_eq]
  refine diseqResult_spec ho ht hi ?_ ?_
  · intro h γ hx heq
    exact unifyF_fail _ _ _ _ _ hs h ⟨γ, hx, heq⟩
  · intro σ' e h γ hx
    obtain ⟨_, _, un⟩ := unifyF_sound _ _ _ _ _ _ _ hs h
    have mg := unifyF_mgu _ _ _ _ _ _ _ hs h γ hx
    obtain ⟨δ, he, hiff, _, _⟩ := unifyF_ext _ _ _ _ _ _ _ hs h
    simp only [List.append_nil] at he
    subst he
    rw [diseqHolds_iff]
    have h1 : AllEq γ e ↔ Ext σ' γ := (hiff γ hx).symm
    rw [h1]
    exact ⟨fun a b => a (mg b), fun a b => a (unifies_of_ext b un)⟩

end Pv
