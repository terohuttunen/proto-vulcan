/-
  The textbook answer list contains only big-step answers: `evalRef n g a = some xs` and `b ∈ xs` give `BigF n g a b`.
  (So every invariant proved through the big-step semantics — `big_invariant`, Proofs/RelNoPanic.lean — holds of every
  state of the reference list, hence of every state the engine delivers: `ref_perm`.)
-/
import PvModel.Proofs.BigStep
namespace Pv
open Goal

variable {St K : Type} (defs : K → St → St × Goal St K)

theorem evalRef_mem_bigF : ∀ (n : Nat) (g : Goal St K) (a : St) (xs : List St), evalRef defs n g a = some xs →
    ∀ b ∈ xs, BigF defs n g a b := by
  intro n
  induction n with
  | zero => intro g a xs h; cases h
  | succ n ih =>
    intro g a xs h b hb
    cases g with
    | succeed =>
      cases h
      cases List.mem_singleton.1 hb
      rfl
    | fail =>
      cases h
      cases hb
    | atom f =>
      cases h
      exact Option.mem_toList.1 hb
    | dyn fs fg => exact ih _ _ xs h b hb
    | conj g1 g2 | conjD g1 g2 =>
      obtain ⟨ys, h1, h2⟩ := (evalRef_conj_iff (g1 := g1) (g2 := g2)).1 h
      obtain ⟨c, hc, zs, hz, hbz⟩ := (flatMapM_mem h2 b).1 hb
      exact ⟨c, ih g1 a ys h1 c hc, ih g2 c zs hz b hbz⟩
    | disj g1 g2 | disjD g1 g2 | alt g1 g2 | altD g1 g2 =>
      obtain ⟨ys, zs, h1, h2, rfl⟩ := (evalRef_alt_iff (g1 := g1) (g2 := g2)).1 h
      exact (List.mem_append.1 hb).imp (ih g1 a ys h1 b) (ih g2 a zs h2 b)
    | fresh g => exact ih g a xs h b hb
    | call k => exact ih _ _ xs h b hb
    | conda f r n' | condu f r n' | anyo g => cases h

theorem evalRef_mem_big {n : Nat} {g : Goal St K} {a : St} {xs : List St} (h : evalRef defs n g a = some xs) {b : St} (hb : b ∈ xs) :
    Big defs g a b := ⟨n, evalRef_mem_bigF defs n g a xs h b hb⟩

end Pv
