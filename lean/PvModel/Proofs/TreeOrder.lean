/-
  The answer sequence of a `==`/`!=` program does not depend on the hash-iteration order: instance of the
  parametricity theorem (`engine_rel`, Proofs/Param2.lean) with the relation "same substitution, same described valuations".
-/
import PvModel.Proofs.Param2
import PvModel.Proofs.DiseqNF
import PvModel.Proofs.FDProgram
namespace Pv
open Strm Goal

/-- two states the search may hold at the same position under two iteration orders -/
structure TR (st st' : State) : Prop where
  good : Good st
  good' : Good st'
  dnf : DNF st
  dnf' : DNF st'
  sig : st.σ = st'.σ
  sem : ∀ γ, StateSem γ st ↔ StateSem γ st'

/-- poisoned: the model ran out of unification fuel (the driver reports FUEL) -/
def Poisoned (st : State) : Prop := st.panic.isSome = true

/-- the substitution after posting an atom is a function of the substitution before -/
def sigOf (σ : Subst) : TAtom → Subst
  | .eq u v => match unifyF unifyFuel σ [] u v with
    | some (some (σ', _)) => σ'
    | _ => σ
  | .neq _ _ => σ

theorem postAtom_sig {ord : Order} (ho : OrderOK ord) {st st' : State} (a : TAtom) (hg : Good st)
    (hres : postAtom ord st a = .ok st') : st'.σ = sigOf st.σ a := by
  obtain ⟨hs, ht, hi⟩ := hg
  cases a with
  | neq u v => exact ((disunify_spec ho hs ht hi u v).ok st' hres).sig
  | eq u v =>
    simp only [postAtom] at hres
    unfold State.unify at hres
    simp only [sigOf]
    cases hu : unifyF unifyFuel st.σ [] u v with
    | none => rw [hu] at hres; cases hres
    | some r =>
      cases r with
      | none => rw [hu] at hres; cases hres
      | some q =>
        obtain ⟨σ', e⟩ := q
        rw [hu] at hres
        simp only [] at hres ⊢
        obtain ⟨s', _, _⟩ := unifyF_sound _ _ _ _ _ _ _ hs hu
        generalize hst1 : ({ st with σ := σ' } : State) = st1 at hres
        have hσ1 : st1.σ = σ' := by subst hst1; rfl
        have ht1 : TreeOnly st1 := by subst hst1; exact ht
        have hi1 : IdsOK st1 := by subst hst1; exact hi
        have hs1 : Solved st1.σ := by rw [hσ1]; exact s'
        unfold State.processExtension at hres
        obtain ⟨lok, _, _⟩ := loop_spec (State.runConstraintsF ord State.rcFuel) ho (ord.cs st1.store) st1 hs1 ht1 hi1
        cases hl : State.runConstraintsF ord (State.rcFuel + 1) st1 with
        | ok st2 =>
          have a := lok st2 (by rw [← runConstraintsF_succ]; exact hl)
          rw [hl] at hres
          simp only [Res.bind, processExtensionFd_tree ord st2 e a.tree.2, Res.ok.injEq] at hres
          subst hres
          rw [a.sig, hσ1]
        | fail => rw [hl] at hres; cases hres
        | fuel => rw [hl] at hres; cases hres
        | panic s => rw [hl] at hres; cases hres

theorem atomPass (f : State → Res State) : AtomPass Poisoned (liftRes f) := by
  intro a ha
  unfold Poisoned at ha
  simp [liftRes, ha]

theorem atom_rel {ord ord' : Order} (ho : OrderOK ord) (ho' : OrderOK ord') (a : TAtom) :
    AtomRel TR Poisoned (liftRes fun st => postAtom ord st a) (liftRes fun st => postAtom ord' st a) := by
  intro st st' ⟨hg, hg', hd, hd', hσ, hsem⟩
  cases hp : st.panic.isSome with
  | true => exact .inr ⟨st, hp, .inl (atomPass _ st hp)⟩
  | false =>
  cases hp' : st'.panic.isSome with
  | true => exact .inr ⟨st', hp', .inr (atomPass _ st' hp')⟩
  | false =>
  have noc : ∀ {s1 : State} {o o' : Order} {t t' : State}, OrderOK o → OrderOK o' → Good t → Good t' → DNF t →
      (∀ γ, StateSem γ t ↔ StateSem γ t') → postAtom o t a = .ok s1 → postAtom o' t' a = .fail → False := by
    intro s1 o o' t t' h h' g g' d sm h1 h2
    obtain ⟨g1, sem1⟩ := postAtom_ok o h t s1 a g h1
    obtain ⟨γ, hγ, _⟩ := dnf_sat g1.1 (postAtom_dnf h a g d h1)
    have := (sem1 γ).1 hγ
    exact postAtom_fail o' h' t' a g' h2 γ ⟨(sm γ).1 this.1, this.2⟩
  simp only [liftRes, hp, hp', Bool.false_eq_true, if_false]
  cases h1 : postAtom ord st a with
  | panic s => exact absurd h1 (postAtom_no_panic ord ho st a hg s)
  | fuel => exact .inr ⟨_, (rfl : Poisoned { st with panic := some "FUEL" }), .inl rfl⟩
  | ok s1 =>
    cases h2 : postAtom ord' st' a with
    | panic s => exact absurd h2 (postAtom_no_panic ord' ho' st' a hg' s)
    | fuel => exact .inr ⟨_, (rfl : Poisoned { st' with panic := some "FUEL" }), .inr rfl⟩
    | fail => exact (noc ho ho' hg hg' hd hsem h1 h2).elim
    | ok s2 =>
      obtain ⟨g1, sem1⟩ := postAtom_ok ord ho st s1 a hg h1
      obtain ⟨g2, sem2⟩ := postAtom_ok ord' ho' st' s2 a hg' h2
      refine .inl (.some ⟨g1, g2, postAtom_dnf ho a hg hd h1, postAtom_dnf ho' a hg' hd' h2, ?_, fun γ => ?_⟩)
      · rw [postAtom_sig ho a hg h1, postAtom_sig ho' a hg' h2, hσ]
      · rw [sem1, sem2, hsem]
  | fail =>
    cases h2 : postAtom ord' st' a with
    | panic s => exact absurd h2 (postAtom_no_panic ord' ho' st' a hg' s)
    | fuel => exact .inr ⟨_, (rfl : Poisoned { st' with panic := some "FUEL" }), .inr rfl⟩
    | fail => exact .inl .none
    | ok s2 => exact (noc ho' ho hg' hg hd' (fun γ => (hsem γ).symm) h2 h1).elim

/-- programs of `==`, `!=`, conjunction, `conde` and fresh, without a literal `fail` goal -/
def FProg.TreeNF : FProg → Prop
  | .atom (.eq _ _) => True
  | .atom (.neq _ _) => True
  | .atom _ => False
  | .conj p q => p.TreeNF ∧ q.TreeNF
  | .alt p q => p.TreeNF ∧ q.TreeNF
  | .fresh p => p.TreeNF
  | .succeed => True
  | .fail => False

theorem goal_rel {ord ord' : Order} (ho : OrderOK ord) (ho' : OrderOK ord') :
    ∀ (p : FProg), p.TreeNF → GRel (K := Call) TR Poisoned (p.goal ord) (p.goal ord')
  | .succeed, _ => .succeed
  | .fail, h => h.elim
  | .atom (.eq u v), _ => .atom (atom_rel ho ho' (.eq u v)) (atomPass _) (atomPass _)
  | .atom (.neq u v), _ => .atom (atom_rel ho ho' (.neq u v)) (atomPass _) (atomPass _)
  | .atom (.cst _), h => h.elim
  | .atom (.dom _ _), h => h.elim
  | .conj p q, h => .conj (goal_rel ho ho' p h.1) (goal_rel ho ho' q h.2)
  | .alt p q, h => .alt (goal_rel ho ho' p h.1) (goal_rel ho ho' q h.2)
  | .fresh p, h => .fresh (goal_rel ho ho' p h)

theorem tr_empty (n : Nat) : TR (State.empty n) (State.empty n) :=
  ⟨good_empty n, good_empty n, (fun q hq => nomatch hq), (fun q hq => nomatch hq), rfl, fun _ => Iff.rfl⟩

/-- The answer sequence is order-free: a program of `==`, `!=`, conjunction, `conde` and fresh (no literal
    `fail`), run by the interleaving engine under two hash-iteration orders — the states delivered within any
    number `n` of engine steps are, position by position, related: the same substitution and the same described
    valuations (so: the same number of answers, in the same order, each with the same reified terms and an
    equivalent constraint set) — unless one of the two runs hit the model's unification fuel, in which case a
    poisoned state is among that run's answers (the driver prints FUEL). -/
theorem tree_sequence_order_free {ord ord' : Order} (ho : OrderOK ord) (ho' : OrderOK ord')
    (dfs dfs' : Call → State → State × G) (pf M nv : Nat) (p : FProg) (hp : p.TreeNF) (n : Nat) :
    Pointwise TR (runF (solveAt dfs pf (M + 1)) n (solveAt dfs pf (M + 1) (p.goal ord) (State.empty nv)))
        (runF (solveAt dfs' pf (M + 1)) n (solveAt dfs' pf (M + 1) (p.goal ord') (State.empty nv))) ∨
      ∃ s, Poisoned s ∧ (MemS (solveAt dfs pf (M + 1)) s (solveAt dfs pf (M + 1) (p.goal ord) (State.empty nv)) ∨
        MemS (solveAt dfs' pf (M + 1)) s (solveAt dfs' pf (M + 1) (p.goal ord') (State.empty nv))) :=
  engine_rel dfs dfs' pf M (goal_rel ho ho' p hp) (tr_empty nv) n

theorem tree_answers_order_free {ord ord' : Order} (ho : OrderOK ord) (ho' : OrderOK ord')
    (dfs dfs' : Call → State → State × G) (pf M nv : Nat) (p : FProg) (hp : p.TreeNF) (k k' : Nat) (ys ys' : List State)
    (h : drainF (solveAt dfs pf (M + 1)) k (solveAt dfs pf (M + 1) (p.goal ord) (State.empty nv)) = some ys)
    (h' : drainF (solveAt dfs' pf (M + 1)) k' (solveAt dfs' pf (M + 1) (p.goal ord') (State.empty nv)) = some ys') :
    Pointwise TR ys ys' ∨ ∃ s, Poisoned s ∧ (s ∈ ys ∨ s ∈ ys') := by
  have r := drain_run _ _ _ _ (drain_mono k k' _ _ h)
  have r' := drain_run _ _ _ _ (drain_mono k' k _ _ h')
  rw [Nat.add_comm k' k] at r'
  rcases tree_sequence_order_free ho ho' dfs dfs' pf M nv p hp (k + k') with pw | ⟨s, hs, m⟩
  · rw [r, r'] at pw
    exact .inl pw
  · refine .inr ⟨s, hs, ?_⟩
    rcases m with m | m
    · exact .inl (drain_complete (topOK_solveAt dfs pf M) _ _ _ h s m)
    · exact .inr (drain_complete (topOK_solveAt dfs' pf M) _ _ _ h' s m)

end Pv
