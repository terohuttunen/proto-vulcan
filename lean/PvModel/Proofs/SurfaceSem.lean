/-
  Ground semantics of the macro translation: the elaborated goal (ids, existentially closed over the ids
  the elaboration allocates) means exactly what the surface clause is documented to mean.

  * `DenT ρ t v` : under the valuation ρ of NAMES the surface term `t` can denote the value `v`
                   (`_` may denote anything).
  * `Den ρ g`    : the documented meaning of a clause: `==` some common value, `!=` two different values,
                   `[..]` ∧, `conde` ∨, `|x| {..}` ∃ value of x, `match t { p => body, rest }`
                   (∃ values of the pattern's names such that t and p denote the same value and the body
                   holds) ∨ the remaining arms.
  * `SatE γ e`   : the elaborated goal under a valuation γ of variable IDS.
  * `Impl env n n' D S` : the condition `S` on valuations of ids implements the condition `D` on valuations of
                   names, between the counters `n` and `n'`; implementations compose as the elaboration does
                   (`seq`, `or`, `bind`, `fresh`, `binders`), which is the proof of `elab_sem`.
-/
import PvModel.Proofs.Surface
import PvModel.Model.Subst
namespace Pv
namespace Surface
open STerm SGoal

abbrev Valu := Nat → Term      -- ids ↦ values
abbrev NValu := Name → Term    -- names ↦ values

inductive DenT (ρ : NValu) : STerm → Term → Prop where
  | var (x) : DenT ρ (.var x) (ρ x)
  | any (v) : DenT ρ .any v
  | val (c) : DenT ρ (.val c) (.val c)
  | nil : DenT ρ .nil .nil
  | cons {h t vh vt} : DenT ρ h vh → DenT ρ t vt → DenT ρ (.cons h t) (.cons vh vt)
  | comp {g a va} : DenT ρ a va → DenT ρ (.comp g a) (.comp g va)

def SatE (γ : Valu) : EGoal → Prop
  | .eq a b => apply γ a = apply γ b
  | .neq a b => apply γ a ≠ apply γ b
  | .succ => True
  | .fail => False
  | .conj g1 g2 => SatE γ g1 ∧ SatE γ g2
  | .disj g1 g2 => SatE γ g1 ∨ SatE γ g2
  | .fresh g => SatE γ g

def Den : NValu → SGoal → Prop
  | ρ, .eq a b => ∃ v, DenT ρ a v ∧ DenT ρ b v
  | ρ, .neq a b => ∃ va vb, DenT ρ a va ∧ DenT ρ b vb ∧ va ≠ vb
  | _, .tt => True
  | _, .ff => False
  | ρ, .conj g1 g2 => Den ρ g1 ∧ Den ρ g2
  | ρ, .disj g1 g2 => Den ρ g1 ∨ Den ρ g2
  | ρ, .fresh x g => ∃ d, Den (fun y => if y = x then d else ρ y) g
  | ρ, .mtch t p body rest =>
    (∃ ρ' : NValu, (∀ y, y ∉ p.names → ρ' y = ρ y) ∧ ∃ v, DenT ρ t v ∧ DenT ρ' p v ∧ Den ρ' body) ∨ Den ρ rest

theorem denT_congr (ρ ρ' : NValu) (t : STerm) (v : Term) (h : ∀ x, t.mentions x = true → ρ x = ρ' x)
    (hd : DenT ρ t v) : DenT ρ' t v := by
  induction hd with
  | var x => rw [h x (beq_self_eq_true x)]; exact .var x
  | any v => exact .any v
  | val c => exact .val c
  | nil => exact .nil
  | cons _ _ ih1 ih2 =>
    exact .cons (ih1 fun x hx => h x (Bool.or_eq_true_iff.2 (.inl hx))) (ih2 fun x hx => h x (Bool.or_eq_true_iff.2 (.inr hx)))
  | comp _ ih => exact .comp (ih h)

section
variable {ρ : NValu} {v : Term}

theorem denT_var {x : Name} : DenT ρ (.var x) v ↔ ρ x = v :=
  ⟨fun h => by cases h; rfl, fun h => h ▸ .var x⟩

theorem denT_any : DenT ρ .any v ↔ True := ⟨fun _ => trivial, fun _ => .any v⟩

theorem denT_val {c : Val} : DenT ρ (.val c) v ↔ .val c = v :=
  ⟨fun h => by cases h; rfl, fun h => h ▸ .val c⟩

theorem denT_nil : DenT ρ .nil v ↔ .nil = v :=
  ⟨fun h => by cases h; rfl, fun h => h ▸ .nil⟩

theorem denT_cons {h t : STerm} : DenT ρ (.cons h t) v ↔ ∃ vh, DenT ρ h vh ∧ ∃ vt, DenT ρ t vt ∧ .cons vh vt = v :=
  ⟨fun d => by cases d with | cons d1 d2 => exact ⟨_, d1, _, d2, rfl⟩, fun ⟨_, d1, _, d2, e⟩ => e ▸ .cons d1 d2⟩

theorem denT_comp {g : Nat} {a : STerm} : DenT ρ (.comp g a) v ↔ ∃ va, DenT ρ a va ∧ .comp g va = v :=
  ⟨fun d => by cases d with | comp d1 => exact ⟨_, d1, rfl⟩, fun ⟨_, d1, e⟩ => e ▸ .comp d1⟩
end

/-- `S`, a condition on valuations of ids, implements `D`, a condition on valuations of the names in scope, from
    counter `n` to counter `n'`: when the names in scope map below `n`, `S` looks only at the ids below `n'`, and `D`
    holds under `γ0 ∘ env` exactly when `S` holds for some choice of values for the ids from `n` on. -/
structure Impl (env : Env) (n n' : Nat) (D : NValu → Prop) (S : Valu → Prop) : Prop where
  le : n ≤ n'
  loc : (∀ x, env x < n) → ∀ γ γ' : Valu, (∀ w, w < n' → γ w = γ' w) → (S γ ↔ S γ')
  sem : (∀ x, env x < n) → ∀ γ0 : Valu,
    D (fun x => γ0 (env x)) ↔ ∃ γ : Valu, (∀ w, w < n → γ w = γ0 w) ∧ S γ

theorem comp_env_eq {env : Env} {n : Nat} {γ γ0 : Valu} (henv : ∀ x, env x < n) (hg : ∀ w, w < n → γ w = γ0 w) :
    (fun x => γ (env x)) = fun x => γ0 (env x) := funext fun x => hg _ (henv x)

namespace Impl
variable {env : Env} {n n1 n2 : Nat} {D D' D1 D2 : NValu → Prop} {S S' S1 S2 : Valu → Prop}

theorem pure (env : Env) (n : Nat) (P : Prop) : Impl env n n (fun _ => P) (fun _ => P) where
  le := Nat.le_refl n
  loc _ _ _ _ := Iff.rfl
  sem _ γ0 := ⟨fun h => ⟨γ0, fun _ _ => rfl, h⟩, fun ⟨_, _, h⟩ => h⟩

theorem name (env : Env) (x : Name) (n : Nat) (v : Term) : Impl env n n (fun ρ => ρ x = v) (fun γ => γ (env x) = v) where
  le := Nat.le_refl n
  loc henv γ γ' hg := by rw [hg _ (henv x)]
  sem henv γ0 := ⟨fun h => ⟨γ0, fun _ _ => rfl, h⟩, fun ⟨_, hg, h⟩ => (hg _ (henv x)).symm.trans h⟩

theorem alloc (env : Env) (n : Nat) (v : Term) : Impl env n (n + 1) (fun _ => True) (fun γ => γ n = v) where
  le := Nat.le_succ n
  loc _ γ γ' hg := by rw [hg n (Nat.lt_succ_self n)]
  sem _ γ0 := ⟨fun _ => ⟨fun w => if w = n then v else γ0 w, fun w hw => if_neg (Nat.ne_of_lt hw), if_pos rfl⟩,
    fun _ => trivial⟩

theorem congr (hD : ∀ ρ, D ρ ↔ D' ρ) (hS : ∀ γ, S γ ↔ S' γ) (h : Impl env n n1 D S) : Impl env n n1 D' S' where
  le := h.le
  loc henv γ γ' hg := ((hS γ).symm.trans (h.loc henv γ γ' hg)).trans (hS γ')
  sem henv γ0 := ((hD _).symm.trans (h.sem henv γ0)).trans (exists_congr fun γ => and_congr_right fun _ => hS γ)

theorem ex {α : Type} [Inhabited α] {D : α → NValu → Prop} {S : α → Valu → Prop}
    (h : ∀ a, Impl env n n1 (D a) (S a)) : Impl env n n1 (fun ρ => ∃ a, D a ρ) (fun γ => ∃ a, S a γ) where
  le := (h default).le
  loc henv γ γ' hg := exists_congr fun a => (h a).loc henv γ γ' hg
  sem henv γ0 := (exists_congr fun a => (h a).sem henv γ0).trans
    ⟨fun ⟨a, γ, hg, s⟩ => ⟨γ, hg, a, s⟩, fun ⟨γ, hg, a, s⟩ => ⟨a, γ, hg, s⟩⟩

theorem seq (h1 : Impl env n n1 D1 S1) (h2 : Impl env n1 n2 D2 S2) :
    Impl env n n2 (fun ρ => D1 ρ ∧ D2 ρ) (fun γ => S1 γ ∧ S2 γ) where
  le := Nat.le_trans h1.le h2.le
  loc henv γ γ' hg := and_congr (h1.loc henv γ γ' fun w hw => hg w (Nat.lt_of_lt_of_le hw h2.le))
    (h2.loc (fun x => Nat.lt_of_lt_of_le (henv x) h1.le) γ γ' hg)
  sem henv γ0 := by
    have henv1 : ∀ x, env x < n1 := fun x => Nat.lt_of_lt_of_le (henv x) h1.le
    constructor
    · rintro ⟨d1, d2⟩
      obtain ⟨γ1, g1, s1⟩ := (h1.sem henv γ0).1 d1
      rw [← comp_env_eq henv g1] at d2
      obtain ⟨γ2, g2, s2⟩ := (h2.sem henv1 γ1).1 d2
      exact ⟨γ2, fun w hw => (g2 w (Nat.lt_of_lt_of_le hw h1.le)).trans (g1 w hw), (h1.loc henv γ2 γ1 g2).2 s1, s2⟩
    · rintro ⟨γ, hg, s1, s2⟩
      refine ⟨(h1.sem henv γ0).2 ⟨γ, hg, s1⟩, ?_⟩
      rw [← comp_env_eq henv hg]
      exact (h2.sem henv1 γ).2 ⟨γ, fun _ _ => rfl, s2⟩

theorem bind {Da Dk : Term → NValu → Prop} {fa : Valu → Term} {Sk : Term → Valu → Prop}
    (ha : ∀ v, Impl env n n1 (Da v) (fun γ => fa γ = v)) (hk : ∀ v, Impl env n1 n2 (Dk v) (Sk v)) :
    Impl env n n2 (fun ρ => ∃ v, Da v ρ ∧ Dk v ρ) (fun γ => Sk (fa γ) γ) :=
  (Impl.ex fun v => (ha v).seq (hk v)).congr (fun _ => Iff.rfl)
    fun _ => ⟨fun ⟨_, e, s⟩ => e ▸ s, fun s => ⟨_, rfl, s⟩⟩

theorem mono (h : Impl env n1 n2 D S) (hle : n ≤ n1) : Impl env n n2 D S where
  le := Nat.le_trans hle h.le
  loc henv := h.loc fun x => Nat.lt_of_lt_of_le (henv x) hle
  sem henv γ0 := by
    have henv1 : ∀ x, env x < n1 := fun x => Nat.lt_of_lt_of_le (henv x) hle
    constructor
    · intro d
      obtain ⟨γ, hg, s⟩ := (h.sem henv1 γ0).1 d
      exact ⟨γ, fun w hw => hg w (Nat.lt_of_lt_of_le hw hle), s⟩
    · rintro ⟨γ, hg, s⟩
      rw [← comp_env_eq henv hg]
      exact (h.sem henv1 γ).2 ⟨γ, fun _ _ => rfl, s⟩

theorem or (h1 : Impl env n n1 D1 S1) (h2 : Impl env n1 n2 D2 S2) :
    Impl env n n2 (fun ρ => D1 ρ ∨ D2 ρ) (fun γ => S1 γ ∨ S2 γ) where
  le := Nat.le_trans h1.le h2.le
  loc henv γ γ' hg := or_congr (h1.loc henv γ γ' fun w hw => hg w (Nat.lt_of_lt_of_le hw h2.le))
    (h2.loc (fun x => Nat.lt_of_lt_of_le (henv x) h1.le) γ γ' hg)
  sem henv γ0 := (or_congr (h1.sem henv γ0) ((h2.mono h1.le).sem henv γ0)).trans
    (exists_or.symm.trans (exists_congr fun _ => and_or_left.symm))

theorem fresh {x : Name} (h : Impl (env.bind x n) (n + 1) n1 D S) :
    Impl env n n1 (fun ρ => ∃ d, D (fun y => if y = x then d else ρ y)) S := by
  have lt (henv : ∀ y, env y < n) : ∀ y, env.bind x n y < n + 1 := fun y => by
    by_cases e : y = x
    · rw [e, Env.bind_self]; exact Nat.lt_succ_self n
    · rw [Env.bind_ne e]; exact Nat.lt_succ_of_lt (henv y)
  refine ⟨Nat.le_trans (Nat.le_succ n) h.le, fun henv => h.loc (lt henv), fun henv γ0 => ?_⟩
  have key : ∀ (γ : Valu) (d : Term), γ n = d → (∀ w, w < n → γ w = γ0 w) →
      (fun y => γ (env.bind x n y)) = fun y => if y = x then d else γ0 (env y) := fun γ d hd hg => funext fun y => by
    by_cases e : y = x
    · rw [if_pos e, e, Env.bind_self, hd]
    · rw [if_neg e, Env.bind_ne e, hg _ (henv y)]
  constructor
  · rintro ⟨d, hd⟩
    let γ1 : Valu := fun w => if w = n then d else γ0 w
    have hlow : ∀ w, w < n → γ1 w = γ0 w := fun w hw => if_neg (Nat.ne_of_lt hw)
    rw [← key γ1 d (if_pos rfl) hlow] at hd
    obtain ⟨γ, hg, s⟩ := (h.sem (lt henv) γ1).1 hd
    exact ⟨γ, fun w hw => (hg w (Nat.lt_succ_of_lt hw)).trans (hlow w hw), s⟩
  · rintro ⟨γ, hg, s⟩
    refine ⟨γ n, ?_⟩
    rw [← key γ (γ n) rfl hg]
    exact (h.sem (lt henv) γ).2 ⟨γ, fun _ _ => rfl, s⟩

theorem binders {ns : List Name} {env : Env} {n m : Nat} (hm : m = n + ns.length) (h : Impl (bindAll env ns n) m n1 D S) :
    Impl env n n1 (fun ρ => ∃ ρ' : NValu, (∀ y, y ∉ ns → ρ' y = ρ y) ∧ D ρ') S := by
  induction ns generalizing env n with
  | nil =>
    subst hm
    exact h.congr
      (fun ρ => ⟨fun d => ⟨ρ, fun _ _ => rfl, d⟩, fun ⟨ρ', ho, d⟩ => (funext fun y => ho y (List.not_mem_nil)) ▸ d⟩)
      (fun _ => Iff.rfl)
  | cons x xs ih =>
    exact (ih (env := env.bind x n) (n := n + 1) (by rw [hm, List.length_cons]; omega) h).fresh.congr
      (fun ρ => ⟨fun ⟨d, ρ', ho, dd⟩ => ⟨ρ', fun y hy => (ho y fun hm => hy (List.mem_cons_of_mem x hm)).trans
          (if_neg fun e : y = x => hy (e ▸ List.mem_cons_self)), dd⟩,
        fun ⟨ρ', ho, dd⟩ => ⟨ρ' x, ρ', fun y hy => by
          show ρ' y = if y = x then ρ' x else ρ y
          by_cases e : y = x
          · rw [if_pos e, e]
          · rw [if_neg e]; exact ho y fun hm => (List.mem_cons.1 hm).elim e hy, dd⟩⟩)
      (fun _ => Iff.rfl)

end Impl

theorem elabT_impl (env : Env) (t : STerm) (n : Nat) (v : Term) :
    Impl env n (elabT env t n).2 (fun ρ => DenT ρ t v) (fun γ => apply γ (elabT env t n).1 = v) := by
  induction t generalizing n v with
  | var x => exact (Impl.name env x n v).congr (fun _ => denT_var.symm) fun _ => Iff.rfl
  | any => exact (Impl.alloc env n v).congr (fun _ => denT_any.symm) fun _ => Iff.rfl
  | val c => exact (Impl.pure env n (.val c = v)).congr (fun _ => denT_val.symm) fun _ => Iff.rfl
  | nil => exact (Impl.pure env n (.nil = v)).congr (fun _ => denT_nil.symm) fun _ => Iff.rfl
  | cons a b iha ihb =>
    exact (Impl.bind (iha n) fun va => Impl.bind (ihb _) fun vb => Impl.pure env _ (.cons va vb = v)).congr
      (fun _ => denT_cons.symm) fun _ => Iff.rfl
  | comp g a ih =>
    exact (Impl.bind (ih n) fun va => Impl.pure env _ (.comp g va = v)).congr (fun _ => denT_comp.symm) fun _ => Iff.rfl

theorem elabG_impl (g : SGoal) (env : Env) (n : Nat) :
    Impl env n (elabG env g n).2 (fun ρ => Den ρ g) (fun γ => SatE γ (elabG env g n).1) := by
  induction g generalizing env n with
  | eq a b => exact (Impl.bind (elabT_impl env a n) (elabT_impl env b _)).congr (fun _ => Iff.rfl) fun _ => eq_comm
  | neq a b =>
    exact (Impl.bind (elabT_impl env a n) fun va => Impl.bind (elabT_impl env b _) fun vb => Impl.pure env _ (va ≠ vb)).congr
      (fun _ => exists_congr fun _ => exists_and_left.symm) fun _ => Iff.rfl
  | tt => exact Impl.pure env n True
  | ff => exact Impl.pure env n False
  | conj g1 g2 ih1 ih2 => exact (ih1 env n).seq (ih2 env _)
  | disj g1 g2 ih1 ih2 => exact (ih1 env n).or (ih2 env _)
  | fresh x g ih => exact (ih (env.bind x n) (n + 1)).fresh
  | mtch t p body rest ihb ihr =>
    -- the matched term is evaluated first, in the outer scope; then the arm under the pattern's binders
    exact ((Impl.bind (elabT_impl env t n) fun v =>
        Impl.binders rfl ((elabT_impl _ p _ v).seq (ihb (bindAll env p.names (elabT env t n).2) _))).congr
      (fun _ => ⟨fun ⟨v, dt, ρ', ho, d⟩ => ⟨ρ', ho, v, dt, d⟩, fun ⟨ρ', ho, v, dt, d⟩ => ⟨v, dt, ρ', ho, d⟩⟩)
      (fun _ => and_congr_left' eq_comm)).or (ihr env _)

/-- The documented meaning: a clause holds under a valuation of the names in scope iff the elaborated goal
    holds for some choice of values for the variables the elaboration allocates. -/
theorem elab_sem : ∀ (g : SGoal) (env : Env) (γ0 : Valu) (n : Nat), (∀ x, env x < n) →
    (Den (fun x => γ0 (env x)) g ↔ ∃ γ : Valu, (∀ w, w < n → γ w = γ0 w) ∧ SatE γ (elabG env g n).1) :=
  fun g env γ0 n henv => (elabG_impl g env n).sem henv γ0

end Surface
end Pv
