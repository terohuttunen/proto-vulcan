/-
  Normal form of stored disequalities and satisfiability: in a state reached by posting `==` / `!=`, every stored
  disequality is the extension of a unification under the state's own substitution, so it is not empty and each of
  its pairs `(x, t)` has `x` unbound, `t` normal and `x` not in `t`; and such a state always describes a ground
  valuation (the universe is infinite: give every unbound variable its own large number).  Hence the solver decides:
  posting succeeds iff the atoms have a (ground) solution.
-/
import PvModel.Proofs.Tree
namespace Pv
open Term

/-- a pair of a disequality that is in normal form under σ: the variable is unbound, the term is σ-normal and
    does not contain the variable -/
def PairNF (σ : Subst) (p : Nat × Term) : Prop :=
  σ p.1 = .var p.1 ∧ apply σ p.2 = p.2 ∧ occurs p.1 p.2 = false

theorem normal_vars {σ : Subst} : ∀ (u : Term), apply σ u = u → ∀ y ∈ u.vars, σ y = .var y :=
  fun _ => apply_eq_self_iff.1

theorem normal_mono {σ σ1 : Subst} (hm : ∀ y, σ1 y = .var y → σ y = .var y) (t : Term) (h : apply σ1 t = t) :
    apply σ t = t :=
  apply_eq_self_iff.2 fun y hy => hm y (apply_eq_self_iff.1 h y hy)

theorem Chain.pairNF {σ : Subst} {δ : Ext1} (h : Chain σ δ) : ∀ p ∈ δ, PairNF σ p := by
  induction h with
  | nil _ => exact fun _ hp => (nomatch hp)
  | cons hc hx ht ho ih =>
    exact List.forall_mem_cons.2 ⟨⟨hc.unbound hx, normal_mono (fun _ hy => hc.unbound hy) _ ht, ho⟩, ih⟩

/-- a stored disequality in normal form: non-empty, every pair normal -/
def HasNF (σ : Subst) (ps : Ext1) : Prop := ps ≠ [] ∧ ∀ p ∈ ps, PairNF σ p

/-- every stored disequality whose identity is not in `R` is in normal form under the state's substitution -/
def DNFX (R : Nat → Prop) (st : State) : Prop :=
  ∀ q ∈ st.store, ∀ ps, q.2 = .diseq ps → R q.1 ∨ HasNF st.σ ps

abbrev DNF (st : State) : Prop := DNFX (fun _ => False) st

theorem DNF.hasNF {st : State} (h : DNF st) {q : Nat × Cst} (hq : q ∈ st.store) {ps : Ext1} (he : q.2 = .diseq ps) :
    HasNF st.σ ps :=
  (h q hq ps he).resolve_left id

theorem DNF.of_hasNF {st : State} (h : ∀ q ∈ st.store, ∀ ps, q.2 = .diseq ps → HasNF st.σ ps) : DNF st :=
  fun q hq ps he => .inr (h q hq ps he)

theorem Answers.hasNF {σ σ' : Subst} {e : Ext1} {V : Nat → Prop} {P : Subst → Prop}
    (h : Answers σ [] V P (some (σ', e))) (hne : e ≠ []) : HasNF σ e := by
  obtain ⟨-, a⟩ := h.of_nil
  exact ⟨hne, a.chain.pairNF⟩

theorem disunify_dnf (ord : Order) {st st' : State} (hs : Solved st.σ) (h : DNF st) (u v : Term)
    (hres : State.disunify ord st u v = .ok st') : DNF st' := by
  rw [disunify_eq] at hres
  obtain ⟨hσ, _, hmem⟩ := diseqResult_store hres
  intro q hq ps he
  rw [hσ]
  rcases hmem q hq with h0 | ⟨σ', e, hu, hne, hqe⟩
  · exact h q h0 ps he
  · rw [he] at hqe
    cases hqe
    exact .inr ((unifyF_chain hs hu).hasNF hne)

/-- `run_constraints` re-normalises every stored disequality, whatever the state it starts from -/
theorem runConstraintsF_dnf {ord : Order} (ho : OrderOK ord) (n : Nat) {st st' : State} (hs : Solved st.σ) (ht : TreeOnly st)
    (hi : IdsOK st) (hres : State.runConstraintsF ord (n + 1) st = .ok st') : DNF st' := by
  intro q hq ps he
  rw [((runConstraintsF_spec ho n hs ht hi).ok st' hres).sig]
  exact .inr (runConstraintsF_store ho n (J := fun _ => True) (I := HasNF st.σ) hs ht hi (fun _ _ => trivial)
    (fun ps σ' e _ hu hne => (unifyPairsF_chain hs hu).hasNF hne) (fun _ _ _ _ => trivial) hres q hq ps he)

theorem unify_dnf {ord : Order} (ho : OrderOK ord) {st st' : State} (hg : Good st) (u v : Term)
    (hres : st.unify ord u v = .ok st') : DNF st' := by
  obtain ⟨σ', e, st2, _, hg1, hl, rfl⟩ := unify_ok_good ho hg hres
  exact runConstraintsF_dnf (st' := st2) ho State.rcFuel hg1.1 hg1.2.1 hg1.2.2 hl

theorem postAtom_dnf {ord : Order} (ho : OrderOK ord) {st st' : State} (a : TAtom) (hg : Good st) (hd : DNF st)
    (hres : postAtom ord st a = .ok st') : DNF st' := by
  cases a with
  | eq u v => exact unify_dnf ho hg u v hres
  | neq u v => exact disunify_dnf ord hg.1 hd u v hres

theorem postAll_dnf {ord : Order} (ho : OrderOK ord) : ∀ (as : List TAtom) (st st' : State), Good st → DNF st →
    postAll ord st as = .ok st' → DNF st' := fun _ _ _ hg hd h =>
  postAll_good_invariant ho (fun a _ _ _ hs hd' h1 => postAtom_dnf ho a hs hd' h1) hg hd h

theorem postAll_reach {ord : Order} (ho : OrderOK ord) {as : List TAtom} {st st' : State} (hg : Good st) (hd : DNF st)
    (h : postAll ord st as = .ok st') :
    Good st' ∧ DNF st' ∧ ∀ γ : Subst, StateSem γ st' ↔ (StateSem γ st ∧ ∀ a ∈ as, a.Sat γ) :=
  have a := postAll_ok ord ho _ _ as hg h
  ⟨a.1, postAll_dnf ho as _ st' hg hd h, a.2⟩

theorem dnf_empty (n : Nat) : DNF (State.empty n) := fun _ hq => nomatch hq

theorem apply_comp (β σ : Subst) : ∀ s : Term, apply (fun y => apply β (σ y)) s = apply β (apply σ s) :=
  fun s => (apply_apply β σ s).symm

theorem vars_apply_ground {β : Subst} (hβ : ∀ z, (β z).vars = []) (t : Term) : (apply β t).vars = [] :=
  List.eq_nil_iff_forall_not_mem.2 fun y hy =>
    let ⟨z, _, hyz⟩ := mem_vars_apply.1 hy
    nomatch (hβ z ▸ hyz : y ∈ [])

theorem le_sum_of_mem : ∀ {l : List Nat} {x : Nat}, x ∈ l → x ≤ l.sum
  | y :: l, x, h => by
    rw [List.sum_cons]
    rcases List.mem_cons.1 h with rfl | h
    · exact Nat.le_add_right ..
    · exact Nat.le_trans (le_sum_of_mem h) (Nat.le_add_left ..)

/-- the numeral `n` occurs in the term -/
def occNum (n : Int) : Term → Bool
  | .val (.num m) => m == n
  | .cons h t => occNum n h || occNum n t
  | .comp _ a => occNum n a
  | _ => false

/-- an upper bound (exclusive) on the non-negative numerals of a term -/
def maxNum : Term → Nat
  | .val (.num m) => m.toNat + 1
  | .cons h t => max (maxNum h) (maxNum t)
  | .comp _ a => maxNum a
  | _ => 0

theorem occNum_lt {n : Nat} : ∀ {t : Term}, occNum (n : Int) t = true → n < maxNum t
  | .val (.num m), h => by
    simp only [occNum, beq_iff_eq] at h
    rw [h]
    exact Nat.lt_succ_of_le (Nat.le_of_eq (Int.toNat_natCast n).symm)
  | .val (.bool _), h => by simp [occNum] at h
  | .val (.chr _), h => by simp [occNum] at h
  | .val (.str _), h => by simp [occNum] at h
  | .var _, h => by simp [occNum] at h
  | .nil, h => by simp [occNum] at h
  | .cons a b, h => by
    simp only [occNum, Bool.or_eq_true] at h
    rcases h with h | h
    · exact Nat.lt_of_lt_of_le (occNum_lt h) (Nat.le_max_left ..)
    · exact Nat.lt_of_lt_of_le (occNum_lt h) (Nat.le_max_right ..)
  | .comp _ a, h => occNum_lt (t := a) h

/-- the valuation that keeps `θ` on the visible variables `V` and gives every other variable `z` the number `N + z` -/
def mixVal (V : List Nat) (θ : Subst) (N : Nat) : Subst :=
  fun z => if z ∈ V then θ z else Term.num ((N + z : Nat) : Int)

/-- the number `N + h` of a variable `h` that is not kept marks it: under the mixed valuation it occurs in the value of
    a term with small numerals exactly when `h` occurs in the term -/
theorem occNum_apply_mix {V : List Nat} {θ : Subst} {N h : Nat} (hh : h ∉ V) (hV : ∀ y ∈ V, maxNum (θ y) ≤ N) :
    ∀ {t : Term}, maxNum t ≤ N → (occNum ((N + h : Nat) : Int) (apply (mixVal V θ N) t) = true ↔ h ∈ t.vars)
  | .var y, _ => by
    simp only [apply, mixVal, Term.vars, List.mem_singleton]
    split
    · rename_i hy
      refine ⟨fun ho => ?_, fun e => absurd (e ▸ hy) hh⟩
      exact absurd (Nat.lt_of_lt_of_le (occNum_lt ho) (hV y hy)) (Nat.not_lt.2 (Nat.le_add_right N h))
    · simp only [Term.num, occNum, beq_iff_eq]
      rw [Int.natCast_inj, Nat.add_left_cancel_iff, eq_comm]
  | .val (.num m), hm => by
    simp only [maxNum] at hm
    simp only [apply, occNum, beq_iff_eq, Term.vars, List.not_mem_nil, iff_false]
    intro e
    rw [e, Int.toNat_natCast] at hm
    exact absurd hm (Nat.not_succ_le_self _ ∘ Nat.le_trans (Nat.succ_le_succ (Nat.le_add_right N h)))
  | .val (.bool _), _ => ⟨fun h => (nomatch h), fun h => (nomatch h)⟩
  | .val (.chr _), _ => ⟨fun h => (nomatch h), fun h => (nomatch h)⟩
  | .val (.str _), _ => ⟨fun h => (nomatch h), fun h => (nomatch h)⟩
  | .nil, _ => ⟨fun h => (nomatch h), fun h => (nomatch h)⟩
  | .cons a b, hm => by
    show (occNum _ (apply _ a) || occNum _ (apply _ b)) = true ↔ h ∈ a.vars ++ b.vars
    rw [Bool.or_eq_true, List.mem_append, occNum_apply_mix hh hV (t := a) (Nat.le_trans (Nat.le_max_left ..) hm),
      occNum_apply_mix hh hV (t := b) (Nat.le_trans (Nat.le_max_right ..) hm)]
  | .comp _ a, hm => occNum_apply_mix hh hV (t := a) hm

theorem apply_agree {f g : Subst} : ∀ {t : Term}, (∀ y ∈ t.vars, f y = g y) → apply f t = apply g t :=
  apply_eq_iff.2

/-- a normal-form pair that mentions a hidden variable is different under the mixed valuation: the number of that
    variable occurs on exactly one side -/
theorem pair_differs_hidden {σ θ : Subst} {V : List Nat} {N : Nat} {p : Nat × Term} (hnf : PairNF σ p)
    (hV : ∀ y ∈ V, maxNum (θ y) ≤ N) (hN : maxNum p.2 ≤ N) (hid : ∃ h ∈ p.1 :: p.2.vars, h ∉ V) :
    apply (fun y => apply (mixVal V θ N) (σ y)) (.var p.1) ≠ apply (fun y => apply (mixVal V θ N) (σ y)) p.2 := by
  obtain ⟨x, t⟩ := p
  obtain ⟨hx, ht, ho⟩ := hnf
  obtain ⟨h, hh, hhV⟩ := hid
  have hxt : x ∉ t.vars := fun hm => by
    rw [occurs_iff.2 hm] at ho
    cases ho
  rw [apply_comp, apply_comp, ht, show apply σ (.var x) = .var x from hx]
  intro e
  have l := occNum_apply_mix hhV hV (t := .var x) (Nat.zero_le N)
  rw [e, occNum_apply_mix hhV hV hN] at l
  rcases List.mem_cons.1 hh with rfl | hm
  · exact hxt (l.2 (List.mem_singleton.2 rfl))
  · rw [List.mem_singleton.1 (l.1 hm)] at hm
    exact hxt hm

/-- the variables a disequality mentions -/
def diseqVars (ps : Ext1) : List Nat := ps.flatMap fun p => p.1 :: p.2.vars

/-- If every stored disequality that mentions only variables of `V` holds under `θ`, the state describes the mixed
    valuation: a disequality that mentions another variable has a pair that this valuation makes different. -/
theorem dnf_mix {st : State} (hs : Solved st.σ) (hd : DNF st) (V : List Nat) (θ : Subst)
    (hvis : ∀ q ∈ st.store, ∀ ps, q.2 = .diseq ps → (∀ y ∈ diseqVars ps, y ∈ V) → DiseqHolds θ ps) :
    ∃ N, StateSem (fun y => apply (mixVal V θ N) (st.σ y)) st := by
  let N : Nat := (V.map fun y => maxNum (θ y)).sum +
    (st.store.flatMap fun q => match q.2 with
      | .diseq ps => ps.map fun p => maxNum p.2
      | _ => []).sum
  have hV : ∀ y ∈ V, maxNum (θ y) ≤ N := fun y hy =>
    Nat.le_trans (le_sum_of_mem (List.mem_map_of_mem (f := fun y => maxNum (θ y)) hy)) (Nat.le_add_right ..)
  refine ⟨N, fun s => ?_, fun q hq ps he => ?_⟩
  · rw [apply_comp, apply_comp, apply_apply_solved hs]
  · obtain ⟨hne, hall⟩ := hd.hasNF hq he
    have hbound : ∀ p ∈ ps, maxNum p.2 ≤ N := fun p hp => by
      have : maxNum p.2 ∈ (st.store.flatMap fun q => match q.2 with
          | .diseq ps => ps.map fun p => maxNum p.2
          | _ => []) := by
        refine List.mem_flatMap.2 ⟨q, hq, ?_⟩
        rw [he]
        exact List.mem_map_of_mem (f := fun p : Nat × Term => maxNum p.2) hp
      exact Nat.le_trans (le_sum_of_mem this) (Nat.le_add_left ..)
    by_cases hallV : ∀ y ∈ diseqVars ps, y ∈ V
    · -- a visible disequality: it holds under θ, and the two valuations agree on its variables
      obtain ⟨p, hp, hne'⟩ := hvis q hq ps he hallV
      refine ⟨p, hp, ?_⟩
      have hnf := hall p hp
      have hpV : p.1 ∈ V := hallV _ (List.mem_flatMap.2 ⟨p, hp, List.mem_cons_self ..⟩)
      have htV : ∀ y ∈ p.2.vars, y ∈ V := fun y hy =>
        hallV _ (List.mem_flatMap.2 ⟨p, hp, List.mem_cons_of_mem _ hy⟩)
      rw [apply_comp, apply_comp, hnf.2.1]
      have e1 : apply (mixVal V θ N) (apply st.σ (.var p.1)) = apply θ (.var p.1) := by
        simp only [apply, hnf.1, mixVal, hpV, if_true]
      have e2 : apply (mixVal V θ N) p.2 = apply θ p.2 :=
        apply_agree fun y hy => by simp only [mixVal, htV y hy, if_true]
      rw [e1, e2]
      exact hne'
    · -- a disequality that mentions a hidden variable: that pair is different
      obtain ⟨y, hy⟩ := Classical.not_forall.1 hallV
      obtain ⟨hy, hyV⟩ := Classical.not_imp.1 hy
      obtain ⟨p, hp, hyp⟩ := List.mem_flatMap.1 hy
      exact ⟨p, hp, pair_differs_hidden (hall p hp) hV (hbound p hp) ⟨y, hyp, hyV⟩⟩

/-- disequalities that mention a hidden variable never restrict the visible ones (the universe is infinite) -/
theorem dnf_project {st : State} (hs : Solved st.σ) (hd : DNF st) (V : List Nat) (θ : Subst)
    (hvis : ∀ q ∈ st.store, ∀ ps, q.2 = .diseq ps → (∀ y ∈ diseqVars ps, y ∈ V) → DiseqHolds θ ps) :
    ∃ γ : Subst, StateSem γ st ∧ ∀ y ∈ V, st.σ y = .var y → γ y = θ y := by
  obtain ⟨N, hsem⟩ := dnf_mix hs hd V θ hvis
  exact ⟨_, hsem, fun y hy hfree => by simp only [hfree, apply, mixVal, hy, if_true]⟩

theorem dnf_sat {st : State} (hs : Solved st.σ) (hd : DNF st) :
    ∃ γ : Subst, StateSem γ st ∧ ∀ t : Term, (apply γ t).vars = [] := by
  -- no variable is kept: a stored disequality is not empty, so it mentions one
  obtain ⟨N, hsem⟩ := dnf_mix hs hd [] Subst.id fun q hq ps he hall => by
    obtain ⟨p, hp⟩ := List.exists_mem_of_ne_nil ps (hd.hasNF hq he).1
    exact nomatch hall p.1 (List.mem_flatMap.2 ⟨p, hp, List.mem_cons_self⟩)
  refine ⟨_, hsem, fun t => ?_⟩
  rw [apply_comp]
  exact vars_apply_ground (fun z => rfl) _

/-- the tuples that query terms `qs` take under the valuations a solved state in normal form describes are the
    instances of the walked terms under the assignments that satisfy the stored disequalities over the variables of
    those walked terms -/
theorem dnf_answer_instances {st : State} (hs : Solved st.σ) (hd : DNF st) (qs ts : List Term) :
    (∃ γ : Subst, StateSem γ st ∧ ts = qs.map (apply γ)) ↔
    (∃ θ : Subst,
      (∀ q ∈ st.store, ∀ ps, q.2 = .diseq ps →
        (∀ y ∈ diseqVars ps, y ∈ qs.flatMap fun q => (apply st.σ q).vars) → DiseqHolds θ ps) ∧
      ts = qs.map fun q => apply θ (apply st.σ q)) := by
  constructor
  · rintro ⟨γ, hsem, rfl⟩
    exact ⟨γ, fun q hq ps he _ => hsem.2 q hq ps he, List.map_congr_left fun q _ => (hsem.1 q).symm⟩
  · rintro ⟨θ, hvis, rfl⟩
    obtain ⟨γ, hsem, hag⟩ := dnf_project hs hd _ θ hvis
    refine ⟨γ, hsem, List.map_congr_left fun q hq => ?_⟩
    rw [← hsem.1 q]
    exact (apply_agree fun y hy =>
      hag y (List.mem_flatMap.2 ⟨q, hq, hy⟩) (normal_vars _ (apply_apply_solved hs q) y hy)).symm

theorem postAll_decides {ord : Order} (ho : OrderOK ord) {st : State} (hg : Good st) (hd : DNF st) (as : List TAtom)
    (hf : postAll ord st as ≠ .fuel) :
    ((∃ st', postAll ord st as = .ok st') ↔ ∃ γ : Subst, StateSem γ st ∧ ∀ a ∈ as, a.Sat γ) ∧
    (postAll ord st as = .fail ↔ ¬ ∃ γ : Subst, StateSem γ st ∧ ∀ a ∈ as, a.Sat γ) := by
  have hsat : ∀ st', postAll ord st as = .ok st' → ∃ γ : Subst, StateSem γ st ∧ ∀ a ∈ as, a.Sat γ := fun st' h => by
    obtain ⟨hg', hd', hsem⟩ := postAll_reach ho hg hd h
    obtain ⟨γ, hs, _⟩ := dnf_sat hg'.1 hd'
    exact ⟨γ, (hsem γ).1 hs⟩
  have hfail : postAll ord st as = .fail → ¬ ∃ γ : Subst, StateSem γ st ∧ ∀ a ∈ as, a.Sat γ := fun h ⟨γ, hγ⟩ =>
    postAll_fail ord ho st as hg h γ hγ
  cases hr : postAll ord st as with
  | ok st' =>
    exact ⟨⟨fun _ => hsat st' hr, fun _ => ⟨st', rfl⟩⟩, fun h => (nomatch h), fun hn => absurd (hsat st' hr) hn⟩
  | fail =>
    exact ⟨⟨fun ⟨_, h⟩ => (nomatch h), fun hs => absurd hs (hfail hr)⟩, fun _ => hfail hr, fun _ => rfl⟩
  | fuel => exact absurd hr hf
  | panic s => exact absurd hr (postAll_no_panic_of_good ord ho st as hg s)

end Pv
