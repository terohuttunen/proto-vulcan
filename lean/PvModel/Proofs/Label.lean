/-
  Labelling (`force_ans`) on the textbook semantics: from any well-formed state, labelling a term delivers
  states that partition the valuations the state describes — every one of them is described by one delivered
  state and no two delivered states describe a common valuation.
-/
import PvModel.Proofs.ForceAns
namespace Pv
open State Term Goal FD

variable [Mode]

/-- two states describe no common valuation -/
def Dis (a b : State) : Prop := ∀ γ, ¬ (Sem NoI γ a ∧ Sem NoI γ b)

theorem Dis.symm {a b : State} (h : Dis a b) : Dis b a := fun γ ⟨x, y⟩ => h γ ⟨y, x⟩

/-- the list `zs` of states partitions what `s` describes -/
def ExactPart (s : State) (zs : List State) : Prop :=
  (∀ t ∈ zs, WFS t ∧ Inv t ∧ ∀ γ, Sem NoI γ t → Sem NoI γ s) ∧
  (∀ γ, Sem NoI γ s → ∃ t ∈ zs, Sem NoI γ t) ∧
  zs.Pairwise Dis

theorem exactPart_self {s : State} (w : WFS s) (hi : Inv s) : ExactPart s [s] :=
  ⟨fun t ht => by simp only [List.mem_singleton] at ht; subst ht; exact ⟨w, hi, fun _ h => h⟩,
   fun γ h => ⟨s, List.mem_singleton.2 rfl, h⟩, List.pairwise_singleton _ _⟩

theorem ExactPart.perm {s : State} {zs ys : List State} (h : ExactPart s zs) (p : zs.Perm ys) : ExactPart s ys :=
  ⟨fun t ht => h.1 t (p.mem_iff.2 ht), fun γ hγ => by
    obtain ⟨t, ht, hs⟩ := h.2.1 γ hγ
    exact ⟨t, p.mem_iff.1 ht, hs⟩, (p.pairwise_iff Dis.symm).1 h.2.2⟩

theorem pairwise_flatMapM_sub {R1 R2 R : State → State → Prop} {f : State → Option (List State)}
    (h1 : ∀ a b a' b', R1 a b → (∀ γ, Sem NoI γ a' → Sem NoI γ a) → (∀ γ, Sem NoI γ b' → Sem NoI γ b) → R a' b')
    (h2 : ∀ a b, R2 a b → R a b) :
    ∀ {zs ws : List State}, zs.Pairwise R1 → flatMapM f zs = some ws →
      (∀ t ∈ zs, ∀ ys, f t = some ys → ys.Pairwise R2 ∧ ∀ y ∈ ys, ∀ γ, Sem NoI γ y → Sem NoI γ t) → ws.Pairwise R := by
  intro zs
  induction zs with
  | nil => intro ws _ hf _; cases hf; exact List.Pairwise.nil
  | cons a zs ih =>
    intro ws hp hf hh
    obtain ⟨ya, wa, e1, e2, rfl⟩ := flatMapM_cons_some hf
    have hpa := List.pairwise_cons.1 hp
    have ha := hh a List.mem_cons_self ya e1
    refine List.pairwise_append.2 ⟨ha.1.imp (h2 _ _),
      ih hpa.2 e2 (fun t ht => hh t (List.mem_cons_of_mem _ ht)), fun x hx y hy => ?_⟩
    obtain ⟨t', ht', ys', e, hy'⟩ := (flatMapM_mem e2 y).1 hy
    exact h1 _ _ _ _ (hpa.1 t' ht') (ha.2 x hx) ((hh t' (List.mem_cons_of_mem _ ht') ys' e).2 y hy')

theorem exactPart_flatMapM {f : State → Option (List State)} {zs ws : List State} {s : State}
    (h : ExactPart s zs) (hf : flatMapM f zs = some ws) (h2 : ∀ t ∈ zs, ∀ ys, f t = some ys → ExactPart t ys) :
    ExactPart s ws := by
  refine ⟨fun y hy => ?_, fun γ hγ => ?_,
    pairwise_flatMapM_sub (fun _ _ _ _ hab ha hb γ hs => hab γ ⟨ha γ hs.1, hb γ hs.2⟩) (fun _ _ hab => hab) h.2.2 hf
      fun t ht ys e => ⟨(h2 t ht ys e).2.2, fun y hy => ((h2 t ht ys e).1 y hy).2.2⟩⟩
  · obtain ⟨t, ht, ys, e, hy'⟩ := (flatMapM_mem hf y).1 hy
    obtain ⟨a, b, c⟩ := (h2 t ht ys e).1 y hy'
    exact ⟨a, b, fun γ hs => (h.1 t ht).2.2 γ (c γ hs)⟩
  · obtain ⟨t, ht, hs'⟩ := h.2.1 γ hγ
    obtain ⟨ys, e⟩ := flatMapM_some_of_mem hf t ht
    obtain ⟨y, hy, hsy⟩ := (h2 t ht ys e).2.1 γ hs'
    exact ⟨y, (flatMapM_mem hf y).2 ⟨t, ht, ys, e, hy⟩, hsy⟩

section Goals
variable (dfs : Call → State → State × G)

/-- a labelling goal: run from a well-formed unpoisoned state, with no poisoned (FUEL) state among the results,
    it partitions what the state describes; and it lets a poisoned state through -/
def LabelOK (g : G) : Prop :=
  (∀ N s zs, WFS s → Inv s → s.panic = none → evalRef dfs N g s = some zs → (∀ t ∈ zs, t.panic = none) →
    ExactPart s zs) ∧
  (∀ N s zs, s.panic ≠ none → evalRef dfs N g s = some zs → s ∈ zs) ∧
  g.isFail = false

theorem LabelOK.run {g : G} (h : LabelOK dfs g) : Run dfs (fun s => WFS s ∧ Inv s) ExactPart g :=
  fun N s zs i => h.1 N s zs i.1 i.2

theorem LabelOK.pass {g : G} (h : LabelOK dfs g) : Pass dfs g := ⟨h.2.1, h.2.2⟩

theorem labelOK_of_run {g : G} (r : Run dfs (fun s => WFS s ∧ Inv s) ExactPart g) (p : Pass dfs g) : LabelOK dfs g :=
  ⟨fun N s zs w hi => r N s zs ⟨w, hi⟩, p.through, p.notFail⟩

theorem exactPart_keep (s : State) (xs : List State) (_ : WFS s ∧ Inv s) (h : ExactPart s xs) :
    ∀ t ∈ xs, WFS t ∧ Inv t :=
  fun t ht => ⟨(h.1 t ht).1, (h.1 t ht).2.1⟩

variable {ord : Order} (ho : OrderOK ord)
include ho

omit dfs in
theorem labelStep_sem {s t : State} (w : WFS s) (hi : Inv s) {v : Int} {xv : Nat} (h : labelStep ord xv v s = some t)
    (hpt : t.panic = none) : s.unify ord (Term.num v) (.var xv) = .ok t ∧ WFS t ∧ Inv t ∧
      ∀ γ, Sem NoI γ t ↔ (Sem NoI γ s ∧ NumAt γ (.var xv) v) := by
  have hu := (liftRes_ok h hpt).2
  have r := unify_sem (I := NoI) ho (iok_noI s) w hi (Term.num v) (.var xv)
  rw [hu] at r
  exact ⟨hu, r.1, r.2.1, fun γ => (r.2.2 γ).trans ⟨fun a => ⟨a.1, a.2.symm⟩, fun a => ⟨a.1, a.2.symm⟩⟩⟩

omit dfs in
theorem labelStep_none {s : State} (w : WFS s) (hi : Inv s) {v : Int} {xv : Nat} (h : labelStep ord xv v s = none)
    (γ : Subst) : ¬ (Sem NoI γ s ∧ NumAt γ (.var xv) v) := by
  have r := unify_sem (I := NoI) ho (iok_noI s) w hi (Term.num v) (.var xv)
  rw [liftRes_none h] at r
  exact fun a => r γ ⟨a.1, a.2.symm⟩

omit dfs in
theorem label_var_exact {s : State} (w : WFS s) (hi : Inv s) {xv : Nat} {d : FD} (hd : s.dget xv = some d)
    {zs : List State} (hz : zs = d.iter.filterMap fun v => labelStep ord xv v s)
    (hall : ∀ t ∈ zs, t.panic = none) : ExactPart s zs := by
  subst hz
  have hwd : WF d := w.dwf _ (dget_mem hd)
  have key := fun v t (hv : labelStep ord xv v s = some t) ht => (labelStep_sem ho w hi hv (hall t ht)).2
  refine ⟨fun t ht => ?_, fun γ hs => ?_, ?_⟩
  · obtain ⟨v, _, hv⟩ := List.mem_filterMap.1 ht
    obtain ⟨a, b, c⟩ := key v t hv ht
    exact ⟨a, b, fun γ hγ => ((c γ).1 hγ).1⟩
  · obtain ⟨v, hv, hvd⟩ := hs.2.2 (xv, d) (dget_mem hd) (fun h => h)
    have hvi : v ∈ d.iter := (iter_mem d hwd v).2 hvd
    cases hfv : labelStep ord xv v s with
    | none => exact absurd ⟨hs, hv⟩ (labelStep_none ho w hi hfv γ)
    | some t =>
      have ht : t ∈ d.iter.filterMap fun v => labelStep ord xv v s := List.mem_filterMap.2 ⟨v, hvi, hfv⟩
      exact ⟨t, ht, ((key v t hfv ht).2.2 γ).2 ⟨hs, hv⟩⟩
  · refine List.pairwise_filterMap.2 ((iter_pw d hwd).imp_of_mem fun {a b} ha hb hab t1 h1 t2 h2 γ ⟨s1, s2⟩ => ?_)
    have n1 := (((key a t1 h1 (List.mem_filterMap.2 ⟨a, ha, h1⟩)).2.2 γ).1 s1).2
    have n2 := (((key b t2 h2 (List.mem_filterMap.2 ⟨b, hb, h2⟩)).2.2 γ).1 s2).2
    have := numAt_unique n1 n2
    omega

theorem forceAns_part (n : Nat) (t : Term) : Run dfs (fun s => WFS s ∧ Inv s) ExactPart (forceAns ord n t) :=
  forceAns_run dfs ord (C := fun _ => ExactPart)
    (nil := fun _ i => exactPart_self i.1 i.2) (seq := fun _ _ _ _ _ _ _ => exactPart_flatMapM)
    (keep := fun _ => exactPart_keep) (free := fun _ _ _ i _ _ => exactPart_self i.1 i.2)
    (var := fun _ _ _ _ _ i _ _ hd hz hall => label_var_exact ho i.1 i.2 hd hz hall) (sub := fun _ _ _ _ _ h => h) n t

theorem forceAns_labelOK (n : Nat) (t : Term) : LabelOK dfs (forceAns ord n t) :=
  labelOK_of_run dfs (forceAns_part dfs ho n t) (forceAns_pass dfs ord n t)

end Goals
end Pv
