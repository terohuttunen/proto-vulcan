/-
  The substitution only grows, and a unification unifies.  For tree states: `State::unify` leaves a substitution that is an
  instance of the old one and unifies the two terms; `State::disunify` leaves the substitution alone; hence along any list
  of `==` / `!=` atoms the final substitution is an instance of every intermediate one, and two terms unified by the first
  atom of the list are syntactically equal under it.  (Used for `__query__ == [q0, …]`: every path state binds `__query__` to the
  list of the query terms.)
-/
import PvModel.Proofs.Tree
namespace Pv
open Term

theorem unify_sigma {ord : Order} (ho : OrderOK ord) {st st' : State} (hg : Good st) (u v : Term)
    (h : st.unify ord u v = .ok st') : Ext st.σ st'.σ ∧ Unifies st'.σ u v := by
  obtain ⟨σ', e, st2, hu, hg1, e1, rfl⟩ := unify_ok_good ho hg h
  obtain ⟨_, x', un⟩ := unifyF_sound _ _ _ _ _ _ _ hg.1 hu
  show Ext st.σ st2.σ ∧ Unifies st2.σ u v
  rw [((runConstraintsF_spec ho _ hg1.1 hg1.2.1 hg1.2.2).ok st2 e1).sig]
  exact ⟨x', un⟩

theorem postAtom_ext {ord : Order} (ho : OrderOK ord) {st st' : State} (hg : Good st) (a : TAtom)
    (h : postAtom ord st a = .ok st') : Ext st.σ st'.σ := by
  cases a with
  | eq u v => exact (unify_sigma ho hg u v h).1
  | neq u v =>
    obtain ⟨hs, ht, hi⟩ := hg
    have a := (disunify_spec ho hs ht hi u v).ok st' h
    rw [a.sig]
    exact Ext.refl _ hs

theorem postAll_ext {ord : Order} (ho : OrderOK ord) : ∀ (as : List TAtom) (st st' : State), Good st →
    postAll ord st as = .ok st' → Ext st.σ st'.σ := fun _ st _ hg h =>
  postAll_good_invariant ho (I := fun s => Ext st.σ s.σ)
    (fun a _ _ _ hs hx h1 => Ext.trans hx (postAtom_ext ho hs a h1)) hg (Ext.refl _ hg.1) h

theorem postAll_nv {ord : Order} (ho : OrderOK ord) : ∀ (as : List TAtom) (st st' : State), Good st →
    postAll ord st as = .ok st' → st'.nextVar = st.nextVar := fun _ st _ hg h =>
  postAll_good_invariant ho (I := fun s => s.nextVar = st.nextVar)
    (fun a _ _ _ hs hn h1 => (postAtom_nv ho a hs h1).trans hn) hg rfl h

theorem postAll_unified {ord : Order} (ho : OrderOK ord) (u v : Term) (as : List TAtom) (st st' : State) (hg : Good st)
    (h : postAll ord st (.eq u v :: as) = .ok st') : apply st'.σ u = apply st'.σ v := by
  obtain ⟨s2, hr, h2⟩ := postAll_cons_ok h
  exact unifies_of_ext (postAll_ext ho as s2 st' (postAtom_ok ord ho st s2 _ hg hr).1 h2) (unify_sigma ho hg u v hr).2

end Pv
