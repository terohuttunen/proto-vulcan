/-
  The set semantics of `FiniteDomain` (Model/FD.lean): what each operation does to the members of a domain.
-/
import PvModel.Model.FD
namespace Pv
open FD

/-- weakly well-formed: any interval (an EMPTY one included — propagators compute `lo..hi` with `lo > hi`
    when the constraint is unsatisfiable), or a well-formed vector -/
def WFI : FD → Prop
  | .interval _ _ => True
  | .sparse xs => xs ≠ [] ∧ StrictSorted xs

theorem WFI.of_wf {d : FD} (h : WF d) : WFI d := by
  cases d with
  | interval lo hi => trivial
  | sparse xs => exact h

end Pv

namespace Pv.FD

theorem ss_iff (l : List Int) : StrictSorted l ↔ l.Pairwise (· < ·) := by
  induction l with
  | nil => simp [StrictSorted]
  | cons a t ih =>
    cases t with
    | nil => simp [StrictSorted]
    | cons b t =>
      simp only [StrictSorted, ih]
      simp only [List.pairwise_cons, List.mem_cons]
      constructor
      · rintro ⟨hab, hb, ht⟩
        refine ⟨?_, hb, ht⟩
        intro y hy
        rcases hy with rfl | hy
        · exact hab
        · exact Int.lt_trans hab (hb y hy)
      · rintro ⟨ha, hb, ht⟩
        exact ⟨ha b (Or.inl rfl), hb, ht⟩

theorem mem_upFrom (lo : Int) (n : Nat) (x : Int) :
    x ∈ upFrom lo n ↔ lo ≤ x ∧ x < lo + n := by
  induction n generalizing lo with
  | zero =>
    simp only [upFrom, List.not_mem_nil, false_iff]
    omega
  | succ n ih =>
    rw [upFrom, List.mem_cons, ih]
    omega

theorem pw_upFrom (lo : Int) (n : Nat) : (upFrom lo n).Pairwise (· < ·) := by
  induction n generalizing lo with
  | zero => simp [upFrom]
  | succ n ih =>
    simp only [upFrom, List.pairwise_cons, mem_upFrom]
    exact ⟨fun y hy => by omega, ih _⟩

theorem mem_rangeIncl (lo hi x : Int) : x ∈ rangeIncl lo hi ↔ lo ≤ x ∧ x ≤ hi := by
  simp only [rangeIncl, mem_upFrom]; omega

theorem pw_rangeIncl (lo hi : Int) : (rangeIncl lo hi).Pairwise (· < ·) := pw_upFrom _ _

theorem iter_mem (d : FD) (h : WF d) (x : Int) : x ∈ d.iter ↔ d.Mem x := by
  cases d with
  | interval lo hi => simp only [iter, Mem, mem_rangeIncl]
  | sparse xs => simp only [iter, Mem]

theorem iter_pw (d : FD) (h : WF d) : d.iter.Pairwise (· < ·) := by
  cases d with
  | interval lo hi => exact pw_rangeIncl lo hi
  | sparse xs => exact (ss_iff _).1 h.2

theorem iter_ne_nil (d : FD) (h : WF d) : d.iter ≠ [] := by
  cases d with
  | interval lo hi =>
    intro hn
    have : lo ∈ rangeIncl lo hi := (mem_rangeIncl lo hi lo).2 ⟨Int.le_refl _, h⟩
    simp only [iter] at hn
    rw [hn] at this; cases this
  | sparse xs => exact h.1

theorem upFrom_eq_nil (lo : Int) (n : Nat) : upFrom lo n = [] ↔ n = 0 := by
  cases n <;> simp [upFrom]

/-- What `intersect`, `copy_before` and `drop_before` return: a domain enumerating a list `L`, or
    `none` when `L` is empty.  Here for intervals, in `ofList_spec` for vectors. -/
theorem someInterval_spec (lo hi : Int) :
    (∀ c, (if lo ≤ hi then some (interval lo hi) else none) = some c →
      WF c ∧ c.iter = rangeIncl lo hi) ∧
    ((if lo ≤ hi then some (interval lo hi) else none) = none ↔ rangeIncl lo hi = []) := by
  by_cases h : lo ≤ hi
  · rw [if_pos h]
    refine ⟨fun c hc => ?_, iff_of_false (fun e => nomatch e) (iter_ne_nil (interval lo hi) h)⟩
    cases hc
    exact ⟨h, rfl⟩
  · rw [if_neg h]
    refine ⟨fun c hc => (nomatch hc), iff_of_true rfl ?_⟩
    rw [rangeIncl, upFrom_eq_nil]
    omega

theorem mem_insertU (x y : Int) (l : List Int) : y ∈ insertU x l ↔ y = x ∨ y ∈ l := by
  fun_induction insertU x l with
  | case1 => exact List.mem_cons
  | case2 a t h => exact List.mem_cons
  | case3 t h => exact ⟨Or.inr, fun h => h.elim (fun e => e ▸ List.mem_cons_self) id⟩
  | case4 a t h1 h2 ih =>
    rw [List.mem_cons, ih, List.mem_cons]
    exact or_left_comm

theorem pw_insertU (x : Int) (l : List Int) (h : l.Pairwise (· < ·)) :
    (insertU x l).Pairwise (· < ·) := by
  fun_induction insertU x l with
  | case1 => exact List.pairwise_singleton _ _
  | case2 a t hxa =>
    refine List.pairwise_cons.2 ⟨fun y hy => ?_, h⟩
    rcases List.mem_cons.1 hy with rfl | hy
    · exact hxa
    · exact Int.lt_trans hxa ((List.pairwise_cons.1 h).1 y hy)
  | case3 t _ => exact h
  | case4 a t h1 h2 ih =>
    obtain ⟨ha, ht⟩ := List.pairwise_cons.1 h
    refine List.pairwise_cons.2 ⟨fun y hy => ?_, ih ht⟩
    rcases (mem_insertU x y t).1 hy with rfl | hy
    · omega
    · exact ha y hy

theorem foldr_insertU_mem (v : List Int) (x : Int) : x ∈ v.foldr insertU [] ↔ x ∈ v := by
  induction v with
  | nil => simp
  | cons a t ih => simp only [List.foldr_cons, mem_insertU, ih, List.mem_cons]

theorem foldr_insertU_pw (v : List Int) : (v.foldr insertU []).Pairwise (· < ·) := by
  induction v with
  | nil => simp
  | cons a t ih => exact pw_insertU _ _ ih

/-! The merge loops.  Sortedness enters through one fact: nothing in a sorted list lies below
    its head. -/
theorem not_mem_of_lt {x a : Int} {l : List Int} (hl : (a :: l).Pairwise (· < ·)) (h : x < a) :
    x ∉ a :: l := by
  intro hx
  rcases List.mem_cons.1 hx with rfl | hx
  · exact Int.lt_irrefl _ h
  · exact Int.lt_irrefl _ (Int.lt_trans h ((List.pairwise_cons.1 hl).1 x hx))

theorem mem_cons_iff_of_lt {o s x : Int} {ss os : List Int} (hl : (s :: ss).Pairwise (· < ·))
    (h : o < s) (hx : x ∈ s :: ss) : x ∈ o :: os ↔ x ∈ os := by
  rw [List.mem_cons]
  exact or_iff_right fun e => not_mem_of_lt hl h (e ▸ hx)

theorem fuel_left {s : Int} {ss b : List Int} {n : Nat} (h : (s :: ss).length + b.length ≤ n + 1) :
    ss.length + b.length ≤ n := by
  rw [List.length_cons, Nat.succ_add] at h
  exact Nat.le_of_succ_le_succ h

theorem fuel_right {o : Int} {a os : List Int} {n : Nat} (h : a.length + (o :: os).length ≤ n + 1) :
    a.length + os.length ≤ n :=
  Nat.le_of_succ_le_succ h

theorem interMergeF_sublist (n : Nat) (a b : List Int) : (interMergeF n a b).Sublist a := by
  fun_induction interMergeF n a b with
  | case1 | case2 | case3 => exact List.nil_sublist _
  | case4 _ _ _ _ _ _ ih => exact ih
  | case5 _ _ _ _ _ ih => exact ih.cons_cons _
  | case6 _ _ _ _ _ _ _ ih => exact ih.cons _

theorem mem_interMergeF (n : Nat) (a b : List Int) (ha : a.Pairwise (· < ·))
    (hb : b.Pairwise (· < ·)) (hn : a.length + b.length ≤ n) (x : Int) :
    x ∈ interMergeF n a b ↔ x ∈ a ∧ x ∈ b := by
  fun_induction interMergeF n a b with
  | case1 a b =>
    obtain rfl := List.eq_nil_of_length_eq_zero (Nat.eq_zero_of_add_eq_zero_right (Nat.le_zero.1 hn))
    simp
  | case2 n b => simp
  | case3 n a h => simp
  | case4 n s ss o os h ih => -- `s > o`: `o` is skipped
    rw [ih ha hb.of_cons (fuel_right hn)]
    exact and_congr_right fun hx => (mem_cons_iff_of_lt ha h hx).symm
  | case5 n ss s os h ih => -- equal heads
    rw [List.mem_cons, ih ha.of_cons hb.of_cons (fuel_left (Nat.le_succ_of_le (fuel_right hn))),
      List.mem_cons, List.mem_cons]
    exact or_and_left
  | case6 n s ss o os h1 h2 ih => -- `s < o`: `s` is skipped
    rw [ih ha.of_cons hb (fuel_left hn)]
    exact and_congr_left fun hx => (mem_cons_iff_of_lt hb (by omega) hx).symm

theorem diffMergeF_sublist (n : Nat) (a b : List Int) : (diffMergeF n a b).Sublist a := by
  fun_induction diffMergeF n a b with
  | case1 | case2 => exact List.nil_sublist _
  | case3 _ _ _ ih => exact ih.cons_cons _
  | case4 _ _ _ _ _ _ ih => exact ih.cons_cons _
  | case5 _ _ _ _ _ ih => exact ih.cons _
  | case6 _ _ _ _ _ _ _ ih => exact ih

theorem mem_diffMergeF (n : Nat) (a b : List Int) (ha : a.Pairwise (· < ·))
    (hb : b.Pairwise (· < ·)) (hn : a.length + b.length ≤ n) (x : Int) :
    x ∈ diffMergeF n a b ↔ x ∈ a ∧ x ∉ b := by
  fun_induction diffMergeF n a b with
  | case1 a b =>
    obtain rfl := List.eq_nil_of_length_eq_zero (Nat.eq_zero_of_add_eq_zero_right (Nat.le_zero.1 hn))
    simp
  | case2 n b => simp
  | case3 n s ss ih => -- `b` exhausted
    rw [List.mem_cons, ih ha.of_cons hb (fuel_left hn), List.mem_cons]
    simp
  | case4 n s ss o os h ih => -- `s < o`: `s` is kept
    rw [List.mem_cons, ih ha.of_cons hb (fuel_left hn),
      List.mem_cons (l := ss), or_and_right]
    exact or_congr_left (iff_self_and.2 fun e => e ▸ not_mem_of_lt hb h)
  | case5 n ss s os h ih => -- equal heads: `s` is removed
    rw [ih ha.of_cons hb.of_cons (fuel_left (Nat.le_succ_of_le (fuel_right hn)))]
    have hs : s ∉ ss := fun h => Int.lt_irrefl s ((List.pairwise_cons.1 ha).1 s h)
    constructor
    · rintro ⟨h1, h2⟩
      exact ⟨List.mem_cons_of_mem s h1, fun h => (List.mem_cons.1 h).elim (fun e => hs (e ▸ h1)) h2⟩
    · rintro ⟨h1, h2⟩
      have hxs : x ≠ s := fun e => h2 (e ▸ List.mem_cons_self)
      exact ⟨(List.mem_cons.1 h1).resolve_left hxs, fun h => h2 (List.mem_cons_of_mem s h)⟩
  | case6 n s ss o os h1 h2 ih => -- `s > o`: `o` is skipped
    rw [ih ha hb.of_cons (fuel_right hn)]
    exact and_congr_right fun hx => not_congr (mem_cons_iff_of_lt ha (by omega) hx).symm

theorem disjMergeF_eq (n : Nat) (a b : List Int) :
    disjMergeF n a b = (interMergeF n a b).isEmpty := by
  fun_induction disjMergeF n a b with
  | case1 a b => rfl
  | case2 n b => rfl
  | case3 n a h => simp [interMergeF]
  | case4 n s ss o os h ih => rw [interMergeF, if_pos h, ih]
  | case5 n ss s os h => rw [interMergeF, if_neg h, if_pos rfl]; rfl
  | case6 n s ss o os h1 h2 ih => rw [interMergeF, if_neg h1, if_neg h2, ih]

theorem mem_span_downward (q : Int → Bool) (hq : ∀ x y, q y = true → x ≤ y → q x = true)
    (l : List Int) (hl : l.Pairwise (· < ·)) (x : Int) :
    (x ∈ l.takeWhile q ↔ x ∈ l ∧ q x = true) ∧ (x ∈ l.dropWhile q ↔ x ∈ l ∧ q x = false) := by
  induction l with
  | nil => simp
  | cons a t ih =>
    obtain ⟨hat, ht⟩ := List.pairwise_cons.1 hl
    obtain ⟨iht, ihd⟩ := ih ht
    cases hqa : q a with
    | false =>
      have hall : x ∈ a :: t → q x = false := fun hx => Bool.eq_false_iff.2 fun hqx => by
        have hax : a ≤ x := (List.mem_cons.1 hx).elim (fun e => Int.le_of_eq e.symm) fun h => Int.le_of_lt (hat x h)
        rw [hq a x hqx hax] at hqa
        cases hqa
      rw [List.takeWhile_cons_of_neg (Bool.eq_false_iff.1 hqa),
        List.dropWhile_cons_of_neg (Bool.eq_false_iff.1 hqa)]
      refine ⟨iff_of_false List.not_mem_nil fun h => ?_, (and_iff_left_of_imp hall).symm⟩
      rw [hall h.1] at h
      cases h.2
    | true =>
      rw [List.takeWhile_cons_of_pos hqa, List.dropWhile_cons_of_pos hqa, List.mem_cons, iht, ihd,
        List.mem_cons, or_and_right, or_and_right]
      refine ⟨or_congr_left (iff_self_and.2 fun e => e ▸ hqa), (or_iff_right fun h => ?_).symm⟩
      rw [h.1, hqa] at h
      cases h.2

theorem mem_takeWhile_downward (q : Int → Bool) (hq : ∀ x y, q y = true → x ≤ y → q x = true)
    (l : List Int) (hl : l.Pairwise (· < ·)) (x : Int) :
    x ∈ l.takeWhile q ↔ x ∈ l ∧ q x = true :=
  (mem_span_downward q hq l hl x).1

theorem mem_dropWhile_downward (q : Int → Bool) (hq : ∀ x y, q y = true → x ≤ y → q x = true)
    (l : List Int) (hl : l.Pairwise (· < ·)) (x : Int) :
    x ∈ l.dropWhile q ↔ x ∈ l ∧ q x = false :=
  (mem_span_downward q hq l hl x).2

theorem ofList_some (L : List Int) (c : FD) (hL : L.Pairwise (· < ·)) (h : ofList? L = some c) :
    WF c ∧ ∀ x, c.Mem x ↔ x ∈ L := by
  unfold ofList? at h
  split at h
  · cases h
  · rename_i hne
    cases h
    refine ⟨⟨?_, (ss_iff _).2 hL⟩, fun x => Iff.rfl⟩
    intro hn
    simp [hn] at hne

theorem ofList_none (L : List Int) (h : ofList? L = none) : L = [] := by
  unfold ofList? at h
  split at h
  · rename_i he
    simpa using he
  · cases h

theorem ofList_spec (L : List Int) (hL : L.Pairwise (· < ·)) :
    (∀ c, ofList? L = some c → WF c ∧ c.iter = L) ∧ (ofList? L = none ↔ L = []) := by
  refine ⟨fun c hc => ⟨(ofList_some L c hL hc).1, ?_⟩, ofList_none L, ?_⟩
  · rw [ofList?] at hc
    split at hc
    · cases hc
    · cases hc
      rfl
  · rintro rfl
    rfl

/-! window used by sparse/interval intersect -/
theorem window_pw (v : List Int) (lo hi : Int) (hv : v.Pairwise (· < ·)) :
    ((v.dropWhile (fun u => decide (u < lo))).takeWhile (fun u => decide (u ≤ hi))).Pairwise (· < ·) :=
  List.Pairwise.sublist ((List.takeWhile_sublist _).trans (List.dropWhile_sublist _)) hv

theorem window_mem (v : List Int) (lo hi : Int) (hv : v.Pairwise (· < ·)) (x : Int) :
    x ∈ (v.dropWhile (fun u => decide (u < lo))).takeWhile (fun u => decide (u ≤ hi)) ↔
      x ∈ v ∧ lo ≤ x ∧ x ≤ hi := by
  rw [mem_takeWhile_downward (fun u => decide (u ≤ hi))
      (fun x y hy hxy => decide_eq_true (Int.le_trans hxy (of_decide_eq_true hy))) _
      (hv.sublist (List.dropWhile_sublist _)),
    mem_dropWhile_downward (fun u => decide (u < lo))
      (fun x y hy hxy => decide_eq_true (Int.lt_of_le_of_lt hxy (of_decide_eq_true hy))) _ hv]
  simp only [decide_eq_false_iff_not, decide_eq_true_eq, Int.not_lt, and_assoc]

theorem interMerge_pw (a b : List Int) (ha : a.Pairwise (· < ·)) : (interMerge a b).Pairwise (· < ·) :=
  List.Pairwise.sublist (interMergeF_sublist _ a b) ha

theorem interMerge_mem (a b : List Int) (ha : a.Pairwise (· < ·)) (hb : b.Pairwise (· < ·)) (x : Int) :
    x ∈ interMerge a b ↔ x ∈ a ∧ x ∈ b :=
  mem_interMergeF _ a b ha hb (Nat.le_refl _) x

theorem intersect_spec (a b : FD) (ha : WF a) (hb : WFI b) :
    ∃ L : List Int, L.Pairwise (· < ·) ∧ (∀ x, x ∈ L ↔ (a.Mem x ∧ b.Mem x)) ∧
      (∀ c, intersect a b = some c → WF c ∧ c.iter = L) ∧ (intersect a b = none ↔ L = []) := by
  cases a with
  | interval l1 h1 =>
    cases b with
    | interval l2 h2 =>
      refine ⟨_, pw_rangeIncl (max l1 l2) (min h1 h2), fun x => ?_, someInterval_spec _ _⟩
      rw [mem_rangeIncl, Int.max_le, Int.le_min]
      exact and_and_and_comm
    | sparse v =>
      have hv := (ss_iff _).1 hb.2
      refine ⟨_, window_pw v l1 h1 hv, fun x => ?_, ofList_spec _ (window_pw v l1 h1 hv)⟩
      rw [window_mem v l1 h1 hv]
      exact and_comm
  | sparse v =>
    have hv := (ss_iff _).1 ha.2
    cases b with
    | interval l2 h2 =>
      exact ⟨_, window_pw v l2 h2 hv, window_mem v l2 h2 hv, ofList_spec _ (window_pw v l2 h2 hv)⟩
    | sparse w =>
      exact ⟨_, interMerge_pw v w hv, interMerge_mem v w hv ((ss_iff _).1 hb.2),
        ofList_spec _ (interMerge_pw v w hv)⟩

theorem intersect_some (a b c : FD) (ha : WF a) (hb : WFI b) (h : intersect a b = some c) :
    WF c ∧ ∀ x, c.Mem x ↔ (a.Mem x ∧ b.Mem x) := by
  obtain ⟨L, _, hm, hs, _⟩ := intersect_spec a b ha hb
  obtain ⟨hw, hi⟩ := hs c h
  exact ⟨hw, fun x => by rw [← iter_mem c hw, hi]; exact hm x⟩

theorem intersect_none (a b : FD) (ha : WF a) (hb : WFI b) (h : intersect a b = none) :
    ∀ x, ¬ (a.Mem x ∧ b.Mem x) := by
  obtain ⟨L, _, hm, _, hn⟩ := intersect_spec a b ha hb
  intro x hx
  have := (hm x).2 hx
  rw [hn.1 h] at this
  cases this

theorem diffMerge_pw (a b : List Int) (ha : a.Pairwise (· < ·)) : (diffMerge a b).Pairwise (· < ·) :=
  List.Pairwise.sublist (diffMergeF_sublist _ a b) ha

theorem diffMerge_mem (a b : List Int) (ha : a.Pairwise (· < ·)) (hb : b.Pairwise (· < ·)) (x : Int) :
    x ∈ diffMerge a b ↔ x ∈ a ∧ x ∉ b :=
  mem_diffMergeF _ a b ha hb (Nat.le_refl _) x

theorem diff_list_mem (a b : FD) (ha : WF a) (hb : WF b) (x : Int) :
    x ∈ diffMerge a.iter b.iter ↔ (a.Mem x ∧ ¬ b.Mem x) := by
  rw [diffMerge_mem _ _ (iter_pw a ha) (iter_pw b hb), iter_mem a ha, iter_mem b hb]

theorem diff_some (a b c : FD) (ha : WF a) (hb : WF b) (h : diff a b = some c) :
    WF c ∧ ∀ x, c.Mem x ↔ (a.Mem x ∧ ¬ b.Mem x) := by
  obtain ⟨hw, hmem⟩ := ofList_some _ c (diffMerge_pw a.iter b.iter (iter_pw a ha)) h
  exact ⟨hw, fun x => (hmem x).trans (diff_list_mem a b ha hb x)⟩

theorem diff_none (a b : FD) (ha : WF a) (hb : WF b) (h : diff a b = none) :
    ∀ x, a.Mem x → b.Mem x := by
  intro x hx
  refine Classical.byContradiction fun hnb => ?_
  have := (diff_list_mem a b ha hb x).2 ⟨hx, hnb⟩
  rw [ofList_none _ h] at this
  cases this

theorem contains_spec (d : FD) (x : Int) : d.contains x = true ↔ d.Mem x := by
  cases d with
  | interval lo hi => simp [contains, Mem]
  | sparse xs => simp [contains, Mem]

theorem min_spec (d : FD) (h : WF d) :
    ∃ m, d.min? = some m ∧ d.Mem m ∧ ∀ x, d.Mem x → m ≤ x := by
  cases d with
  | interval lo hi =>
    exact ⟨lo, rfl, ⟨Int.le_refl _, h⟩, fun x hx => hx.1⟩
  | sparse xs =>
    cases xs with
    | nil => exact absurd rfl h.1
    | cons a t =>
      have hp := List.pairwise_cons.1 ((ss_iff _).1 h.2)
      refine ⟨a, rfl, List.mem_cons_self, fun x hx => ?_⟩
      rcases List.mem_cons.1 hx with rfl | hx
      · exact Int.le_refl _
      · exact Int.le_of_lt (hp.1 x hx)

theorem max_spec (d : FD) (h : WF d) :
    ∃ m, d.max? = some m ∧ d.Mem m ∧ ∀ x, d.Mem x → x ≤ m := by
  cases d with
  | interval lo hi =>
    exact ⟨hi, rfl, ⟨h, Int.le_refl _⟩, fun x hx => hx.2⟩
  | sparse xs =>
    cases hl : xs.getLast? with
    | none =>
      rw [List.getLast?_eq_none_iff] at hl
      exact absurd hl h.1
    | some m =>
      obtain ⟨ys, rfl⟩ := List.getLast?_eq_some_iff.1 hl
      have hp := List.pairwise_append.1 ((ss_iff _).1 h.2)
      refine ⟨m, hl, by simp [Mem], fun x hx => ?_⟩
      simp only [Mem, List.mem_append, List.mem_singleton] at hx
      rcases hx with hx | rfl
      · exact Int.le_of_lt (hp.2.2 x hx m (by simp))
      · exact Int.le_refl _

theorem isDisjoint_spec (a b : FD) (ha : WF a) (hb : WF b) :
    ∃ r, isDisjoint a b = some r ∧ (r = true ↔ ∀ x, ¬ (a.Mem x ∧ b.Mem x)) := by
  obtain ⟨amin, e1, _, hamin⟩ := min_spec a ha
  obtain ⟨amax, e2, _, hamax⟩ := max_spec a ha
  obtain ⟨bmin, e3, _, hbmin⟩ := min_spec b hb
  obtain ⟨bmax, e4, _, hbmax⟩ := max_spec b hb
  simp only [isDisjoint, e1, e2, e3, e4]
  split
  · rename_i hc
    refine ⟨true, rfl, iff_of_true rfl ?_⟩
    rintro x ⟨hxa, hxb⟩
    simp only [Bool.or_eq_true, decide_eq_true_eq] at hc
    rcases hc with hc | hc
    · exact absurd (Int.lt_of_le_of_lt (hbmax x hxb) hc) (Int.not_lt.2 (hamin x hxa))
    · exact absurd (Int.lt_of_le_of_lt (hamax x hxa) hc) (Int.not_lt.2 (hbmin x hxb))
  · refine ⟨_, rfl, ?_⟩
    rw [disjMerge, disjMergeF_eq, List.isEmpty_iff, List.eq_nil_iff_forall_not_mem]
    simp only [← iter_mem a ha, ← iter_mem b hb, ← interMerge_mem _ _ (iter_pw a ha) (iter_pw b hb)]
    exact Iff.rfl

theorem isSingleton_spec (d : FD) (h : WF d) :
    d.isSingleton = true ↔ ∃ x, d.Mem x ∧ ∀ y, d.Mem y → y = x := by
  cases d with
  | interval lo hi =>
    simp only [isSingleton, Mem, beq_iff_eq]
    constructor
    · rintro rfl
      exact ⟨lo, ⟨Int.le_refl _, Int.le_refl _⟩, fun y hy => Int.le_antisymm hy.2 hy.1⟩
    · rintro ⟨x, _, hy⟩
      exact (hy lo ⟨Int.le_refl _, h⟩).trans (hy hi ⟨h, Int.le_refl _⟩).symm
  | sparse xs =>
    match xs, h with
    | [a], _ => exact ⟨fun _ => ⟨a, List.mem_singleton_self a, fun y hy => List.mem_singleton.1 hy⟩, fun _ => rfl⟩
    | a :: b :: t, h =>
      have hab : a < b := h.2.1
      simp only [isSingleton, Mem, List.length_cons, beq_iff_eq]
      constructor
      · exact fun h => absurd (Nat.succ.inj h) (Nat.succ_ne_zero _)
      · rintro ⟨x, _, hy⟩
        have := (hy a List.mem_cons_self).trans (hy b (List.mem_cons_of_mem a List.mem_cons_self)).symm
        exact absurd this (Int.ne_of_lt hab)

theorem singletonValue_spec (d : FD) (h : WF d) (v : Int) :
    d.singletonValue = some v ↔ ∀ y, d.Mem y ↔ y = v := by
  obtain ⟨m, hm, hmem, _⟩ := min_spec d h
  rw [singletonValue, hm]
  by_cases hs : d.isSingleton = true
  · obtain ⟨x, _, hu⟩ := (isSingleton_spec d h).1 hs
    rw [if_pos hs, Option.some.injEq]
    constructor
    · rintro rfl y
      exact ⟨fun hy => (hu y hy).trans (hu m hmem).symm, fun e => e ▸ hmem⟩
    · exact fun hy => (hy m).1 hmem
  · rw [if_neg hs]
    refine ⟨fun e => (nomatch e), fun hy => absurd ?_ hs⟩
    exact (isSingleton_spec d h).2 ⟨v, (hy v).2 rfl, fun y hy' => (hy y).1 hy'⟩

theorem diff_isNone (a b : FD) (ha : WF a) (hb : WF b) :
    (diff a b).isNone = true ↔ ∀ x, a.Mem x → b.Mem x := by
  refine ⟨fun h => diff_none a b ha hb (Option.isNone_iff_eq_none.1 h), fun hx => ?_⟩
  cases hd : diff a b with
  | none => rfl
  | some c =>
    obtain ⟨hw, hm⟩ := diff_some a b c ha hb hd
    obtain ⟨y, _, hy, _⟩ := min_spec c hw
    exact absurd (hx y ((hm y).1 hy).1) ((hm y).1 hy).2

theorem strictSortedB_spec (l : List Int) : strictSortedB l = true ↔ StrictSorted l := by
  induction l with
  | nil => simp [strictSortedB, StrictSorted]
  | cons a t ih =>
    cases t with
    | nil => simp [strictSortedB, StrictSorted]
    | cons b t =>
      simp only [strictSortedB, StrictSorted, Bool.and_eq_true, decide_eq_true_eq, ih]

theorem find_none_tw (p : Int → Bool) (l : List Int) (h : l.find? p = none) :
    l.takeWhile (fun u => !p u) = l ∧ l.dropWhile (fun u => !p u) = [] := by
  induction l with
  | nil => simp
  | cons a t ih =>
    rw [List.find?_cons] at h
    cases hpa : p a with
    | true => rw [hpa] at h; cases h
    | false =>
      rw [hpa] at h
      simp [hpa, ih h]

theorem find_upFrom_some (p : Int → Bool) (lo : Int) (n : Nat) (u : Int)
    (h : (upFrom lo n).find? p = some u) :
    ∃ k, k < n ∧ u = lo + k ∧
      (upFrom lo n).takeWhile (fun u => !p u) = upFrom lo k ∧
      (upFrom lo n).dropWhile (fun u => !p u) = upFrom u (n - k) := by
  induction n generalizing lo with
  | zero => cases h
  | succ n ih =>
    rw [upFrom, List.find?_cons] at h
    rw [upFrom, List.takeWhile_cons, List.dropWhile_cons]
    cases hpa : p lo with
    | true =>
      rw [hpa] at h
      obtain rfl : lo = u := Option.some.inj h
      exact ⟨0, Nat.succ_pos n, (Int.add_zero lo).symm, rfl, rfl⟩
    | false =>
      rw [hpa] at h
      obtain ⟨k, hk, hu, ht, hd⟩ := ih (lo + 1) h
      refine ⟨k + 1, Nat.succ_lt_succ hk, ?_, ?_, ?_⟩
      · rw [hu, Int.natCast_succ, Int.add_assoc, Int.add_comm 1]
      · exact congrArg (lo :: ·) ht
      · rw [Nat.succ_sub_succ]
        exact hd

theorem find_rangeIncl_some (p : Int → Bool) (lo hi u : Int)
    (h : (rangeIncl lo hi).find? p = some u) :
    u ≤ hi ∧ (rangeIncl lo hi).takeWhile (fun u => !p u) = rangeIncl lo (u - 1) ∧
      (rangeIncl lo hi).dropWhile (fun u => !p u) = rangeIncl u hi := by
  simp only [rangeIncl] at h ⊢
  obtain ⟨k, hk, rfl, ht, hd⟩ := find_upFrom_some p lo _ u h
  have hn : ((hi + 1 - lo).toNat : Int) = hi + 1 - lo := Int.toNat_of_nonneg (by omega)
  have h1 : lo + k - 1 + 1 - lo = k := by rw [Int.sub_add_cancel, Int.add_comm, Int.add_sub_cancel]
  have h2 : hi + 1 - (lo + k) = ((hi + 1 - lo).toNat - k : Nat) := by omega
  refine ⟨by omega, ?_, ?_⟩
  · rw [ht, h1, Int.toNat_natCast]
  · rw [hd, h2, Int.toNat_natCast]

theorem copyBefore_spec (d : FD) (h : WF d) (p : Int → Bool) :
    (∀ c, copyBefore d p = some c → WF c ∧ c.iter = d.iter.takeWhile (fun u => !p u)) ∧
    (copyBefore d p = none ↔ d.iter.takeWhile (fun u => !p u) = []) := by
  cases d with
  | interval lo hi =>
    simp only [copyBefore, iter]
    cases hf : (rangeIncl lo hi).find? p with
    | none =>
      have := someInterval_spec lo hi
      rw [if_pos (show lo ≤ hi from h)] at this
      rw [(find_none_tw p _ hf).1]
      exact this
    | some u =>
      rw [(find_rangeIncl_some p lo hi u hf).2.1]
      exact someInterval_spec lo (u - 1)
  | sparse xs =>
    exact ofList_spec _ (((ss_iff _).1 h.2).sublist (List.takeWhile_sublist _))

theorem dropBefore_spec (d : FD) (h : WF d) (p : Int → Bool) :
    (∀ c, dropBefore d p = some c → WF c ∧ c.iter = d.iter.dropWhile (fun u => !p u)) ∧
    (dropBefore d p = none ↔ d.iter.dropWhile (fun u => !p u) = []) := by
  cases d with
  | interval lo hi =>
    simp only [dropBefore, iter]
    cases hf : (rangeIncl lo hi).find? p with
    | none =>
      rw [(find_none_tw p _ hf).2]
      exact ⟨fun c hc => (nomatch hc), iff_of_true rfl rfl⟩
    | some u =>
      obtain ⟨hu, _, hd⟩ := find_rangeIncl_some p lo hi u hf
      have := someInterval_spec u hi
      rw [if_pos hu] at this
      rw [hd]
      exact this
  | sparse xs =>
    exact ofList_spec _ (((ss_iff _).1 h.2).sublist (List.dropWhile_sublist _))

theorem not_downward {p : Int → Bool} (hp : ∀ x y, p x = true → x ≤ y → p y = true) (x y : Int)
    (hy : (!p y) = true) (hxy : x ≤ y) : (!p x) = true := by
  cases hpx : p x with
  | false => rfl
  | true => rw [hp x y hpx hxy] at hy; cases hy

theorem copyBefore_mono (d c : FD) (h : WF d) (p : Int → Bool)
    (hp : ∀ x y, p x = true → x ≤ y → p y = true) (hc : copyBefore d p = some c) :
    ∀ x, c.Mem x ↔ (d.Mem x ∧ p x = false) := by
  obtain ⟨hw, hi⟩ := (copyBefore_spec d h p).1 c hc
  intro x
  rw [← iter_mem c hw, hi, mem_takeWhile_downward _ (not_downward hp) _ (iter_pw d h), iter_mem d h,
    Bool.not_eq_true']

theorem dropBefore_mono (d c : FD) (h : WF d) (p : Int → Bool)
    (hp : ∀ x y, p x = true → x ≤ y → p y = true) (hc : dropBefore d p = some c) :
    ∀ x, c.Mem x ↔ (d.Mem x ∧ p x = true) := by
  obtain ⟨hw, hi⟩ := (dropBefore_spec d h p).1 c hc
  intro x
  rw [← iter_mem c hw, hi, mem_dropWhile_downward _ (not_downward hp) _ (iter_pw d h), iter_mem d h,
    Bool.not_eq_false']

theorem copyBefore_none_mem (d : FD) (h : WF d) (p : Int → Bool)
    (hp : ∀ x y, p x = true → x ≤ y → p y = true) (hc : copyBefore d p = none) :
    ∀ x, d.Mem x → p x = true := by
  have hn := (copyBefore_spec d h p).2.1 hc
  intro x hx
  cases hpx : p x with
  | true => rfl
  | false =>
    exfalso
    have : x ∈ d.iter.takeWhile (fun u => !p u) := by
      rw [mem_takeWhile_downward _ (not_downward hp) _ (iter_pw d h)]
      exact ⟨(iter_mem d h x).2 hx, by simp [hpx]⟩
    rw [hn] at this; cases this

theorem dropBefore_none_mem (d : FD) (h : WF d) (p : Int → Bool)
    (hp : ∀ x y, p x = true → x ≤ y → p y = true) (hc : dropBefore d p = none) :
    ∀ x, d.Mem x → p x = false := by
  have hn := (dropBefore_spec d h p).2.1 hc
  intro x hx
  cases hpx : p x with
  | false => rfl
  | true =>
    exfalso
    have : x ∈ d.iter.dropWhile (fun u => !p u) := by
      rw [mem_dropWhile_downward _ (not_downward hp) _ (iter_pw d h)]
      exact ⟨(iter_mem d h x).2 hx, by simp [hpx]⟩
    rw [hn] at this; cases this

/-- `o` is the part of `d` on which `p` holds, `none` when that part is empty: what `copy_before`,
    `drop_before` and `diff` compute -/
def Part (d : FD) (p : Int → Prop) : Option FD → Prop
  | none => ∀ n, d.Mem n → ¬ p n
  | some d' => WF d' ∧ ∀ n, d'.Mem n ↔ (d.Mem n ∧ p n)

theorem copyBefore_le (d : FD) (h : WF d) (b : Int) : Part d (· ≤ b) (copyBefore d fun a => decide (b < a)) := by
  have mono : ∀ x y : Int, decide (b < x) = true → x ≤ y → decide (b < y) = true := fun x y h1 h2 =>
    decide_eq_true (Int.lt_of_lt_of_le (of_decide_eq_true h1) h2)
  cases hc : copyBefore d fun a => decide (b < a) with
  | none => exact fun n hn hp => Int.not_lt.2 hp (of_decide_eq_true (copyBefore_none_mem d h _ mono hc n hn))
  | some c =>
    exact ⟨((copyBefore_spec d h _).1 c hc).1, fun n => by
      rw [copyBefore_mono d c h _ mono hc n, decide_eq_false_iff_not, Int.not_lt]⟩

theorem dropBefore_ge (d : FD) (h : WF d) (a : Int) : Part d (a ≤ ·) (dropBefore d fun b => decide (a ≤ b)) := by
  have mono : ∀ x y : Int, decide (a ≤ x) = true → x ≤ y → decide (a ≤ y) = true := fun x y h1 h2 =>
    decide_eq_true (Int.le_trans (of_decide_eq_true h1) h2)
  cases hc : dropBefore d fun b => decide (a ≤ b) with
  | none => exact fun n hn hp => of_decide_eq_false (dropBefore_none_mem d h _ mono hc n hn) hp
  | some c =>
    exact ⟨((dropBefore_spec d h _).1 c hc).1, fun n => by
      rw [dropBefore_mono d c h _ mono hc n, decide_eq_true_eq]⟩

theorem diff_part (a b : FD) (ha : WF a) (hb : WF b) : Part a (fun n => ¬ b.Mem n) (diff a b) := by
  cases hc : diff a b with
  | none => exact fun n hn hp => hp (diff_none a b ha hb hc n hn)
  | some c => exact diff_some a b c ha hb hc

end Pv.FD
