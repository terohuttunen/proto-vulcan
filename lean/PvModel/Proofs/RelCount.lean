/-
  Multiplicities: `member(x, l)` yields one answer per matching position of `l`, in Prolog order (the reference
  semantics `evalRef`, of which the engine's answers are a permutation, C06_ref, and which the depth-first engine
  follows exactly, C05_prolog).

  Setting: the start state determines the length of `l` (`ListLen n l a`: under every described valuation `l` is a
  proper list of `n` elements; the elements themselves and `x` are arbitrary terms, bound or not).  Position `i`
  matches when some described valuation puts `x` at position `i`.  Then the answer list has exactly one state per
  matching position, in increasing order of position, and the state for position `i` describes exactly the
  valuations of the start state that put `x` at position `i`.

  The model's unification fuel: a FUEL-poisoned state passes through every atom, so a recursive relation called on
  it does not terminate in the model; the theorems assume that no big-step answer of the call is poisoned (the
  driver prints FUEL otherwise and the correspondence check treats the case as inconclusive).

  The counting theorems are inductions on that length with one step each: a relation of two clauses whose first
  answers at most once, for position 0, and whose second answers once per realised position `k + 1`, answers once per
  realised position.  The second clause's answers are those of the recursive call on the tail, carried back along the
  clause's first atoms.
-/
import PvModel.Proofs.EvalR
import PvModel.Proofs.Zip2
import PvModel.Proofs.RelComplete
namespace Pv
open Strm Goal State Term

/-- under every described valuation `l` is a proper list of length `n` -/
def ListLen (n : Nat) (l : Term) (a : State) : Prop :=
  ∀ γ, StateSem γ a → ∃ ys : List Term, ys.length = n ∧ apply γ l = ofList ys

/-- `γ` makes `x` the element at position `i` of the list `l` -/
def At (x l : Term) (i : Nat) (γ : Subst) : Prop :=
  ∃ ys : List Term, apply γ l = ofList ys ∧ ys[i]? = some (apply γ x)

/-- `b` is an unpoisoned answer from `a` that describes exactly the valuations of `a` satisfying `P`
    (up to the fresh variables introduced on the way) -/
structure Describes (a : State) (P : Subst → Prop) (b : State) : Prop where
  unp : b.panic.isSome = false
  inv : RInv b
  dnf : DNF b
  nv : a.nextVar ≤ b.nextVar
  snd : ∀ γ, StateSem γ b → StateSem γ a ∧ P γ
  cmp : ∀ γ, StateSem γ a → P γ → ∃ γ', Agree a.nextVar γ γ' ∧ StateSem γ' b

section
variable {ord : Order}

theorem flatR_id (xs : List State) : FlatR (ChainR (defs ord) []) xs xs := by
  induction xs with
  | nil => exact .nil
  | cons x xs ih => exact .cons (ys := [x]) rfl ih

theorem chain_one {g : G} {a : State} {zs : List State} (h : EvalR (defs ord) g a zs) : ChainR (defs ord) [g] a zs :=
  ⟨zs, h, flatR_id zs⟩

theorem chain_nil_of_none {f : State → Option State} {gs : List G} {a : State} (h : f a = none) :
    ChainR (defs ord) (.atom f :: gs) a [] :=
  ⟨[], by have := evalR_atom (defs := defs ord) f a; rw [h] at this; exact this, .nil⟩

theorem chain_of_some {f : State → Option State} {gs : List G} {a c : State} {zs : List State} (h : f a = some c)
    (hr : ChainR (defs ord) gs c zs) : ChainR (defs ord) (.atom f :: gs) a zs :=
  ⟨[c], by have := evalR_atom (defs := defs ord) f a; rw [h] at this; exact this, by simpa using FlatR.cons hr .nil⟩

theorem evalR_oneOf (d : Bool) (cs : List (List G)) (a : State) (zs : List State) (h : ClausesR (defs ord) cs a zs) :
    EvalR (defs ord) (oneOf d cs) a zs := by
  cases d with
  | true => exact oneOf_true cs ▸ evalR_conjDOfList _ a zs (chain_one (evalR_condeDOfClauses cs a zs h))
  | false => exact oneOf_false cs ▸ evalR_conjOfList _ a zs (chain_one (evalR_condeOfClauses cs a zs h))

theorem evalR_conjLOf (d : Bool) (gs : List G) (a : State) (zs : List State) (h : ChainR (defs ord) gs a zs) :
    EvalR (defs ord) (conjLOf d gs) a zs := by
  cases d with
  | true => exact conjLOf_true gs ▸ evalR_conjDOfList gs a zs h
  | false => exact conjLOf_false gs ▸ evalR_conjOfList gs a zs h

/-- an unpoisoned state with the invariants of the relation layer -/
structure Clean (a : State) : Prop where
  unp : a.panic.isSome = false
  inv : RInv a
  dnf : DNF a

theorem Clean.bump {a : State} (k : Nat) (h : Clean a) : Clean { a with nextVar := a.nextVar + k } :=
  ⟨h.unp, rinv_bump k h.inv, h.dnf⟩

theorem Clean.sat {a : State} (h : Clean a) : ∃ γ, StateSem γ a :=
  let ⟨γ, hγ, _⟩ := dnf_sat h.inv.1.1 h.dnf
  ⟨γ, hγ⟩

theorem Describes.clean {a b : State} {P : Subst → Prop} (h : Describes a P b) : Clean b := ⟨h.unp, h.inv, h.dnf⟩

theorem atom_eval (ho : OrderOK ord) (t : TAtom) {a : State}
    (hb : t.Below a.nextVar)
    (ga : Clean a) :
    ((liftRes fun st => postAtom ord st t) a = none ∧ ∀ γ, StateSem γ a → ¬ t.Sat γ) ∨
    (∃ b, (liftRes fun st => postAtom ord st t) a = some b ∧ b.panic.isSome = true) ∨
    (∃ b, (liftRes fun st => postAtom ord st t) a = some b ∧ Clean b ∧ b.nextVar = a.nextVar ∧
      ∀ γ, StateSem γ b ↔ (StateSem γ a ∧ t.Sat γ)) := by
  simp only [liftRes, ga.unp, Bool.false_eq_true, if_false]
  cases hr : postAtom ord a t with
  | ok b =>
    cases hpb : b.panic.isSome with
    | true => exact .inr (.inl ⟨b, rfl, hpb⟩)
    | false =>
      obtain ⟨ib, nvb⟩ := rinv_postAtom ho t hb ga.inv hr
      exact .inr (.inr ⟨b, rfl, ⟨hpb, ib, postAtom_dnf ho t ga.inv.1 ga.dnf hr⟩, nvb, (postAtom_ok ord ho a b t ga.inv.1 hr).2⟩)
  | fail => exact .inl ⟨rfl, fun γ hγ hs => postAtom_fail ord ho a t ga.inv.1 hr γ ⟨hγ, hs⟩⟩
  | fuel => exact .inr (.inl ⟨_, rfl, rfl⟩)
  | panic s => exact absurd hr (postAtom_no_panic ord ho a t ga.inv.1 s)

theorem ofList_cons_inj {y : Term} {ys : List Term} {h t : Term} (e : ofList (y :: ys) = .cons h t) : y = h ∧ ofList ys = t := by
  simp only [ofList, Term.cons.injEq] at e; exact e

theorem call_two {c : Call} {a : State} {K : Nat} {d : Bool} {cl1 cl2 : List G}
    (hb : relBody ord c a.nextVar = (K, oneOf d [cl1, cl2]))
    (hnf : ∀ b, Big (defs ord) (.call c) a b → b.panic.isSome = false) {Q1 Q2 : List State → Prop}
    (h1 : (∀ b, BigChain ord cl1 { a with nextVar := a.nextVar + K } b → b.panic.isSome = false) →
      ∃ r1, ChainR (defs ord) cl1 { a with nextVar := a.nextVar + K } r1 ∧ Q1 r1)
    (h2 : (∀ b, BigChain ord cl2 { a with nextVar := a.nextVar + K } b → b.panic.isSome = false) →
      ∃ r2, ChainR (defs ord) cl2 { a with nextVar := a.nextVar + K } r2 ∧ Q2 r2) :
    ∃ r1 r2, EvalR (defs ord) (.call c) a (r1 ++ r2) ∧ Q1 r1 ∧ Q2 r2 := by
  have big : ∀ cl ∈ [cl1, cl2], ∀ b, BigChain ord cl { a with nextVar := a.nextVar + K } b → b.panic.isSome = false := by
    intro cl hcl b h
    refine hnf b ?_
    rw [big_call_rel, hb]
    exact (big_oneOf d _ _ b).2 ⟨cl, hcl, h⟩
  obtain ⟨r1, C1, q1⟩ := h1 (big cl1 List.mem_cons_self)
  obtain ⟨r2, C2, q2⟩ := h2 (big cl2 (List.mem_cons_of_mem _ List.mem_cons_self))
  refine ⟨r1, r2, evalR_call ?_, q1, q2⟩
  show EvalR (defs ord) (relBody ord c a.nextVar).2 { a with nextVar := a.nextVar + (relBody ord c a.nextVar).1 } (r1 ++ r2)
  rw [hb]
  exact evalR_oneOf d _ _ _ ⟨r1, r2, C1, ⟨r2, [], C2, rfl, (List.append_nil r2).symm⟩, rfl⟩

/-- poison passes through the goals `gs`: run from a poisoned state they reach a poisoned state -/
def Flows (ord : Order) (gs : List G) : Prop := Flow (BigChain ord gs)

theorem Flows.nil : Flows ord [] := Flow.nil

theorem Flows.cons {g : G} {gs : List G} (hg : Flow (Big (defs ord) g)) (hs : Flows ord gs) : Flows ord (g :: gs) :=
  hg.seq hs

theorem Flows.atom (f : State → Res State) {gs : List G} (hs : Flows ord gs) :
    Flows ord (.atom (liftRes f) :: gs) :=
  Flows.cons (Flow.atom f) hs

/-- `hflow`: were the atom to poison the state, the poison would pass through `rest` to an answer, which `hnf` excludes. -/
theorem guard (ho : OrderOK ord) (t : TAtom) (rest : List G) {a : State}
    (hb : t.Below a.nextVar)
    (ga : Clean a) (hflow : Flows ord rest)
    (hnf : ∀ b, BigChain ord (atomG ord t :: rest) a b → b.panic.isSome = false) :
    ((∀ γ, StateSem γ a → ¬ t.Sat γ) ∧ ChainR (defs ord) (atomG ord t :: rest) a []) ∨
    ∃ c, Clean c ∧ c.nextVar = a.nextVar ∧ (∀ γ, StateSem γ c ↔ (StateSem γ a ∧ t.Sat γ)) ∧
      (∀ zs, ChainR (defs ord) rest c zs → ChainR (defs ord) (atomG ord t :: rest) a zs) ∧
      (∀ b, BigChain ord rest c b → BigChain ord (atomG ord t :: rest) a b) := by
  rcases atom_eval ho t hb ga with ⟨e, nos⟩ | ⟨b, e, pb⟩ | ⟨c, e, gc, nvc, sem⟩
  · exact .inl ⟨nos, chain_nil_of_none e⟩
  · obtain ⟨q, hq, pq⟩ := hflow _ pb
    have := hnf q ⟨b, big_atom.2 e, hq⟩
    rw [this] at pq; cases pq
  · exact .inr ⟨c, gc, nvc, sem, fun zs h => chain_of_some e h, fun b h => ⟨c, big_atom.2 e, h⟩⟩

theorem chain_nil_of_unsat (ho : OrderOK ord) (t : TAtom) (rest : List G) {a : State}
    (hb : t.Below a.nextVar)
    (ga : Clean a) (hflow : Flows ord rest)
    (hnf : ∀ b, BigChain ord (atomG ord t :: rest) a b → b.panic.isSome = false)
    (hun : ∀ γ, StateSem γ a → ¬ t.Sat γ) : ChainR (defs ord) (atomG ord t :: rest) a [] := by
  rcases guard ho t rest hb ga hflow hnf with ⟨_, C⟩ | ⟨c, gc, _, sem, _⟩
  · exact C
  · obtain ⟨γ, hγ⟩ := gc.sat
    exact (hun γ ((sem γ).1 hγ).1 ((sem γ).1 hγ).2).elim

theorem Describes.transport {a c b : State} {P Q : Subst → Prop} (h : Describes c Q b) (hle : a.nextVar ≤ c.nextVar)
    (down : ∀ γ, StateSem γ c → Q γ → StateSem γ a ∧ P γ)
    (up : ∀ γ, StateSem γ a → P γ → ∃ γ1, Agree a.nextVar γ γ1 ∧ StateSem γ1 c ∧ Q γ1) : Describes a P b := by
  refine ⟨h.unp, h.inv, h.dnf, Nat.le_trans hle h.nv, fun γ hγ => ?_, fun γ hγ hP => ?_⟩
  · obtain ⟨hc, hQ⟩ := h.snd γ hγ
    exact down γ hc hQ
  · obtain ⟨γ1, hag, h1, hQ⟩ := up γ hγ hP
    obtain ⟨γ', hag', hb⟩ := h.cmp γ1 h1 hQ
    exact ⟨γ', hag.trans (hag'.mono hle), hb⟩

/-- at most one answer; it describes the valuations of `a` with `P`; there is none only when no valuation has `P` -/
def AtMostOne (a : State) (P : Subst → Prop) (ys : List State) : Prop :=
  ys.length ≤ 1 ∧ (∀ b ∈ ys, Describes a P b) ∧ (ys = [] → ∀ γ, StateSem γ a → ¬ P γ)

section
variable {a : State} {P : Subst → Prop} {ys : List State} (h : AtMostOne a P ys)
include h
theorem AtMostOne.le_one : ys.length ≤ 1 := h.1
theorem AtMostOne.desc : ∀ b ∈ ys, Describes a P b := h.2.1
theorem AtMostOne.unsat (e : ys = []) : ∀ γ, StateSem γ a → ¬ P γ := h.2.2 e
end

theorem AtMostOne.none {a : State} {P : Subst → Prop} (h : ∀ γ, StateSem γ a → ¬ P γ) : AtMostOne a P [] :=
  ⟨Nat.zero_le _, fun _ hb => (nomatch hb), fun _ => h⟩

theorem AtMostOne.one {a b : State} {P : Subst → Prop} (h : Describes a P b) : AtMostOne a P [b] :=
  ⟨Nat.le_refl _, fun b' hb' => by rw [List.mem_singleton.1 hb']; exact h, fun e => nomatch e⟩

theorem AtMostOne.transport {a c : State} {P Q : Subst → Prop} {ys : List State} (h : AtMostOne c Q ys)
    (hle : a.nextVar ≤ c.nextVar) (down : ∀ γ, StateSem γ c → Q γ → StateSem γ a ∧ P γ)
    (up : ∀ γ, StateSem γ a → P γ → ∃ γ1, Agree a.nextVar γ γ1 ∧ StateSem γ1 c ∧ Q γ1) : AtMostOne a P ys :=
  ⟨h.le_one, fun b hb => (h.desc b hb).transport hle down up, fun e γ hγ hP =>
    let ⟨γ1, _, h1, hQ⟩ := up γ hγ hP
    h.unsat e γ1 h1 hQ⟩

theorem chain_last (ho : OrderOK ord) (t : TAtom) {a : State}
    (hb : t.Below a.nextVar)
    (ga : Clean a) (hnf : ∀ b, BigChain ord [atomG ord t] a b → b.panic.isSome = false) :
    ∃ r, ChainR (defs ord) [atomG ord t] a r ∧ AtMostOne a t.Sat r := by
  rcases guard ho t [] hb ga Flows.nil hnf with ⟨nos, C⟩ | ⟨c, gc, nvc, sem, ch, _⟩
  · exact ⟨[], C, .none nos⟩
  · exact ⟨[c], ch _ rfl, .one ⟨gc.unp, gc.inv, gc.dnf, Nat.le_of_eq nvc.symm, fun γ h => (sem γ).1 h,
      fun γ h hs => ⟨γ, .refl _ _, (sem γ).2 ⟨h, hs⟩⟩⟩⟩

/-- `ys` holds one answer per position in `ps`, and `ps` lists, in increasing order, the positions `i` within the
    bound `B` that some valuation of `a` realises (`P i`) -/
def Counts (a : State) (B : Nat → Prop) (P : Nat → Subst → Prop) (ys : List State) (ps : List Nat) : Prop :=
  ps.Pairwise (· < ·) ∧ (∀ i, i ∈ ps ↔ (B i ∧ ∃ γ, StateSem γ a ∧ P i γ)) ∧ Zip2 (fun b i => Describes a (P i) b) ys ps

section
variable {a : State} {B : Nat → Prop} {P : Nat → Subst → Prop} {ys : List State} {ps : List Nat} (h : Counts a B P ys ps)
include h
theorem Counts.sorted : ps.Pairwise (· < ·) := h.1
theorem Counts.mem (i : Nat) : i ∈ ps ↔ (B i ∧ ∃ γ, StateSem γ a ∧ P i γ) := h.2.1 i
theorem Counts.zip : Zip2 (fun b i => Describes a (P i) b) ys ps := h.2.2
end

theorem Counts.nil {a : State} {B : Nat → Prop} {P : Nat → Subst → Prop} (h : ∀ i γ, B i → StateSem γ a → ¬ P i γ) :
    Counts a B P [] [] :=
  ⟨.nil, fun i => ⟨fun h => (nomatch h), fun ⟨hB, γ, hγ, hP⟩ => (h i γ hB hγ hP).elim⟩, .nil⟩

theorem Counts.transport {a c : State} {B B' : Nat → Prop} {P Q : Nat → Subst → Prop} {ys : List State} {ps : List Nat}
    (h : Counts c B' Q ys ps) (hle : a.nextVar ≤ c.nextVar) (hB : ∀ i, B' i ↔ B i)
    (down : ∀ i γ, StateSem γ c → Q i γ → StateSem γ a ∧ P i γ)
    (up : ∀ i γ, StateSem γ a → P i γ → ∃ γ1, Agree a.nextVar γ γ1 ∧ StateSem γ1 c ∧ Q i γ1) : Counts a B P ys ps := by
  refine ⟨h.sorted, fun i => ?_, zip2_imp (fun b i hb => hb.transport hle (down i) (up i)) h.zip⟩
  rw [h.mem i, hB i]
  refine and_congr_right fun _ => ⟨fun ⟨γ, hγ, hQ⟩ => ⟨γ, down i γ hγ hQ⟩, fun ⟨γ, hγ, hP⟩ => ?_⟩
  obtain ⟨γ1, _, h1, hQ⟩ := up i γ hγ hP
  exact ⟨γ1, h1, hQ⟩

theorem Counts.cons {a : State} {B : Nat → Prop} {P : Nat → Subst → Prop} {r1 r2 : List State} {p2 : List Nat} (hB : B 0)
    (h1 : AtMostOne a (P 0) r1) (h2 : Counts a (fun k => B (k + 1)) (fun k => P (k + 1)) r2 p2) :
    ∃ ps, Counts a B P (r1 ++ r2) ps := by
  have pw' : (p2.map (· + 1)).Pairwise (· < ·) := List.pairwise_map.2 (h2.sorted.imp Nat.succ_lt_succ)
  have zip' : Zip2 (fun b i => Describes a (P i) b) r2 (p2.map (· + 1)) := by
    simpa only [List.map_id] using zip2_map id (· + 1) (fun _ _ h => h) h2.zip
  have mem' : ∀ k, k + 1 ∈ p2.map (· + 1) ↔ (B (k + 1) ∧ ∃ γ, StateSem γ a ∧ P (k + 1) γ) := fun k => by
    rw [← h2.mem k, List.mem_map]
    exact ⟨fun ⟨j, hj, e⟩ => Nat.succ.inj e ▸ hj, fun hk => ⟨k, hk, rfl⟩⟩
  have pos : ∀ j ∈ p2.map (· + 1), 0 < j := fun j hj => by
    obtain ⟨k, _, rfl⟩ := List.mem_map.1 hj
    exact Nat.succ_pos k
  cases r1 with
  | nil =>
    refine ⟨p2.map (· + 1), pw', fun i => ?_, zip'⟩
    cases i with
    | zero => exact ⟨fun h => absurd (pos 0 h) (Nat.lt_irrefl 0), fun ⟨_, γ, hγ, hP⟩ => (h1.unsat rfl γ hγ hP).elim⟩
    | succ k => exact mem' k
  | cons b r1 =>
    cases r1 with
    | nil =>
      have hb := h1.desc b List.mem_cons_self
      obtain ⟨γ, hγ⟩ := hb.clean.sat
      refine ⟨0 :: p2.map (· + 1), List.pairwise_cons.2 ⟨pos, pw'⟩, fun i => ?_, .cons hb zip'⟩
      cases i with
      | zero => exact ⟨fun _ => ⟨hB, γ, hb.snd γ hγ⟩, fun _ => List.mem_cons_self⟩
      | succ k =>
        rw [List.mem_cons, ← mem' k]
        exact ⟨fun h => h.resolve_left (Nat.succ_ne_zero k), .inr⟩
    | cons _ _ => exact absurd h1.le_one (by simp)

theorem call_counts {c : Call} {a : State} {K : Nat} {d : Bool} {cl1 cl2 : List G}
    (hb : relBody ord c a.nextVar = (K, oneOf d [cl1, cl2]))
    (hnf : ∀ b, Big (defs ord) (.call c) a b → b.panic.isSome = false) {B : Nat → Prop} {P : Nat → Subst → Prop} (hB : B 0)
    (h1 : (∀ b, BigChain ord cl1 { a with nextVar := a.nextVar + K } b → b.panic.isSome = false) →
      ∃ r1, ChainR (defs ord) cl1 { a with nextVar := a.nextVar + K } r1 ∧ AtMostOne a (P 0) r1)
    (h2 : (∀ b, BigChain ord cl2 { a with nextVar := a.nextVar + K } b → b.panic.isSome = false) →
      ∃ r2, ChainR (defs ord) cl2 { a with nextVar := a.nextVar + K } r2 ∧
        ∃ p2, Counts a (fun k => B (k + 1)) (fun k => P (k + 1)) r2 p2) :
    ∃ ys ps, EvalR (defs ord) (.call c) a ys ∧ Counts a B P ys ps := by
  obtain ⟨r1, r2, E, A1, p2, H2⟩ := call_two hb hnf h1 h2
  obtain ⟨ps, H⟩ := Counts.cons hB A1 H2
  exact ⟨r1 ++ r2, ps, E, H⟩

theorem ListLen.nil {l : Term} {a : State} (h : ListLen 0 l a) {γ : Subst} (hγ : StateSem γ a) : apply γ l = .nil := by
  obtain ⟨ys, hl, e⟩ := h γ hγ
  rw [e, List.eq_nil_of_length_eq_zero hl]
  rfl

theorem ListLen.cons {n : Nat} {l : Term} {a : State} (h : ListLen (n + 1) l a) {γ : Subst} (hγ : StateSem γ a) :
    ∃ y ys, ys.length = n ∧ apply γ l = ofList (y :: ys) := by
  obtain ⟨ys, hl, e⟩ := h γ hγ
  cases ys with
  | nil => cases hl
  | cons y ys => exact ⟨y, ys, Nat.succ.inj hl, e⟩

theorem uncons_nil (ho : OrderOK ord) {K k k' : Nat} (hk : k < K) (hk' : k' < K) {l : Term} {a : State}
    (bl : Below a.nextVar l) (ga : Clean a) (hlen : ListLen 0 l a) {rest : List G} (hflow : Flows ord rest)
    (hnf : ∀ b, BigChain ord (eqG ord l (.cons (.var (a.nextVar + k)) (.var (a.nextVar + k'))) :: rest)
      { a with nextVar := a.nextVar + K } b → b.panic.isSome = false) :
    ChainR (defs ord) (eqG ord l (.cons (.var (a.nextVar + k)) (.var (a.nextVar + k'))) :: rest)
      { a with nextVar := a.nextVar + K } [] :=
  chain_nil_of_unsat ho (.eq l (.cons (.var (a.nextVar + k)) (.var (a.nextVar + k')))) rest
    ⟨bl.mono (Nat.le_add_right _ _), below_cons (below_fresh _ hk) (below_fresh _ hk')⟩
    (ga.bump K) hflow hnf fun γ hγ hs => by
      simp only [TAtom.Sat, apply] at hs
      rw [hlen.nil hγ] at hs
      cases hs

theorem uncons_cons (ho : OrderOK ord) {K k k' : Nat} (hkk : k ≠ k') (hk : k < K) (hk' : k' < K) {n : Nat} {l : Term} {a : State}
    (bl : Below a.nextVar l) (ga : Clean a) (hlen : ListLen (n + 1) l a) {rest : List G} (hflow : Flows ord rest)
    (hnf : ∀ b, BigChain ord (eqG ord l (.cons (.var (a.nextVar + k)) (.var (a.nextVar + k'))) :: rest)
      { a with nextVar := a.nextVar + K } b → b.panic.isSome = false) :
    ∃ c, Clean c ∧ c.nextVar = a.nextVar + K ∧
      (∀ γ, StateSem γ c → StateSem γ a ∧
        ∃ ys, ys.length = n ∧ apply γ l = ofList (γ (a.nextVar + k) :: ys) ∧ γ (a.nextVar + k') = ofList ys) ∧
      (∀ γ y ys, StateSem γ a → apply γ l = ofList (y :: ys) →
        ∃ γ1, Agree a.nextVar γ γ1 ∧ StateSem γ1 c ∧ γ1 (a.nextVar + k) = y ∧ γ1 (a.nextVar + k') = ofList ys) ∧
      (∀ zs, ChainR (defs ord) rest c zs →
        ChainR (defs ord) (eqG ord l (.cons (.var (a.nextVar + k)) (.var (a.nextVar + k'))) :: rest)
          { a with nextVar := a.nextVar + K } zs) ∧
      (∀ b, BigChain ord rest c b →
        BigChain ord (eqG ord l (.cons (.var (a.nextVar + k)) (.var (a.nextVar + k'))) :: rest)
          { a with nextVar := a.nextVar + K } b) := by
  -- a valuation with `l = [y | ys]` extended to the two fresh variables
  have ext : ∀ γ y ys, StateSem γ a → apply γ l = ofList (y :: ys) →
      ∃ γ1, Agree a.nextVar γ γ1 ∧ StateSem γ1 a ∧ γ1 (a.nextVar + k) = y ∧ γ1 (a.nextVar + k') = ofList ys ∧
        (TAtom.eq l (.cons (.var (a.nextVar + k)) (.var (a.nextVar + k')))).Sat γ1 := by
    intro γ y ys hγ e
    have hag : Agree a.nextVar γ (setV (setV γ (a.nextVar + k) y) (a.nextVar + k') (ofList ys)) :=
      (agree_setV γ y (Nat.le_add_right _ _)).trans (agree_setV _ _ (Nat.le_add_right _ _))
    have w1 : setV (setV γ (a.nextVar + k) y) (a.nextVar + k') (ofList ys) (a.nextVar + k) = y := by
      rw [setV_other _ _ (by omega), setV_self]
    have w2 : setV (setV γ (a.nextVar + k) y) (a.nextVar + k') (ofList ys) (a.nextVar + k') = ofList ys := setV_self _ _ _
    refine ⟨_, hag, ga.inv.2 _ _ hag hγ, w1, w2, ?_⟩
    simp only [TAtom.Sat, apply]
    rw [← apply_of_agree bl hag, e, w1, w2]
    rfl
  rcases guard ho (.eq l (.cons (.var (a.nextVar + k)) (.var (a.nextVar + k')))) rest
    ⟨bl.mono (Nat.le_add_right _ _), below_cons (below_fresh _ hk) (below_fresh _ hk')⟩
    (ga.bump K) hflow hnf with ⟨nos, _⟩ | ⟨c, gc, nvc, sem, ch, bg⟩
  · obtain ⟨γ, hγ⟩ := ga.sat
    obtain ⟨y, ys, _, el⟩ := hlen.cons hγ
    obtain ⟨γ1, _, h1, _, _, hs⟩ := ext γ y ys hγ el
    exact (nos γ1 h1 hs).elim
  · refine ⟨c, gc, nvc, fun γ hγ => ?_, fun γ y ys hγ el => ?_, ch, bg⟩
    · obtain ⟨ha, hs⟩ := (sem γ).1 hγ
      obtain ⟨y, ys, hl, el⟩ := hlen.cons ha
      simp only [TAtom.Sat, apply] at hs
      obtain ⟨rfl, e2⟩ := ofList_cons_inj (el.symm.trans hs)
      exact ⟨ha, ys, hl, el, e2.symm⟩
    · obtain ⟨γ1, hag, h1, w1, w2, hs⟩ := ext γ y ys hγ el
      exact ⟨γ1, hag, (sem γ1).2 ⟨h1, hs⟩, w1, w2⟩

theorem at_iff {x l : Term} {γ : Subst} {ys : List Term} (e : apply γ l = ofList ys) (i : Nat) :
    At x l i γ ↔ ys[i]? = some (apply γ x) :=
  ⟨fun ⟨zs, ez, ei⟩ => by rw [ofList_inj (e.symm.trans ez)]; exact ei, fun h => ⟨ys, e, h⟩⟩

theorem member_clause1 (ho : OrderOK ord) {K : Nat} (hK : 2 ≤ K) {n : Nat} {x l : Term} {a : State}
    (bx : Below a.nextVar x) (bl : Below a.nextVar l) (ga : Clean a) (hlen : ListLen (n + 1) l a)
    {P0 : Subst → Prop} (hP : ∀ γ, P0 γ ↔ At x l 0 γ)
    (hnf : ∀ b, BigChain ord [eqG ord l (.cons (.var (a.nextVar + 0)) (.var (a.nextVar + 1))), eqG ord (.var (a.nextVar + 0)) x]
      { a with nextVar := a.nextVar + K } b → b.panic.isSome = false) :
    ∃ r1, ChainR (defs ord) [eqG ord l (.cons (.var (a.nextVar + 0)) (.var (a.nextVar + 1))), eqG ord (.var (a.nextVar + 0)) x]
      { a with nextVar := a.nextVar + K } r1 ∧ AtMostOne a P0 r1 := by
  have h0 : 0 < K := Nat.lt_of_lt_of_le (by decide) hK
  obtain ⟨c, gc, nvc, dn, up, ch, bg⟩ := uncons_cons ho (k := 0) (k' := 1) (by decide) h0 hK bl ga hlen
    (Flows.atom _ Flows.nil) hnf
  have hle : a.nextVar ≤ c.nextVar := Nat.le.intro nvc.symm
  obtain ⟨r, C, h⟩ := chain_last ho (.eq (.var (a.nextVar + 0)) x) (a := c) ⟨nvc ▸ below_fresh a.nextVar h0, bx.mono hle⟩ gc
    fun b hb => hnf b (bg b hb)
  refine ⟨r, ch r C, h.transport hle (fun γ hγ hs => ?_) fun γ hγ hat => ?_⟩
  · obtain ⟨ha, ys, _, el, _⟩ := dn γ hγ
    exact ⟨ha, (hP γ).2 ((at_iff el 0).2 (congrArg some hs))⟩
  · obtain ⟨y, ys, _, el⟩ := hlen.cons hγ
    obtain ⟨γ1, hag, h1, w0, _⟩ := up γ y ys hγ el
    have e0 : some y = some (apply γ x) := (at_iff el 0).1 ((hP γ).1 hat)
    refine ⟨γ1, hag, h1, ?_⟩
    simp only [TAtom.Sat, apply]
    rw [w0, Option.some.inj e0, apply_of_agree bx hag]

theorem member_count (ho : OrderOK ord) (d : Bool) : ∀ (n : Nat) (x l : Term) (a : State),
    Below a.nextVar x → Below a.nextVar l → a.panic.isSome = false → RInv a → DNF a → ListLen n l a →
    (∀ b, Big (defs ord) (.call ⟨.member, [x, l], d⟩) a b → b.panic.isSome = false) →
    ∃ (ys : List State) (ps : List Nat), EvalR (defs ord) (.call ⟨.member, [x, l], d⟩) a ys ∧ ps.Pairwise (· < ·) ∧
      (∀ i, i ∈ ps ↔ (i < n ∧ ∃ γ, StateSem γ a ∧ At x l i γ)) ∧
      Zip2 (fun b i => Describes a (At x l i) b) ys ps := by
  intro n
  induction n with
  | zero =>
    intro x l a bx bl hp hi hd hlen hnf
    have ga : Clean a := ⟨hp, hi, hd⟩
    -- both clauses start with `l == [_ | _]`
    obtain ⟨_, _, E, rfl, rfl⟩ := call_two (body_member (ord := ord) x l d a.nextVar) hnf (Q1 := (· = [])) (Q2 := (· = []))
      (fun nf => ⟨[], uncons_nil ho (k := 0) (k' := 1) (by decide) (by decide) bl ga hlen (Flows.atom _ Flows.nil) nf, rfl⟩)
      (fun nf => ⟨[], uncons_nil ho (k := 3) (k' := 2) (by decide) (by decide) bl ga hlen
        (Flows.cons (flow_member x _ d) Flows.nil) nf, rfl⟩)
    exact ⟨[], [], E, Counts.nil fun i _ h => absurd h (Nat.not_lt_zero i)⟩
  | succ n ih =>
    intro x l a bx bl hp hi hd hlen hnf
    have ga : Clean a := ⟨hp, hi, hd⟩
    refine call_counts (B := (· < n + 1)) (P := At x l) (body_member (ord := ord) x l d a.nextVar) hnf (Nat.succ_pos n)
      (member_clause1 ho (K := 4) (by decide) bx bl ga hlen fun _ => Iff.rfl) fun nf2 => ?_
    -- clause 2, `l == [v3 | v2], member(x, v2)`: position `i` of the tail `v2` is position `i + 1` of `l`
    obtain ⟨c, gc, nvc, dn, up, ch, bg⟩ := uncons_cons ho (k := 3) (k' := 2) (by decide) (by decide) (by decide) bl ga hlen
      (Flows.cons (flow_member x _ d) Flows.nil) nf2
    have hle : a.nextVar ≤ c.nextVar := Nat.le.intro nvc.symm
    obtain ⟨ys, ps, E, H⟩ := ih x (.var (a.nextVar + 2)) c (bx.mono hle) (nvc ▸ below_fresh a.nextVar) gc.unp gc.inv gc.dnf
      (fun γ hγ => let ⟨_, ts, hl, _, e⟩ := dn γ hγ; ⟨ts, hl, e⟩) fun b h => nf2 b (bg b ⟨b, h, rfl⟩)
    refine ⟨ys, ch ys (chain_one E), ps, Counts.transport (B' := (· < n)) (Q := At x (.var (a.nextVar + 2))) H hle
      (fun i => Nat.succ_lt_succ_iff.symm) (fun i γ hγ hat => ?_) fun i γ hγ hat => ?_⟩
    · obtain ⟨ha, ts, _, el, e2⟩ := dn γ hγ
      exact ⟨ha, (at_iff el (i + 1)).2 ((at_iff (l := .var (a.nextVar + 2)) e2 i).1 hat)⟩
    · obtain ⟨y, ts, _, el⟩ := hlen.cons hγ
      obtain ⟨γ1, hag, h1, _, w2⟩ := up γ y ts hγ el
      refine ⟨γ1, hag, h1, (at_iff (l := .var (a.nextVar + 2)) w2 i).2 ?_⟩
      rw [← apply_of_agree bx hag]
      exact (at_iff el (i + 1)).1 hat

/-- `γ` makes `x` the element at position `i` of `l`, and no earlier element equals it -/
def At1 (x l : Term) (i : Nat) (γ : Subst) : Prop :=
  ∃ ys : List Term, apply γ l = ofList ys ∧ ys[i]? = some (apply γ x) ∧ ∀ j, j < i → ys[j]? ≠ some (apply γ x)

theorem at1_iff {x l : Term} {γ : Subst} {ys : List Term} (e : apply γ l = ofList ys) (i : Nat) :
    At1 x l i γ ↔ (ys[i]? = some (apply γ x) ∧ ∀ j, j < i → ys[j]? ≠ some (apply γ x)) :=
  ⟨fun ⟨zs, ez, h⟩ => by rw [ofList_inj (e.symm.trans ez)]; exact h, fun h => ⟨ys, e, h⟩⟩

theorem first_cons {y v : Term} {ys : List Term} {i : Nat} :
    ((y :: ys)[i + 1]? = some v ∧ ∀ j, j < i + 1 → (y :: ys)[j]? ≠ some v) ↔
      (y ≠ v ∧ ys[i]? = some v ∧ ∀ j, j < i → ys[j]? ≠ some v) := by
  simp only [List.getElem?_cons_succ]
  constructor
  · exact fun ⟨h1, h2⟩ => ⟨fun e => h2 0 (Nat.succ_pos i) (congrArg some e), h1, fun j hj => h2 (j + 1) (Nat.succ_lt_succ hj)⟩
  · refine fun ⟨h0, h1, h2⟩ => ⟨h1, fun j hj => ?_⟩
    cases j with
    | zero => exact fun e => h0 (Option.some.inj e)
    | succ j => exact h2 j (Nat.lt_of_succ_lt_succ hj)

theorem Flows.conjLOf (d : Bool) {gs : List G} (h : Flows ord gs) : Flows ord [conjLOf d gs] :=
  Flows.cons (Flow.mono h fun a b => (big_conjLOf d gs a b).2) Flows.nil

/-- `member1`: one answer per position that is the FIRST occurrence of its value (one per distinct value) -/
theorem member1_count (ho : OrderOK ord) (d : Bool) : ∀ (n : Nat) (x l : Term) (a : State),
    Below a.nextVar x → Below a.nextVar l → Clean a → ListLen n l a →
    (∀ b, Big (defs ord) (.call ⟨.member1, [x, l], d⟩) a b → b.panic.isSome = false) →
    ∃ ys ps, EvalR (defs ord) (.call ⟨.member1, [x, l], d⟩) a ys ∧ Counts a (· < n) (At1 x l) ys ps := by
  intro n
  induction n with
  | zero =>
    intro x l a bx bl ga hlen hnf
    obtain ⟨_, _, E, rfl, rfl⟩ := call_two (body_member1 (ord := ord) x l d a.nextVar) hnf (Q1 := (· = [])) (Q2 := (· = []))
      (fun nf => ⟨[], uncons_nil ho (k := 0) (k' := 1) (by decide) (by decide) bl ga hlen (Flows.atom _ Flows.nil) nf, rfl⟩)
      (fun nf => ⟨[], uncons_nil ho (k := 3) (k' := 2) (by decide) (by decide) bl ga hlen
        (Flows.conjLOf d (Flows.atom _ (Flows.cons (flow_member1 x _ d) Flows.nil))) nf, rfl⟩)
    exact ⟨[], [], E, Counts.nil fun i _ h => absurd h (Nat.not_lt_zero i)⟩
  | succ n ih =>
    intro x l a bx bl ga hlen hnf
    refine call_counts (B := (· < n + 1)) (P := At1 x l) (body_member1 (ord := ord) x l d a.nextVar) hnf (Nat.succ_pos n)
      (member_clause1 ho (K := 5) (by decide) bx bl ga hlen
        fun γ => ⟨fun ⟨ys, e, h, _⟩ => ⟨ys, e, h⟩, fun ⟨ys, e, h⟩ => ⟨ys, e, h, fun j hj => absurd hj (Nat.not_lt_zero j)⟩⟩)
      fun nf2 => ?_
    -- clause 2, `l == [v3 | v2], v3 != x, member1(x, v2)`: a first occurrence at position `i` of the tail `v2` is one at
    -- position `i + 1` of `l`, provided the head `v3` differs from `x`
    have fl : Flows ord [.call ⟨.member1, [x, .var (a.nextVar + 2)], d⟩] := Flows.cons (flow_member1 x _ d) Flows.nil
    obtain ⟨c3, g3, nv3, dn3, up3, ch3, bg3⟩ := uncons_cons ho (k := 3) (k' := 2) (by decide) (by decide) (by decide) bl ga hlen
      (Flows.conjLOf d (Flows.atom _ fl)) nf2
    have hle : a.nextVar ≤ c3.nextVar := Nat.le.intro nv3.symm
    have up : ∀ i γ, StateSem γ a → At1 x l (i + 1) γ → ∃ γ1, Agree a.nextVar γ γ1 ∧ StateSem γ1 c3 ∧
        (TAtom.neq (.var (a.nextVar + 3)) x).Sat γ1 ∧ At1 x (.var (a.nextVar + 2)) i γ1 := by
      intro i γ hγ hat
      obtain ⟨y, ts, _, el⟩ := hlen.cons hγ
      obtain ⟨hne, hi⟩ := first_cons.1 ((at1_iff el (i + 1)).1 hat)
      obtain ⟨γ1, hag, h3, w3, w2⟩ := up3 γ y ts hγ el
      refine ⟨γ1, hag, h3, ?_, (at1_iff (l := .var (a.nextVar + 2)) w2 i).2 ?_⟩
      · simp only [TAtom.Sat, apply]
        rw [w3, ← apply_of_agree bx hag]
        exact hne
      · rw [← apply_of_agree bx hag]
        exact hi
    rcases guard ho (.neq (.var (a.nextVar + 3)) x) [.call ⟨.member1, [x, .var (a.nextVar + 2)], d⟩] (a := c3)
      ⟨nv3 ▸ below_fresh a.nextVar, bx.mono hle⟩ g3 fl (fun b h => nf2 b (bg3 b ⟨b, (big_conjLOf d _ _ b).2 h, rfl⟩))
      with ⟨nos, C⟩ | ⟨c4, g4, nv4, sem4, ch4, bg4⟩
    · -- the head equals `x` under every valuation
      refine ⟨[], ch3 [] (chain_one (evalR_conjLOf d _ _ _ C)), [], Counts.nil fun i γ _ hγ hat => ?_⟩
      obtain ⟨γ1, _, h3, hs, _⟩ := up i γ hγ hat
      exact nos γ1 h3 hs
    · have nv4' : c4.nextVar = a.nextVar + 5 := nv4.trans nv3
      obtain ⟨ys, ps, E, H⟩ := ih x (.var (a.nextVar + 2)) c4 (bx.mono (Nat.le.intro nv4'.symm)) (nv4' ▸ below_fresh a.nextVar) g4
        (fun γ hγ => let ⟨_, ts, hl, _, e⟩ := dn3 γ ((sem4 γ).1 hγ).1; ⟨ts, hl, e⟩)
        fun b h => nf2 b (bg3 b ⟨b, (big_conjLOf d _ _ b).2 (bg4 b ⟨b, h, rfl⟩), rfl⟩)
      refine ⟨ys, ch3 ys (chain_one (evalR_conjLOf d _ _ _ (ch4 ys (chain_one E)))), ps,
        Counts.transport (B' := (· < n)) (Q := At1 x (.var (a.nextVar + 2))) H (Nat.le.intro nv4'.symm)
          (fun i => Nat.succ_lt_succ_iff.symm) (fun i γ hγ hat => ?_) fun i γ hγ hat => ?_⟩
      · obtain ⟨h3, hne⟩ := (sem4 γ).1 hγ
        obtain ⟨ha, ts, _, el, e2⟩ := dn3 γ h3
        exact ⟨ha, (at1_iff el (i + 1)).2 (first_cons.2 ⟨hne, (at1_iff (l := .var (a.nextVar + 2)) e2 i).1 hat⟩)⟩
      · obtain ⟨γ1, hag, h3, hs, hat1⟩ := up i γ hγ hat
        exact ⟨γ1, hag, (sem4 γ1).2 ⟨h3, hs⟩, hat1⟩

end
end Pv
