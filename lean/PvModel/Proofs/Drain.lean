/-
  What a drained stream says about the engine's committed choice: `trunc` returns the first element of the drained list,
  so `onceo { gs }`, when the peek fuel lets the body drain, is the stream of the body's first answer or the empty stream.
-/
import PvModel.Proofs.TreeOrder
namespace Pv
open Strm Goal

section Engine
variable {St K : Type} (top : Goal St K → St → Strm St K)

/-- the stream of at most one state -/
def firstStrm : Option St → Strm St K
  | some b => .unit b
  | none => .empty

theorem trunc_of_drain : ∀ (n : Nat) (s : Strm St K) (ys : List St), drainF top n s = some ys →
    truncF top n s = some ys.head? := by
  intro n
  induction n with
  | zero => exact fun _ _ h => nomatch h
  | succ n ih =>
    intro s ys h
    cases s with
    | empty => cases h; rfl
    | unit a => cases h; rfl
    | cons a l =>
      simp only [drainF, Option.map_eq_some_iff] at h
      obtain ⟨zs, _, rfl⟩ := h
      rfl
    | lazy l => exact ih _ ys h

theorem drain_det {n m : Nat} {s : Strm St K} {ys zs : List St} (h1 : drainF top n s = some ys)
    (h2 : drainF top m s = some zs) : ys = zs := by
  have a := drain_mono (top := top) n m s ys h1
  have b := drain_mono (top := top) m n s zs h2
  rw [Nat.add_comm] at b
  rw [a] at b
  exact Option.some.inj b

theorem onceo_of_drain (defs : K → St → St × Goal St K) (pf : Nat) (gs : List (Goal St K)) (a : St) (ys : List St)
    (h : drainF top pf (start defs top pf (conjOfList gs) a) = some ys) :
    start defs top pf (Goal.onceo gs) a = firstStrm ys.head? := by
  have ht := trunc_of_drain top pf _ ys h
  cases hh : ys.head? with
  | none => rw [hh] at ht; exact (onceo_spec defs top pf gs a).2 ht
  | some b => rw [hh] at ht; exact (onceo_spec defs top pf gs a).1 b ht

end Engine

end Pv
