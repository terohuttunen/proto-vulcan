/-
  The operations goals perform on a state, semantically: posting a constraint, `DomFd`, `!=`, and `==`
  (unification followed by `process_extension`: re-run of the store, then the finite-domain extension
  that moves the domain of every newly bound variable onto the term it was bound to).
-/
import PvModel.Proofs.FDRun
import PvModel.Proofs.UnifyExt
namespace Pv
open State Term FD
variable {I : Nat → Prop} [Mode]

/-- `Ref` without the claim that only numbers were bound (a unification binds variables to arbitrary terms) -/
def Ref0 (I : Nat → Prop) (S : Subst → Prop) (st : State) : Res State → Prop
  | .ok st' => WFS st' ∧ Inv st' ∧ ∀ γ, Sem I γ st' ↔ (Sem I γ st ∧ S γ)
  | .fail => ∀ γ, ¬ (Sem I γ st ∧ S γ)
  | .fuel => True
  | .panic s => Mode.allow ∧ DP s ∧ ∀ γ, ¬ (Sem I γ st ∧ S γ)

theorem ref0_iff {S : Subst → Prop} {st : State} {r : Res State} :
    Ref0 I S st r ↔ RefP (fun _ st' => WFS st' ∧ Inv st') I S st r := by
  cases r with
  | ok st' => exact and_assoc.symm
  | _ => exact Iff.rfl

theorem Ref.to0 {S : Subst → Prop} {st : State} {r : Res State} (h : Ref I S st r)
    (hi : ∀ st', r = .ok st' → Inv st') : Ref0 I S st r :=
  ref0_iff.2 ((ref_iff.1 h).base (fun st' e a => ⟨a.1, hi st' e⟩) fun _ => Iff.rfl)

theorem Ref0.bind {S T : Subst → Prop} {st : State} {r : Res State} {f : State → Res State} (h1 : Ref0 I S st r)
    (h2 : ∀ st1, r = .ok st1 → WFS st1 → Inv st1 → Ref0 I T st1 (f st1)) :
    Ref0 I (fun γ => S γ ∧ T γ) st (r.bind f) :=
  ref0_iff.2 ((ref0_iff.1 h1).bind (fun st1 e a _ => ref0_iff.1 (h2 st1 e a.1 a.2)) fun _ _ _ b => b)

theorem Ref0.congr {S T : Subst → Prop} {st : State} {r : Res State} (h : Ref0 I S st r)
    (hST : ∀ γ, S γ ↔ T γ) : Ref0 I T st r :=
  ref0_iff.2 ((ref0_iff.1 h).congr fun γ _ => hST γ)

theorem sem_ignore_absent {st : State} {x : Nat} (hx : st.dget x = none) (γ : Subst) :
    Sem (fun y => I y ∨ y = x) γ st ↔ Sem I γ st := by
  unfold Sem DomSem
  constructor
  · rintro ⟨e, c, dm⟩
    exact ⟨e, c, fun p hp hn => dm p hp fun h => h.elim hn fun e => dget_none hx p hp e⟩
  · rintro ⟨e, c, dm⟩
    exact ⟨e, c, fun p hp hn => dm p hp fun h => hn (.inl h)⟩

theorem sem_ignore_dremove {st : State} {x : Nat} (γ : Subst) :
    Sem (fun y => I y ∨ y = x) γ (st.dremove x) ↔ Sem (fun y => I y ∨ y = x) γ st := by
  unfold Sem DomSem dremove
  constructor
  · rintro ⟨e, c, dm⟩
    refine ⟨e, c, fun p hp hn => dm p (List.mem_filter.2 ⟨hp, ?_⟩) hn⟩
    have : p.1 ≠ x := fun e => hn (.inr e)
    simpa using this
  · rintro ⟨e, c, dm⟩
    exact ⟨e, c, fun p hp hn => dm p (List.mem_filter.1 hp).1 hn⟩

theorem sem_split_entry {st : State} (w : WFS st) {x : Nat} {d : FD} (hx : st.dget x = some d) (hnI : ¬ I x)
    (γ : Subst) :
    Sem I γ st ↔ (Sem (fun y => I y ∨ y = x) γ st ∧ InDom (.var x) d γ) := by
  unfold Sem DomSem InDom
  constructor
  · rintro ⟨e, c, dm⟩
    exact ⟨⟨e, c, fun p hp hn => dm p hp fun h => hn (.inl h)⟩, dm (x, d) (dget_mem hx) hnI⟩
  · rintro ⟨⟨e, c, dm⟩, hd⟩
    refine ⟨e, c, fun p hp hn => ?_⟩
    by_cases hpx : p.1 = x
    · have : p = (x, d) := by
        have h2 := dget_mem hx
        have := nodup_fst_unique w.dnodup (x := x) (d := p.2) (d' := d) (by rw [← hpx]; exact hp) h2
        cases p; simp only at hpx this; subst hpx; subst this; rfl
      subst this; exact hd
    · exact dm p hp fun h => h.elim hn hpx

section Enf
variable {rc : State → Res State} (hrs : RcSem rc)
include hrs

/-- what `resolve_storable_domain` leaves behind enforces the domain by itself: the variable is bound to a
    number of the domain, or carries the domain as its entry, whatever else the domain store holds -/
theorem resolveStorable_enf {st s2 : State} {y : Nat} {i : FD} (hI : IOK I st) (w : WFS st) (hi : Inv st)
    (hy : st.σ y = .var y) (hwi : WF i) (h : resolveStorable rc st y i = .ok s2) :
    ∀ γ x0, x0 ≠ y → Sem I γ (s2.dremove x0) → InDom (.var y) i γ := by
  unfold resolveStorable at h
  split at h
  · rename_i n hsv
    have hsing := (singletonValue_spec i hwi n).1 hsv
    have r := hrs I _ hI.any ((w.bindNum hy n).dremove y) (SameStore.inv ⟨rfl, rfl, rfl, rfl, rfl⟩ hi)
    rw [h] at r
    have h2 : s2.σ y = Term.num n := keeps_num r.2.1 (by simp [dremove, bindS, hy, apply, sub1])
    exact fun γ x0 _ hs => ⟨n, numAt_of_bound hs.1 h2, (hsing n).2 rfl⟩
  · cases h
    intro γ x0 hne hs
    have hm : (y, i) ∈ ((st.dinsert y i).dremove x0).dstore := by
      simp only [dremove, dinsert]
      refine List.mem_filter.2 ⟨by simp, ?_⟩
      have : y ≠ x0 := fun e => hne e.symm
      simpa using this
    exact hs.2.2 (y, i) hm (hI y)

theorem processDomain_enf {st s2 : State} {t : Term} {d : FD} (hI : IOK I st) (w : WFS st) (hi : Inv st)
    (hd : WFI d) (hdv : WF d ∨ ∀ y, walk st.σ t = .var y → (st.dget y).isSome)
    (h : processDomain rc st t d = .ok s2) :
    ∀ γ x0, st.σ x0 ≠ .var x0 → Ext st.σ γ → Sem I γ (s2.dremove x0) → InDom t d γ := by
  unfold processDomain at h
  split at h
  · rename_i y hy
    have hyu : st.σ y = .var y := walk_normal w.solved t y hy
    intro γ x0 hx0 hx hs
    have hne : x0 ≠ y := fun e => hx0 (e ▸ hyu)
    have back : ∀ i : FD, (∀ n, i.Mem n → d.Mem n) → InDom (.var y) i γ → InDom t d γ := fun i hsub ⟨n, hn, hni⟩ =>
      ⟨n, by rw [← numAt_walk w.solved hx, hy]; exact hn, hsub n hni⟩
    unfold updateVarDomain at h
    split at h
    · rename_i old hold
      have hwo : WF old := w.dwf _ (dget_mem hold)
      split at h
      · rename_i i hint
        obtain ⟨hwi, hmi⟩ := intersect_some old d i hwo hd hint
        exact back i (fun n hn => ((hmi n).1 hn).2) (resolveStorable_enf hrs hI w hi hyu hwi h γ x0 hne hs)
      · cases h
    · rename_i hnone
      have hd' : WF d := by
        rcases hdv with h' | h'
        · exact h'
        · have := h' y hy; rw [hnone] at this; cases this
      exact back d (fun _ h => h) (resolveStorable_enf hrs hI w hi hyu hd' h γ x0 hne hs)
  · rename_i v hv
    split at h
    · rename_i hc
      cases h
      intro γ x0 _ hx _
      exact ⟨v, by rw [← numAt_walk w.solved hx, hv]; exact (numAt_num γ v v).2 rfl, (contains_spec d v).1 hc⟩
    · cases h
  · cases h

end Enf

/-- the body of the `process_extension_fd` loop -/
def extStep (ord : Order) (snap cur : State) (p : Nat × Term) : Res State :=
  match snap.dget p.1 with
  | some d =>
    (processDomain (runConstraintsF ord rcFuel) cur p.2 d).bind fun st =>
      match st.dget p.1 with
      | some _ => runConstraintsF ord (rcFuel + 1) (st.dremove p.1)
      | none => .fail
  | none => .ok cur

theorem processExtensionFd_eq (ord : Order) (st : State) (e : Ext1) :
    processExtensionFd ord st e =
      (ord.ps e).foldl (fun (r : Res State) p => r.bind fun cur => extStep ord st cur p) (.ok st) := rfl

section Top
variable {ord : Order} (ho : OrderOK ord)
include ho

/-- one variable of the extension: its domain is imposed on the term it was bound to, its entry removed,
    the store re-run.  The entry of the bound variable counts until it is removed (the worker of `distinctfd`
    may read it in between); removing it loses nothing because `process_domain` has left the domain
    enforced on the term (`processDomain_enf`).  Nothing is unbound, and the entries of the other bound
    variables stay. -/
theorem extStep_sem {snap cur : State} (hI : IOK I cur) (w : WFS cur) (hi : Inv cur) {x : Nat} {t : Term}
    (hxb : cur.σ x ≠ .var x)
    (H1 : ∀ γ, Ext cur.σ γ → apply γ (.var x) = apply γ t)
    (hdx : cur.dget x = snap.dget x) :
    RefP (fun cur s3 => WFS s3 ∧ Inv s3 ∧ Ext cur.σ s3.σ ∧ (∀ y, s3.σ y = .var y → cur.σ y = .var y) ∧
        ∀ y, y ≠ x → cur.σ y ≠ .var y → s3.dget y = cur.dget y)
      I (fun _ => True) cur (extStep ord snap cur (x, t)) := by
  unfold extStep
  cases hsd : snap.dget x with
  | none =>
    exact ⟨⟨w, hi, Ext.refl _ w.solved, fun _ h => h, fun _ _ _ => rfl⟩, fun γ => (and_iff_left trivial).symm⟩
  | some d =>
    rw [hsd] at hdx
    have hwd : WF d := w.dwf _ (dget_mem hdx)
    have hrc := runConstraintsF_ok ord rcFuel
    have hrs := runConstraintsF_sem ho rcFuel
    -- the entry of `x` counts: under the state's substitution, `t ∈ d` is already required
    have hent : ∀ γ, Sem I γ cur → InDom t d γ := fun γ hs => by
      obtain ⟨n, hn, hnd⟩ := hs.2.2 (x, d) (dget_mem hdx) (hI x)
      exact ⟨n, by unfold NumAt at *; rw [← H1 γ hs.1]; exact hn, hnd⟩
    refine RefP.congr (RefP.bind (Ψ := fun s2 s3 => WFS s3 ∧ Inv s3 ∧ Keeps (s2.dremove x) s3)
      (ref_iff.1 (processDomain_sem (I := I) hrs hI w hi (x := t) (WFI.of_wf hwd) (.inl hwd)))
      (fun s2 hp a _ => ?_) (fun s2 s3 a b => ?_)) fun γ hs => ⟨fun _ => trivial, fun _ => ⟨hent γ hs, trivial⟩⟩
    · obtain ⟨w2, k2⟩ := a
      have enf := processDomain_enf hrs hI w hi (WFI.of_wf hwd) (.inl hwd) hp
      have i2' : Inv (s2.dremove x) := SameStore.inv ⟨rfl, rfl, rfl, rfl, rfl⟩ (processDomain_step hrc hi hp).inv
      have hd2 : s2.dget x = some d := by rw [k2.bound x hxb]; exact hdx
      -- removing the entry loses nothing
      have hrem : ∀ γ, Sem I γ (s2.dremove x) ↔ Sem I γ s2 := fun γ => sem_dremove fun hs d' hm => by
        have hxc : Ext cur.σ γ := Ext.trans k2.ext hs.1
        obtain ⟨n, hn, hnd⟩ := enf γ x hxb hxc hs
        rw [nodup_fst_unique w2.dnodup hm (dget_mem hd2)]
        exact ⟨n, by unfold NumAt at *; rw [H1 γ hxc]; exact hn, hnd⟩
      rw [hd2]
      exact (ref_iff.1 (runConstraintsF_sem ho (rcFuel + 1) I (s2.dremove x) hI (w2.dremove x) i2')).base
        (fun s3 hr a => ⟨a.1, (runConstraintsF_ok ord (rcFuel + 1) _ _ i2' hr).inv, a.2⟩)
        fun γ => and_congr_left' (hrem γ)
    · obtain ⟨_, k2⟩ := a
      obtain ⟨w3, i3, k3⟩ := b
      refine ⟨w3, i3, Ext.trans k2.ext k3.ext, fun y hy => k2.mono y (k3.mono y hy), fun y hyx hyb => ?_⟩
      rw [k3.bound y fun e => hyb (k2.mono y e), dget_dremove_ne s2 hyx, k2.bound y hyb]

/-- the loop of `process_extension_fd` over the pairs `ps` of an extension of `σ'`: the entries of the
    variables still to come are those of the snapshot -/
theorem extFold_sem (snap : State) (σ' : Subst) (ps : Ext1) {cur : State} (hI : IOK I cur) (w : WFS cur) (hi : Inv cur)
    (hn : (ps.map (·.1)).Nodup) (hb : ∀ p ∈ ps, σ' p.1 ≠ .var p.1)
    (hH : ∀ γ, Ext σ' γ → ∀ p ∈ ps, apply γ (.var p.1) = apply γ p.2)
    (hext : Ext σ' cur.σ) (hmono : ∀ y, cur.σ y = .var y → σ' y = .var y)
    (hdg : ∀ p ∈ ps, cur.dget p.1 = snap.dget p.1) :
    RefP (fun _ s' => WFS s' ∧ Inv s') I (fun _ => True) cur
      (ps.foldl (fun (r : Res State) p => r.bind fun cur => extStep ord snap cur p) (.ok cur)) := by
  refine RefP.fold (fun l cur => (∀ p ∈ l, p ∈ ps) ∧ (l.map (·.1)).Nodup ∧ WFS cur ∧ Inv cur ∧ Ext σ' cur.σ ∧
      (∀ y, cur.σ y = .var y → σ' y = .var y) ∧ ∀ p ∈ l, cur.dget p.1 = snap.dget p.1) (extStep ord snap)
    (fun _ h => ⟨h.2.2.1, h.2.2.2.1⟩) (fun _ b => b) (fun p l cur h => ?_) ps cur
    ⟨fun _ h => h, hn, w, hi, hext, hmono, hdg⟩
  obtain ⟨hl, hn, w, hi, hext, hmono, hdg⟩ := h
  have hbound : ∀ q ∈ p :: l, cur.σ q.1 ≠ .var q.1 := fun q hq e => hb q (hl q hq) (hmono _ e)
  have step := extStep_sem (I := I) ho (snap := snap) hI.any w hi (x := p.1) (t := p.2) (hbound p (List.mem_cons_self ..))
    (fun γ he => hH γ (Ext.trans hext he) p (hl p (List.mem_cons_self ..))) (hdg p (List.mem_cons_self ..))
  refine ⟨step.base (fun _ _ a => ⟨a.1, a.2.1⟩) fun _ => Iff.rfl, fun s3 hs => ?_⟩
  rw [show extStep ord snap cur (p.1, p.2) = .ok s3 from hs] at step
  obtain ⟨⟨w3, i3, e3, m3, d3⟩, _⟩ := step
  simp only [List.map_cons, List.nodup_cons] at hn
  refine ⟨fun q hq => hl q (List.mem_cons_of_mem _ hq), hn.2, w3, i3, Ext.trans hext e3, fun y hy => hmono y (m3 y hy),
    fun q hq => ?_⟩
  have hne : q.1 ≠ p.1 := fun e => hn.1 (e ▸ List.mem_map_of_mem (f := (·.1)) hq)
  rw [d3 q.1 hne (hbound q (List.mem_cons_of_mem _ hq))]
  exact hdg q (List.mem_cons_of_mem _ hq)

theorem unify_sem {st : State} (hI : IOK I st) (w : WFS st) (hi : Inv st) (u v : Term) :
    Ref0 I (fun γ => apply γ u = apply γ v) st (unify ord st u v) := by
  unfold unify
  cases hu : unifyF unifyFuel st.σ [] u v with
  | none => trivial
  | some r =>
    cases r with
    | none =>
      intro γ ⟨hs, he⟩
      exact unifyF_fail _ _ _ _ _ w.solved hu ⟨γ, hs.1, he⟩
    | some q =>
      obtain ⟨σ', e⟩ := q
      simp only []
      obtain ⟨s', x', un⟩ := unifyF_sound _ _ _ _ _ _ _ w.solved hu
      have mg := unifyF_mgu _ _ _ _ _ _ _ w.solved hu
      obtain ⟨hbnd, hnod, hpairs⟩ := unifyF_ext_full _ _ _ _ _ _ w.solved hu
      have hmono := unifyF_unbound_aux _ _ _ _ _ _ _ w.solved hu
      have hext : ∀ γ, Ext σ' γ ↔ (Ext st.σ γ ∧ apply γ u = apply γ v) := fun γ =>
        ⟨fun a => ⟨Ext.trans x' a, unifies_of_ext a un⟩, fun a => mg γ a.1 a.2⟩
      generalize hst0 : ({ st with σ := σ' } : State) = st0
      have hσ0 : st0.σ = σ' := by subst hst0; rfl
      have hs0 : st0.store = st.store := by subst hst0; rfl
      have hd0 : st0.dstore = st.dstore := by subst hst0; rfl
      have w0 : WFS st0 := ⟨by rw [hσ0]; exact s', by rw [hd0]; exact w.dnodup, by rw [hd0]; exact w.dwf,
        by rw [hs0]; exact w.nodist⟩
      have i0 : Inv st0 := by subst hst0; exact SameStore.inv ⟨rfl, rfl, rfl, rfl, rfl⟩ hi
      have sem0 : ∀ γ, Sem I γ st0 ↔ (Sem I γ st ∧ apply γ u = apply γ v) := fun γ => by
        unfold Sem DomSem
        rw [hσ0, hs0, hd0, hext γ]
        constructor
        · rintro ⟨⟨a, b⟩, c, d⟩; exact ⟨⟨a, c, d⟩, b⟩
        · rintro ⟨⟨a, c, d⟩, b⟩; exact ⟨⟨a, b⟩, c, d⟩
      have hperm := ho.2.1 e
      -- from `st0`: the store is re-run, the extension is processed, the user hook logs it
      refine ref0_iff.2 (RefP.base (Φ := fun _ s => WFS s ∧ Inv s) (st0 := st0) (S := fun _ => True ∧ True ∧ True) ?_
        (fun _ _ a => a) fun γ => by
        rw [sem0 γ, and_iff_left (⟨trivial, trivial, trivial⟩ : True ∧ True ∧ True)])
      refine (ref_iff.1 (runConstraintsF_sem ho (rcFuel + 1) I st0 hI w0 i0)).bind (fun s1 hr a _ => ?_) fun _ _ _ b => b
      have i1 : Inv s1 := (runConstraintsF_ok ord (rcFuel + 1) _ _ i0 hr).inv
      rw [processExtensionFd_eq]
      refine (extFold_sem (I := I) ho s1 σ' (ord.ps e) hI.any a.1 i1 ((hperm.map (·.1)).nodup_iff.2 hnod)
          (fun p hp => (hbnd p (hperm.mem_iff.1 hp)).2) (fun γ he p hp => hpairs γ he p (hperm.mem_iff.1 hp))
          (by rw [← hσ0]; exact a.2.ext) (fun y hy => by rw [← hσ0]; exact a.2.mono y hy) fun _ _ => rfl).bind
        (fun s2 _ b _ => ?_) fun _ _ _ b => b
      exact ⟨⟨b.1.same rfl rfl fun p hp => .inl hp, SameStore.inv ⟨rfl, rfl, rfl, rfl, rfl⟩ b.2⟩,
        fun γ => (sem_same rfl rfl rfl γ).trans (and_iff_left trivial).symm⟩

theorem disunify_sem {st : State} (w : WFS st) (hi : Inv st) (u v : Term) :
    Ref0 I (fun γ => apply γ u ≠ apply γ v) st (disunify ord st u v) := by
  unfold disunify
  cases hu : unifyF unifyFuel st.σ [] u v with
  | none => trivial
  | some r =>
    cases r with
    | none =>
      exact ⟨w, hi, fun γ => ⟨fun a => ⟨a, fun he => unifyF_fail _ _ _ _ _ w.solved hu ⟨γ, a.1, he⟩⟩, fun a => a.1⟩⟩
    | some q =>
      obtain ⟨σ', e⟩ := q
      simp only []
      obtain ⟨_, x', un⟩ := unifyF_sound _ _ _ _ _ _ _ w.solved hu
      have mg := unifyF_mgu _ _ _ _ _ _ _ w.solved hu
      obtain ⟨δ, he, hiff, _, _⟩ := unifyF_ext _ _ _ _ _ _ _ w.solved hu
      simp only [List.append_nil] at he
      subst he
      -- the disequality of the extension is the disequality of the terms
      have key : ∀ γ, Ext st.σ γ → (DiseqHolds γ e ↔ apply γ u ≠ apply γ v) := fun γ hx => by
        rw [diseqHolds_iff]
        constructor
        · intro hne heq
          exact hne ((hiff γ hx).1 (mg γ hx heq))
        · intro hne hall
          exact hne (unifies_of_ext ((hiff γ hx).2 hall) un)
      split
      · rename_i hemp
        have : e = [] := by simpa using hemp
        subst this
        intro γ ⟨hs, hne⟩
        exact not_diseqHolds_nil γ ((key γ hs.1).2 hne)
      · have r := (withNew_diseq_sem (I := I) ho w hi e).congr fun γ hs => key γ hs.1
        exact r.to0 fun st' h => by cases h; exact (withNew_step (i := none) ord st _ hi).inv

theorem postCst_sem {st : State} (hI : IOK I st) (w : WFS st) (hi : Inv st) (c : Cst) (hnd : CstOK c) :
    Ref0 I (fun γ => CstSem γ c) st (postCst ord st c) := by
  have hrc := runConstraintsF_ok ord rcFuel
  have hrs := runConstraintsF_sem ho rcFuel
  -- `runCst 4` is its body over `runCst 3`
  have body : Ref I (fun γ => CstSem γ c) { st with nextId := st.nextId + 1 }
      (runCst (runConstraintsF ord rcFuel) ord 4 st.nextId c { st with nextId := st.nextId + 1 }) :=
    runCstBody_sem hrc hrs ho (runCst_selfSem hrc hrs ho 3) hI.any (wfs_fresh w) (fresh_fr hi) hnd
  exact (Ref.of_fresh body w).to0 fun s1 hb => (runCst_selfOK hrc ord 4 _ _ _ _ (fresh_fr hi) hb).inv

/-- `DomFd` (`infd` on one term) with a well-formed domain -/
theorem domFd_sem {st : State} (hI : IOK I st) (w : WFS st) (hi : Inv st) (x : Term) (d : FD) (hd : WF d) :
    Ref0 I (InDom x d) st (domFd ord st x d) := by
  unfold domFd
  exact (processDomain_sem (runConstraintsF_sem ho rcFuel) hI w hi (WFI.of_wf hd) (.inl hd)).to0
    fun st' h => (processDomain_step (runConstraintsF_ok ord rcFuel) hi h).inv

end Top

theorem wfs_empty (n : Nat) : WFS (State.empty n) :=
  ⟨solved_id, by simp [State.empty], by simp [State.empty], by simp [State.empty]⟩

theorem sem_empty (n : Nat) (γ : Subst) : Sem I γ (State.empty n) :=
  ⟨ext_id γ, by simp [State.empty], by simp [DomSem, State.empty]⟩

end Pv
