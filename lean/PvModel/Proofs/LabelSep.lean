/-
  Labelling separates: two states `force_ans(x)` delivers at different positions of its answer list give the labelled
  term `x` different values, under any valuation the one describes and any the other describes.  (Proofs/Label.lean shows
  they describe no common valuation; this is stronger: they do not even agree on `x`.)  With the cover half of the
  partition theorem: the delivered states are in bijection with the blocks of valuations of the labelled state that agree
  on `x`.  This is "each assignment is returned once".
-/
import PvModel.Proofs.Label
namespace Pv
open State Term Goal FD

variable [Mode]

/-- the two states give the terms `fs` different values -/
def SepL (fs : List Term) (a b : State) : Prop :=
  ∀ γa γb, Sem NoI γa a → Sem NoI γb b → fs.map (apply γa) ≠ fs.map (apply γb)

theorem SepL.symm {fs : List Term} {a b : State} (h : SepL fs a b) : SepL fs b a :=
  fun γa γb ha hb e => h γb γa hb ha e.symm

theorem SepL.sub {fs : List Term} {a b a' b' : State} (h : SepL fs a b) (ha : ∀ γ, Sem NoI γ a' → Sem NoI γ a)
    (hb : ∀ γ, Sem NoI γ b' → Sem NoI γ b) : SepL fs a' b' :=
  fun γa γb sa sb => h γa γb (ha γa sa) (hb γb sb)

theorem iterItems_apply_congr {γa γb : Subst} : ∀ (t : Term), apply γa t = apply γb t →
    t.iterItems.map (apply γa) = t.iterItems.map (apply γb) := by
  intro t
  induction t using iterItems_ind with
  | cons h t ih =>
    intro e
    have e : Term.cons (apply γa h) (apply γa t) = .cons (apply γb h) (apply γb t) := e
    rw [iterItems_cons, List.map_cons, List.map_cons, (Term.cons.inj e).1, ih (Term.cons.inj e).2]
  | nil => exact fun _ => rfl
  | atom t h => intro e; rw [h]; exact congrArg (fun x => [x]) e

theorem compFields_apply_congr {γa γb : Subst} (args : Term) (e : apply γa args = apply γb args) :
    (compFields args).map (apply γa) = (compFields args).map (apply γb) := by
  have hi := iterItems_apply_congr args e
  unfold compFields
  generalize args.iterItems = items at hi
  induction items with
  | nil => rfl
  | cons it rest ih =>
    simp only [List.map_cons, List.cons.injEq] at hi
    simp only [List.flatMap_cons, List.map_append]
    rw [ih hi.2]
    congr 1
    have e1 := hi.1
    split
    · rename_i kids
      have e1 : Term.comp 4 (apply γa kids) = .comp 4 (apply γb kids) := e1
      exact iterItems_apply_congr kids (Term.comp.inj e1).2
    · exact congrArg (fun t => [t]) e1

theorem labelFields_apply_congr {γa γb : Subst} : ∀ (w : Term), apply γa w = apply γb w →
    (labelFields w).map (apply γa) = (labelFields w).map (apply γb) := by
  intro w e
  cases w with
  | cons h t =>
    have e : Term.cons (apply γa h) (apply γa t) = .cons (apply γb h) (apply γb t) := e
    show [apply γa h, apply γa t] = [apply γb h, apply γb t]
    rw [(Term.cons.inj e).1, (Term.cons.inj e).2]
  | comp g args =>
    have e : Term.comp g (apply γa args) = .comp g (apply γb args) := e
    exact compFields_apply_congr args (Term.comp.inj e).2
  | var _ => rfl
  | val _ => rfl
  | nil => rfl

theorem apply_of_walk {σ γ : Subst} (hx : Ext σ γ) (x : Term) : apply γ x = apply γ (walk σ x) := by
  cases x with
  | var x0 => exact (hx (.var x0)).symm
  | _ => rfl

section Goals
variable (dfs : Call → State → State × G)

/-- a labelling goal separates its answers on the terms `fs` -/
def SepOK (g : G) (fs : List Term) : Prop :=
  ∀ N s zs, WFS s → Inv s → s.panic = none → evalRef dfs N g s = some zs → (∀ t ∈ zs, t.panic = none) →
    zs.Pairwise (SepL fs)

theorem SepOK.run {g : G} {fs : List Term} (h : SepOK dfs g fs) :
    Run dfs (fun s => WFS s ∧ Inv s) (fun _ zs => zs.Pairwise (SepL fs)) g :=
  fun N s zs i => h N s zs i.1 i.2

theorem pairwise_flatMapM {f : State → Option (List State)} {fs1 fs2 fs : List Term}
    (h1 : ∀ a b, SepL fs1 a b → SepL fs a b) (h2 : ∀ a b, SepL fs2 a b → SepL fs a b) :
    ∀ {zs ws : List State}, zs.Pairwise (SepL fs1) → flatMapM f zs = some ws →
      (∀ t ∈ zs, ∀ ys, f t = some ys → ys.Pairwise (SepL fs2) ∧ ∀ y ∈ ys, ∀ γ, Sem NoI γ y → Sem NoI γ t) →
      ws.Pairwise (SepL fs) :=
  pairwise_flatMapM_sub (fun _ _ _ _ hab ha hb => h1 _ _ (hab.sub ha hb)) h2

theorem sepL_flatMapM {f : State → Option (List State)} {f1 : Term} {fs2 : List Term} {xs zs : List State}
    (hp : xs.Pairwise (SepL [f1])) (hf : flatMapM f xs = some zs)
    (hc : ∀ t ∈ xs, ∀ ys, f t = some ys → ExactPart t ys ∧ ys.Pairwise (SepL fs2)) :
    zs.Pairwise (SepL (f1 :: fs2)) :=
  pairwise_flatMapM (fs1 := [f1]) (fs2 := fs2) (fs := f1 :: fs2)
    (fun _ _ hab γa γb sa sb e => hab γa γb sa sb (congrArg (fun t => [t]) (List.cons.inj e).1))
    (fun _ _ hab γa γb sa sb e => hab γa γb sa sb (List.cons.inj e).2) hp hf
    fun t ht ys e => ⟨(hc t ht ys e).2, fun y hy => ((hc t ht ys e).1.1 y hy).2.2⟩

/-- labelling the terms `fs` from `s` delivers `zs`: a partition of what `s` describes, separated on `fs` -/
def PartSep (fs : List Term) (s : State) (zs : List State) : Prop := ExactPart s zs ∧ zs.Pairwise (SepL fs)

theorem partSep_self (fs : List Term) (s : State) (i : WFS s ∧ Inv s) : PartSep fs s [s] :=
  ⟨exactPart_self i.1 i.2, List.pairwise_singleton _ _⟩

theorem partSep_keep (f : Term) (s : State) (xs : List State) (i : WFS s ∧ Inv s) (c : PartSep [f] s xs) :
    ∀ t ∈ xs, WFS t ∧ Inv t :=
  exactPart_keep s xs i c.1

theorem partSep_flatMapM (f : Term) (fs : List Term) (s : State) (xs zs : List State) (g : State → Option (List State))
    (_ : WFS s ∧ Inv s) (c : PartSep [f] s xs) (hg : flatMapM g xs = some zs)
    (hc : ∀ t ∈ xs, ∀ ys, g t = some ys → PartSep fs t ys) : PartSep (f :: fs) s zs :=
  ⟨exactPart_flatMapM c.1 hg fun t ht ys e => (hc t ht ys e).1, sepL_flatMapM c.2 hg hc⟩

theorem sepOK_conj {g1 g2 : G} {f1 : Term} {fs2 : List Term} (l1 : LabelOK dfs g1) (l2 : LabelOK dfs g2)
    (h1 : SepOK dfs g1 [f1]) (h2 : SepOK dfs g2 fs2) : SepOK dfs (.conj g1 g2) (f1 :: fs2) :=
  fun N s zs w hi => run_conj dfs (I := fun s => WFS s ∧ Inv s) (C1 := PartSep [f1]) (C2 := PartSep fs2)
    (C := fun _ zs => zs.Pairwise (SepL (f1 :: fs2)))
    (fun N s zs i hp h hall => ⟨l1.run dfs N s zs i hp h hall, h1.run dfs N s zs i hp h hall⟩)
    (fun N s zs i hp h hall => ⟨l2.run dfs N s zs i hp h hall, h2.run dfs N s zs i hp h hall⟩) (l2.pass dfs)
    (partSep_keep f1) (fun _ _ _ _ _ c hf hc => sepL_flatMapM c.2 hf hc) N s zs ⟨w, hi⟩

variable {ord : Order} (ho : OrderOK ord)
include ho

omit dfs ho in
theorem sep_convert {x : Term} {fs : List Term} {s : State} {zs : List State} (hp : zs.Pairwise (SepL fs))
    (hsub : ∀ t ∈ zs, ∀ γ, Sem NoI γ t → Sem NoI γ s)
    (conv : ∀ γa γb, Sem NoI γa s → Sem NoI γb s → apply γa x = apply γb x → fs.map (apply γa) = fs.map (apply γb)) :
    zs.Pairwise (SepL [x]) :=
  hp.imp_of_mem fun {a b} ha hb hab γa γb sa sb e =>
    hab γa γb sa sb (conv γa γb (hsub a ha γa sa) (hsub b hb γb sb) (List.cons.inj e).1)

omit dfs in
/-- one state per value of the domain: different values of `xv`, hence of `x` -/
theorem sep_var {x : Term} {s : State} (w : WFS s) (hi : Inv s) {xv : Nat} {d : FD} (hw : walk s.σ x = .var xv)
    (hd : s.dget xv = some d) {zs : List State} (hz : zs = d.iter.filterMap fun v => labelStep ord xv v s)
    (hall : ∀ t ∈ zs, t.panic = none) : zs.Pairwise (SepL [x]) := by
  subst hz
  have key : ∀ v t, labelStep ord xv v s = some t → v ∈ d.iter → ∀ γ, Sem NoI γ t → apply γ x = Term.num v :=
    fun v t hv hvd γ hγ => by
      have h2 := ((labelStep_sem ho w hi hv (hall t (List.mem_filterMap.2 ⟨v, hvd, hv⟩))).2.2.2 γ).1 hγ
      rw [apply_of_walk h2.1.1 x, hw]
      exact h2.2
  refine List.pairwise_filterMap.2 ((iter_pw d (w.dwf _ (dget_mem hd))).imp_of_mem
    fun {a b} ha hb hab t1 h1 t2 h2 γa γb sa sb e => ?_)
  have e := (List.cons.inj e).1
  rw [key a t1 h1 ha γa sa, key b t2 h2 hb γb sb] at e
  have : a = b := by simpa [Term.num] using e
  omega

theorem forceAns_partSep (n : Nat) (x : Term) : Run dfs (fun s => WFS s ∧ Inv s) (PartSep [x]) (forceAns ord n x) :=
  forceAns_run dfs ord (C := PartSep) (nil := partSep_self []) (seq := partSep_flatMapM) (keep := partSep_keep)
    (free := fun x s _ i _ _ => partSep_self [x] s i)
    (var := fun _ _ _ _ _ i _ hw hd hz hall => ⟨label_var_exact ho i.1 i.2 hd hz hall, sep_var ho i.1 i.2 hw hd hz hall⟩)
    (sub := fun x s _ _ _ c => ⟨c.1, sep_convert c.2 (fun t ht => (c.1.1 t ht).2.2) fun γa γb sa sb e => by
      rw [apply_of_walk sa.1 x, apply_of_walk sb.1 x] at e
      exact labelFields_apply_congr _ e⟩) n x

theorem forceAns_sep : ∀ (n : Nat) (x : Term), SepOK dfs (forceAns ord n x) [x] :=
  fun n x N s zs w hi hp h hall => (forceAns_partSep dfs ho n x N s zs ⟨w, hi⟩ hp h hall).2

theorem sepOK_forceList (n : Nat) (ih : ∀ x, SepOK dfs (forceAns ord n x) [x]) :
    ∀ fs : List Term, SepOK dfs (Goal.conjOfList (fs.map (forceAns ord n))) fs :=
  fun fs N s zs w hi hp h hall =>
    (forceList_run dfs ord (C := PartSep) (partSep_self []) partSep_flatMapM partSep_keep n
      (fun x N s zs i hp h hall => ⟨forceAns_part dfs ho n x N s zs i hp h hall, (ih x).run dfs N s zs i hp h hall⟩)
      fs N s zs ⟨w, hi⟩ hp h hall).2

end Goals
end Pv
