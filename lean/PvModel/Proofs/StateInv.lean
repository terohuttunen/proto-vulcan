/-
  What a successful run of the state machine of Model/State.lean did, read off the definitions once for every
  function that more than one invariant (lifecycle count, liveness, tightness) has to follow.  Not covered:
  `distinctfd` and `exclude_from_domain`, which only the lifecycle count follows (strict mode excludes them from the
  other two), and every outcome other than `.ok`: the refinement proofs speak of `.fail` and `.panic` too and read the
  definitions themselves.
-/
import PvModel.Model.State
namespace Pv
open State

def Cst.isZ : Cst → Bool
  | .plusz .. | .timesz .. => true
  | _ => false

theorem Cst.eq_diseq_of_isDiseq {c : Cst} (h : c.isDiseq = true) : ∃ ps, c = .diseq ps := by
  cases c <;> first | exact ⟨_, rfl⟩ | cases h

theorem Cst.isZ_of_isDiseq {c : Cst} (h : c.isDiseq = true) : c.isZ = false := by
  obtain ⟨ps, rfl⟩ := Cst.eq_diseq_of_isDiseq h
  rfl

theorem Cst.isFD_of_isDiseq {c : Cst} (h : c.isDiseq = true) : c.isFD = false := by
  cases c <;> first | rfl | cases h

theorem Cst.isFD_of_not {c : Cst} (hd : c.isDiseq = false) (hz : c.isZ = false) : c.isFD = true := by
  cases c <;> first | rfl | contradiction

theorem runCst_succ (rc : State → Res State) (ord : Order) (k i : Nat) (c : Cst) (st : State) :
    runCst rc ord (k + 1) i c st = runCstBody rc ord (runCst rc ord k) i c st := rfl

theorem Res.bind_ok {α β} {r : Res α} {f : α → Res β} {b : β} (h : r.bind f = .ok b) :
    ∃ a, r = .ok a ∧ f a = .ok b := by
  cases r with
  | ok a => exact ⟨a, rfl, h⟩
  | fail => cases h
  | fuel => cases h
  | panic s => cases h

theorem Res.of_ite_fail {α} {p : Prop} [Decidable p] {a b : α} (h : (if p then Res.ok a else .fail) = .ok b) : b = a := by
  by_cases hp : p
  · rw [if_pos hp] at h; cases h; rfl
  · rw [if_neg hp] at h; cases h

/-- `P` also takes the elements still to come, so that what a step preserves may speak of them -/
theorem foldl_bind_ok {α σ : Type} (P : List α → σ → Prop) (f : σ → α → Res σ)
    (hf : ∀ a l s s', P (a :: l) s → f s a = .ok s' → P l s') :
    ∀ (l : List α) (r : Res σ) (s' : σ),
      l.foldl (fun r a => r.bind fun s => f s a) r = .ok s' → ∃ s, r = .ok s ∧ (P l s → P [] s')
  | [], _, s', h => ⟨s', h, id⟩
  | a :: l, _, s', h => by
    obtain ⟨s1, e1, p1⟩ := foldl_bind_ok P f hf l _ s' h
    obtain ⟨s0, e0, e2⟩ := Res.bind_ok e1
    exact ⟨s0, e0, fun p => p1 (hf a l s0 s1 p e2)⟩

theorem processDomain_ok {rc : State → Res State} {st st' : State} {x : Term} {d : FD}
    (h : processDomain rc st x d = .ok st') :
    (∃ n, walk st.σ x = .val (.num n) ∧ d.contains n = true ∧ st' = st) ∨
    ∃ y i, walk st.σ x = .var y ∧
      (st.dget y = none ∧ i = d ∨ ∃ old, st.dget y = some old ∧ old.intersect d = some i) ∧
      (i.singletonValue = none ∧ st' = st.dinsert y i ∨
       ∃ n, i.singletonValue = some n ∧
         rc ({ st with σ := bindS y (Term.num n) st.σ }.dremove y) = .ok st') := by
  have resolve : ∀ {i : FD} {y : Nat}, resolveStorable rc st y i = .ok st' →
      i.singletonValue = none ∧ st' = st.dinsert y i ∨
      ∃ n, i.singletonValue = some n ∧
        rc ({ st with σ := bindS y (Term.num n) st.σ }.dremove y) = .ok st' := by
    intro i y hr
    unfold resolveStorable at hr
    split at hr
    · rename_i n hn; exact .inr ⟨n, hn, hr⟩
    · rename_i hn; cases hr; exact .inl ⟨hn, rfl⟩
  unfold processDomain at h
  split at h
  · rename_i y hy
    unfold updateVarDomain at h
    split at h
    · rename_i old ho
      split at h
      · rename_i i hi; exact .inr ⟨y, i, hy, .inr ⟨old, ho, hi⟩, resolve h⟩
      · cases h
    · rename_i ho; exact .inr ⟨y, d, hy, .inl ⟨ho, rfl⟩, resolve h⟩
  · rename_i n hn
    split at h
    · rename_i hc; cases h; exact .inl ⟨n, hn, hc, rfl⟩
    · cases h
  · cases h

theorem withConstraint_other (ord : Order) (st : State) (i : Nat) {c : Cst} (hd : c.isDiseq = false) :
    st.withConstraint ord i c =
      { st with withs := st.withs + 1, store := st.store.filter (fun p => p.1 != i) ++ [(i, c)] } := by
  cases c <;> first | rfl | cases hd

/-- the lifecycle invariant: every `with_constraint` hook call is matched by a `take_constraint` hook call or by a
    constraint still in the store -/
def Cnt (st : State) : Prop := st.withs = st.takes + st.store.length

theorem filter_ne_self {l : List (Nat × Cst)} {i : Nat} (h : i ∉ l.map (·.1)) : l.filter (fun p => p.1 != i) = l := by
  apply List.filter_eq_self.2
  intro q hq
  have : q.1 ≠ i := fun e => h (e ▸ List.mem_map_of_mem hq)
  simpa using this

theorem filter_ne_length (l : List (Nat × Cst)) (i : Nat) (hn : (l.map (·.1)).Nodup) (hm : i ∈ l.map (·.1)) :
    (l.filter (fun p => p.1 != i)).length + 1 = l.length := by
  induction l with
  | nil => simp at hm
  | cons p ps ih =>
    simp only [List.map_cons, List.nodup_cons] at hn
    simp only [List.map_cons, List.mem_cons] at hm
    by_cases h : p.1 = i
    · subst h
      simp [filter_ne_self hn.1]
    · have hm' : i ∈ ps.map (·.1) := by
        rcases hm with e | e
        · exact absurd e.symm h
        · exact e
      have := ih hn.2 hm'
      have hb : (p.1 != i) = true := by simpa using h
      simp only [List.filter_cons, hb, if_true, List.length_cons]
      omega

theorem take_some_ok {st st1 : State} {i : Nat} {c : Cst} (h : st.takeConstraint i = (st1, some c)) :
    (i, c) ∈ st.store ∧
    st1 = { st with store := st.store.filter (fun p => p.1 != i), takes := st.takes + 1 } := by
  unfold takeConstraint at h
  split at h
  · rename_i j c' hf
    cases h
    have hj := List.find?_some hf
    simp only [beq_iff_eq] at hj
    subst hj
    exact ⟨List.mem_of_find?_eq_some hf, rfl⟩
  · cases h

theorem take_none_ok {st st1 : State} {i : Nat} (h : st.takeConstraint i = (st1, none)) :
    st1 = st ∧ ∀ q ∈ st.store, q.1 ≠ i := by
  unfold takeConstraint at h
  split at h
  · cases h
  · rename_i hf
    cases h
    exact ⟨rfl, fun q hq e => by simpa [e] using List.find?_eq_none.1 hf q hq⟩

theorem cnt_take (st : State) (i : Nat) (hn : (st.store.map (·.1)).Nodup) (h : Cnt st) : Cnt (st.takeConstraint i).1 := by
  cases e : st.takeConstraint i with
  | mk st1 o =>
    cases o with
    | none => rw [(take_none_ok e).1]; exact h
    | some c =>
      obtain ⟨hm, rfl⟩ := take_some_ok e
      have := filter_ne_length st.store i hn (List.mem_map_of_mem (f := (·.1)) hm)
      simp only [Cnt] at h ⊢
      omega

/-- what a successful run of `plusfd`/`minusfd`/`timesfd` (the constraint `c`, operands `u v w`) did: all operands
    were numbers, and nothing changed; or one of them had no domain, and the constraint was stored again; or the three
    domains were narrowed to intervals computed from their bounds (`narrow3`) -/
inductive Ran3 (rc : State → Res State) (ord : Order) (self : Nat → Cst → State → Res State) (i : Nat) (c : Cst)
    (u v w : Term) (st st' : State) : Prop
  | ground (a b n : Int) (hu : walk st.σ u = .val (.num a)) (hv : walk st.σ v = .val (.num b))
      (hw : walk st.σ w = .val (.num n)) (e : st' = st)
  | readd (hno : ∀ ud vd wd, opDomain st (walk st.σ u) = some ud → opDomain st (walk st.σ v) = some vd →
        opDomain st (walk st.σ w) = some wd → False)
      (e : st' = st.withConstraint ord i c)
  | narrow (ud vd wd : FD) (l₁ h₁ l₂ h₂ l₃ h₃ : Int)
      (hnn : ∀ a b n, walk st.σ u = .val (.num a) → walk st.σ v = .val (.num b) → walk st.σ w = .val (.num n) → False)
      (hu : opDomain st (walk st.σ u) = some ud) (hv : opDomain st (walk st.σ v) = some vd)
      (hw : opDomain st (walk st.σ w) = some wd)
      (h : narrow3 rc ord self i c (walk st.σ u) (walk st.σ v) (walk st.σ w)
        (.interval l₁ h₁) (.interval l₂ h₂) (.interval l₃ h₃) st = .ok st')

section Ran3
variable {rc : State → Res State} {ord : Order} {self : Nat → Cst → State → Res State} {i : Nat} {u v w : Term}
  {st st' : State}

theorem runPlusFd_ok (h : runPlusFd rc ord self i u v w st = .ok st') :
    Ran3 rc ord self i (.plusfd u v w) u v w st st' := by
  unfold runPlusFd at h
  simp only [] at h
  split at h
  · rename_i a b n hu hv hw
    exact .ground a b n hu hv hw (Res.of_ite_fail h)
  · rename_i hnn
    split at h
    · rename_i ud vd wd hu hv hw
      split at h
      · exact .narrow ud vd wd _ _ _ _ _ _ hnn hu hv hw h
      · cases h
    · rename_i hno; cases h; exact .readd hno rfl

theorem runMinusFd_ok (h : runMinusFd rc ord self i u v w st = .ok st') :
    Ran3 rc ord self i (.minusfd u v w) u v w st st' := by
  unfold runMinusFd at h
  simp only [] at h
  split at h
  · rename_i a b n hu hv hw
    exact .ground a b n hu hv hw (Res.of_ite_fail h)
  · rename_i hnn
    split at h
    · rename_i ud vd wd hu hv hw
      split at h
      · exact .narrow ud vd wd _ _ _ _ _ _ hnn hu hv hw h
      · cases h
    · rename_i hno; cases h; exact .readd hno rfl

theorem runTimesFd_ok (h : runTimesFd rc ord self i u v w st = .ok st') :
    Ran3 rc ord self i (.timesfd u v w) u v w st st' := by
  unfold runTimesFd at h
  simp only [] at h
  split at h
  · rename_i a b n hu hv hw
    exact .ground a b n hu hv hw (Res.of_ite_fail h)
  · rename_i hnn
    split at h
    · rename_i ud vd wd hu hv hw
      split at h
      · exact .narrow ud vd wd _ _ _ _ _ _ hnn hu hv hw h
      · cases h
    · rename_i hno; cases h; exact .readd hno rfl

end Ran3

theorem isNum_iff {t : Term} : t.isNum = true ↔ ∃ n, t = .val (.num n) := by
  cases t with
  | val c => cases c <;> simp [Term.isNum]
  | _ => simp [Term.isNum]

theorem notNum2 {a b : Term} (h : ∀ x y, a = .val (.num x) → b = .val (.num y) → False) :
    a.isNum = false ∨ b.isNum = false := by
  cases ha : a.isNum with
  | false => exact .inl rfl
  | true =>
    cases hb : b.isNum with
    | false => exact .inr rfl
    | true =>
      obtain ⟨x, hx⟩ := isNum_iff.1 ha
      obtain ⟨y, hy⟩ := isNum_iff.1 hb
      exact (h x y hx hy).elim

/-- what a successful run of `ltefd u v` did: both operands had a domain, and both were narrowed (`both`); one had a
    domain and the other was a number, and the one was narrowed (`left`, `right`); both were numbers in order, and
    nothing changed; or the constraint was stored again, one of its operands not being a number -/
inductive RanLte (rc : State → Res State) (ord : Order) (self : Nat → Cst → State → Res State) (i : Nat)
    (u v : Term) (st st' : State) : Prop
  | both (x y : Nat) (udom vdom ud' vd' : FD) (vmax umin : Int) (s1 s2 : State)
      (hu : walk st.σ u = .var x) (hxd : st.dget x = some udom)
      (hv : walk st.σ v = .var y) (hyd : st.dget y = some vdom)
      (hcb : udom.copyBefore (fun a => decide (vmax < a)) = some ud')
      (e1 : processDomain rc st (walk st.σ u) ud' = .ok s1)
      (hdb : vdom.dropBefore (fun b => decide (umin ≤ b)) = some vd')
      (e2 : processDomain rc s1 (walk st.σ v) vd' = .ok s2)
      (h : (if operandBound s2 [walk st.σ u, walk st.σ v] then self i (.ltefd u v) s2
            else .ok (s2.withConstraint ord i (.ltefd u v))) = .ok st')
  | left (x : Nat) (udom ud' : FD) (b : Int) (hu : walk st.σ u = .var x) (hxd : st.dget x = some udom)
      (hcb : udom.copyBefore (fun a => decide (b < a)) = some ud')
      (h : processDomain rc st (walk st.σ u) ud' = .ok st')
  | right (y : Nat) (vdom vd' : FD) (a : Int) (hv : walk st.σ v = .var y) (hyd : st.dget y = some vdom)
      (hdb : vdom.dropBefore (fun b => decide (a ≤ b)) = some vd')
      (h : processDomain rc st (walk st.σ v) vd' = .ok st')
  | ground (e : st' = st)
  | readd (hng : (walk st.σ u).isNum = false ∨ (walk st.σ v).isNum = false)
      (e : st' = st.withConstraint ord i (.ltefd u v))

theorem runLteFd_ok {rc : State → Res State} {ord : Order} {self : Nat → Cst → State → Res State} {i : Nat}
    {u v : Term} {st st' : State} (h : runLteFd rc ord self i u v st = .ok st') : RanLte rc ord self i u v st st' := by
  have dom : ∀ {t : Term} {d : FD}, (match t with | .var x => st.dget x | _ => none) = some d →
      ∃ x, t = .var x ∧ st.dget x = some d := by
    intro t d h
    cases t with
    | var x => exact ⟨x, rfl, h⟩
    | _ => cases h
  have notNum : ∀ {t : Term}, (∀ n, t = .val (.num n) → False) → t.isNum = false := by
    intro t hn
    cases ht : t.isNum with
    | false => rfl
    | true => obtain ⟨n, e⟩ := isNum_iff.1 ht; exact (hn n e).elim
  unfold runLteFd at h
  simp only [] at h
  split at h
  · rename_i udom vdom hu hv
    obtain ⟨x, hux, hxd⟩ := dom hu
    obtain ⟨y, hvy, hyd⟩ := dom hv
    split at h
    · split at h
      · cases h
      · rename_i ud' hcb
        obtain ⟨s1, e1, h⟩ := Res.bind_ok h
        split at h
        · cases h
        · rename_i vd' hdb
          obtain ⟨s2, e2, h⟩ := Res.bind_ok h
          exact .both x y udom vdom ud' vd' _ _ s1 s2 hux hxd hvy hyd hcb e1 hdb e2 h
    · cases h
  · rename_i udom hu hv
    obtain ⟨x, hux, hxd⟩ := dom hu
    split at h
    · split at h
      · cases h
      · rename_i ud' hcb
        exact .left x udom ud' _ hux hxd hcb h
    · rename_i hnv
      cases h
      exact .readd (.inr (notNum hnv)) rfl
  · rename_i vdom hu hv
    obtain ⟨y, hvy, hyd⟩ := dom hv
    split at h
    · split at h
      · cases h
      · rename_i vd' hdb
        exact .right y vdom vd' _ hvy hyd hdb h
    · rename_i hnu
      cases h
      exact .readd (.inl (notNum hnu)) rfl
  · split at h
    · exact .ground (Res.of_ite_fail h)
    · rename_i hnn
      cases h
      exact .readd (notNum2 hnn) rfl

/-- what a successful run of `plusz`/`timesz` (the constraint `c`, operands `u v w`) did: all operands were numbers, and
    nothing changed; or one of them, a variable `x`, was bound to the number the others determine, and the nested
    `run_constraints` ran; or the constraint, one of whose operands is a variable, was stored again -/
inductive RanZ (rc : State → Res State) (ord : Order) (i : Nat) (c : Cst) (u v w : Term) (st st' : State) : Prop
  | ground (e : st' = st)
  | bound (t : Term) (ht : t ∈ [u, v, w]) (x : Nat) (n : Int) (hx : walk st.σ t = .var x)
      (h : rc { st with σ := bindS x (Term.num n) st.σ } = .ok st')
  | readd (t : Term) (ht : t ∈ [u, v, w]) (x : Nat) (hx : walk st.σ t = .var x)
      (e : st' = st.withConstraint ord i c)

section RanZ
variable {rc : State → Res State} {ord : Order} {i : Nat} {u v w : Term} {st st' : State}

theorem runPlusZ_ok (h : runPlusZ rc ord i u v w st = .ok st') : RanZ rc ord i (.plusz u v w) u v w st st' := by
  unfold runPlusZ at h
  split at h
  · exact .ground (Res.of_ite_fail h)
  · rename_i z _ _ hw; exact .bound w (.tail _ (.tail _ (.head _))) z _ hw h
  · rename_i y _ _ hv _; exact .bound v (.tail _ (.head _)) y _ hv h
  · rename_i x _ _ hu _ _; exact .bound u (.head _) x _ hu h
  · rename_i hu _ _; cases h; exact .readd u (.head _) _ hu rfl
  · rename_i hu _ _; cases h; exact .readd u (.head _) _ hu rfl
  · rename_i hu _ _; cases h; exact .readd u (.head _) _ hu rfl
  · rename_i hv _; cases h; exact .readd v (.tail _ (.head _)) _ hv rfl
  · cases h

theorem runTimesZ_ok (h : runTimesZ rc ord i u v w st = .ok st') : RanZ rc ord i (.timesz u v w) u v w st st' := by
  unfold runTimesZ at h
  split at h
  · exact .ground (Res.of_ite_fail h)
  · rename_i z _ _ hw; exact .bound w (.tail _ (.tail _ (.head _))) z _ hw h
  · rename_i a y c _ hv _
    by_cases ha : a = 0
    · rw [if_pos ha] at h
      by_cases hc : c = 0
      · rw [if_pos hc] at h; cases h; exact .readd v (.tail _ (.head _)) y hv rfl
      · rw [if_neg hc] at h; cases h
    · rw [if_neg ha] at h
      by_cases hm : Int.tmod c a ≠ 0
      · rw [if_pos hm] at h; cases h
      · rw [if_neg hm] at h; exact .bound v (.tail _ (.head _)) y _ hv h
  · rename_i x b c hu _ _
    by_cases hb : b = 0
    · rw [if_pos hb] at h
      by_cases hc : c = 0
      · rw [if_pos hc] at h; cases h; exact .readd u (.head _) x hu rfl
      · rw [if_neg hc] at h; cases h
    · rw [if_neg hb] at h
      by_cases hm : Int.tmod c b ≠ 0
      · rw [if_pos hm] at h; cases h
      · rw [if_neg hm] at h; exact .bound u (.head _) x _ hu h
  · rename_i hu _ _; cases h; exact .readd u (.head _) _ hu rfl
  · rename_i hu _ _; cases h; exact .readd u (.head _) _ hu rfl
  · rename_i hu _ _; cases h; exact .readd u (.head _) _ hu rfl
  · rename_i hv _; cases h; exact .readd v (.tail _ (.head _)) _ hv rfl
  · cases h

end RanZ

/-- what a successful run of `diseqfd u v` did: nothing; or the constraint, one of whose operands is not a number, was
    stored again, and then possibly the domain of an operand `t` lost the single value of the other -/
inductive RanDiseqFd (rc : State → Res State) (ord : Order) (i : Nat) (u v : Term) (st st' : State) : Prop
  | same (e : st' = st)
  | readd (hng : (walk st.σ u).isNum = false ∨ (walk st.σ v).isNum = false)
      (e : st' = st.withConstraint ord i (.diseqfd u v))
  | narrow (hng : (walk st.σ u).isNum = false ∨ (walk st.σ v).isNum = false) (t : Term) (td d : FD)
      (ht : opDomain st (walk st.σ t) = some td)
      (h : processDomain rc (st.withConstraint ord i (.diseqfd u v)) (walk st.σ t) d = .ok st')

theorem runDiseqFd_ok {rc : State → Res State} {ord : Order} {i : Nat} {u v : Term} {st st' : State}
    (h : runDiseqFd rc ord i u v st = .ok st') : RanDiseqFd rc ord i u v st st' := by
  unfold runDiseqFd at h
  simp only [] at h
  split at h
  · rename_i ud vd hud hvd
    by_cases hs : (ud.isSingleton && vd.isSingleton) = true
    · rw [if_pos hs] at h
      by_cases hm : (ud.min? == vd.min?) = true
      · rw [if_pos hm] at h; cases h
      · rw [if_neg hm] at h; cases h; exact .same rfl
    · rw [if_neg hs] at h
      split at h
      · cases h
      · cases h; exact .same rfl
      · -- two numbers would have singleton domains
        have hng : (walk st.σ u).isNum = false ∨ (walk st.σ v).isNum = false := notNum2 fun a b ha hb => by
          rw [ha] at hud; rw [hb] at hvd
          cases hud; cases hvd
          exact hs (by simp only [FD.ofInt, FD.isSingleton, beq_self_eq_true, Bool.and_self])
        by_cases hu : ud.isSingleton = true
        · rw [if_pos hu] at h
          split at h
          · exact .narrow hng v vd _ hvd h
          · cases h
        · rw [if_neg hu] at h
          by_cases hv : vd.isSingleton = true
          · rw [if_pos hv] at h
            split at h
            · exact .narrow hng u ud _ hud h
            · cases h
          · rw [if_neg hv] at h; cases h; exact .readd hng rfl
  · rename_i hno
    cases h
    exact .readd (notNum2 fun a b ha hb => hno _ _ (by rw [ha]; rfl) (by rw [hb]; rfl)) rfl

theorem runDiseq_ok {ord : Order} {st st' : State} {ps : Ext1} (h : runDiseq ord st ps = .ok st') :
    st' = st ∨ ∃ e, st' = st.withNewConstraint ord (.diseq e) := by
  unfold runDiseq at h
  split at h
  · cases h
  · cases h; exact .inl rfl
  · rename_i e _
    split at h
    · cases h
    · cases h; exact .inr ⟨e, rfl⟩

theorem disunify_ok {ord : Order} {st st' : State} {u v : Term} (h : disunify ord st u v = .ok st') :
    st' = st ∨ ∃ e, st' = st.withNewConstraint ord (.diseq e) := by
  unfold disunify at h
  split at h
  · cases h
  · cases h; exact .inl rfl
  · rename_i e _
    split at h
    · cases h
    · cases h; exact .inr ⟨e, rfl⟩

theorem unify_ok {ord : Order} {st st' : State} {u v : Term} (h : unify ord st u v = .ok st') :
    ∃ σ' e s1 s2, unifyF unifyFuel st.σ [] u v = some (some (σ', e)) ∧
      runConstraintsF ord (rcFuel + 1) { st with σ := σ' } = .ok s1 ∧ processExtensionFd ord s1 e = .ok s2 ∧
      st' = { s2 with extLog := e :: s2.extLog } := by
  unfold unify at h
  split at h
  · cases h
  · cases h
  · rename_i σ' e hu
    unfold processExtension at h
    obtain ⟨s1, e1, h⟩ := Res.bind_ok h
    obtain ⟨s2, e2, h⟩ := Res.bind_ok h
    cases h
    exact ⟨σ', e, s1, s2, hu, e1, e2, rfl⟩

end Pv
