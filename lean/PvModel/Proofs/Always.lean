/-
  "Infinitely often": the stream of `conde { [always(), A], [always(), B] }` is eventually periodic, and
  every period delivers an answer of each clause (`afterF top n s`, Proofs/Stream.lean, is the stream left
  after `n` fuel units of `Solver::next`).
-/
import PvModel.Proofs.Stream
namespace Pv
open Strm Goal

variable {St K : Type}

theorem periodic_reach (top : Goal St K → St → Strm St K) (s : Strm St K) (p0 p : Nat) (hp : 0 < p)
    (h : afterF top (p0 + p) s = afterF top p0 s) (n : Nat) :
    ∃ q, afterF top (n + q) s = afterF top p0 s := by
  -- first: every multiple of the period from p0 returns to the same stream
  have hk : ∀ k, afterF top (p0 + k * p) s = afterF top p0 s := by
    intro k
    induction k with
    | zero => simp
    | succ k ih =>
      have : p0 + (k + 1) * p = (p0 + p) + k * p := by rw [Nat.succ_mul]; omega
      rw [this, afterF_add, h, ← afterF_add, ih]
  -- choose k with p0 + k*p ≥ n
  refine ⟨p0 + n * p - n, ?_⟩
  have : n ≤ p0 + n * p := by
    have : n * 1 ≤ n * p := Nat.mul_le_mul_left n hp
    omega
  rw [Nat.add_sub_cancel' this]
  exact hk n

/-- everything delivered within one period is delivered again after any point of the run -/
theorem periodic_again (top : Goal St K → St → Strm St K) (s : Strm St K) (p0 p : Nat) (hp : 0 < p)
    (h : afterF top (p0 + p) s = afterF top p0 s) (b : St) (hb : b ∈ runF top p (afterF top p0 s)) (n : Nat) :
    ∃ m, b ∈ runF top m (afterF top n s) := by
  obtain ⟨q, hq⟩ := periodic_reach top s p0 p hp h n
  refine ⟨q + p, ?_⟩
  rw [runF_add, ← afterF_add, hq]
  exact List.mem_append_right _ hb

section AlwaysConde
variable (defs : K → St → St × Goal St K) (pf M : Nat)

/-- `conde { [always(), A], [always(), B] }` with `always() = anyo { succeed }`, atoms `A`, `B` -/
def alwaysConde (f1 f2 : St → Option St) : Goal St K :=
  condeOfClauses [[.anyo .succeed, .atom f1], [.anyo .succeed, .atom f2]]

theorem alwaysConde_period (f1 f2 : St → Option St) (a b1 b2 : St) (h1 : f1 a = some b1) (h2 : f2 a = some b2) :
    afterF (solveAt defs pf (M + 1)) (3 + 12) (solveAt defs pf (M + 1) (alwaysConde f1 f2) a)
      = afterF (solveAt defs pf (M + 1)) 3 (solveAt defs pf (M + 1) (alwaysConde f1 f2) a) ∧
    b1 ∈ runF (solveAt defs pf (M + 1)) 12 (afterF (solveAt defs pf (M + 1)) 3 (solveAt defs pf (M + 1) (alwaysConde f1 f2) a)) ∧
    b2 ∈ runF (solveAt defs pf (M + 1)) 12 (afterF (solveAt defs pf (M + 1)) 3 (solveAt defs pf (M + 1) (alwaysConde f1 f2) a)) := by
  simp [alwaysConde, solveAt, condeOfClauses, altOfList, conjOfList, mkConj, isSucceed, isFail, start, Strm.lazyBind,
    Strm.mplus, Strm.bind, runF, afterF, step, h1, h2]

end AlwaysConde
end Pv
