/-
  `enforce_constraints_fd`, second half: `onceo { force_ans(keys of the domain store) }`.  On the textbook semantics,
  labelling the list of all variables with a domain delivers only states that are reached by labelling equalities and in
  which every such variable is bound; so, by Proofs/Labelled.lean, closed states: empty domain store, no propagator, a
  solution.  Together with the partition theorem of Proofs/Label.lean: the labelling of the keys has an answer exactly
  when the state has a solution, and every answer is one.  The keys are a special case: the same holds of `force_ans` on
  any term and the variables of the walked term, by the induction over `force_ans` of Proofs/ForceAns.lean.
-/
import PvModel.Proofs.Labelled
import PvModel.Proofs.LabelSep
import PvModel.Proofs.Drain
namespace Pv
open State Term Goal FD
attribute [local instance] Mode.strict

/-- the invariants of a state labelling starts from (all hold of every state reached by posting atoms) -/
structure LInv (s : State) : Prop where
  w : WFS s
  i : Inv s
  z : NoZ s
  dk : DK s
  live : Live s

/-- `t` is reached from `s` by labelling equalities -/
def Reach (ord : Order) (s t : State) : Prop := ∃ ls, postAllF ord s (labelAtoms ls) = .ok t

theorem Reach.refl (ord : Order) (s : State) : Reach ord s s := ⟨[], rfl⟩

theorem Reach.trans {ord : Order} {a b c : State} (h1 : Reach ord a b) (h2 : Reach ord b c) : Reach ord a c := by
  obtain ⟨l1, e1⟩ := h1
  obtain ⟨l2, e2⟩ := h2
  refine ⟨l1 ++ l2, ?_⟩
  unfold labelAtoms at *
  rw [List.map_append, postAllF_append, e1]
  exact e2

theorem vars_apply_iterItems (σ : Subst) : ∀ (t : Term) (y : Nat), y ∈ (apply σ t).vars →
    ∃ it ∈ t.iterItems, y ∈ (apply σ it).vars := by
  intro t
  induction t using iterItems_ind with
  | cons h t ih =>
    intro y hy
    rw [iterItems_cons]
    rcases List.mem_append.1 (hy : y ∈ (apply σ h).vars ++ (apply σ t).vars) with hy | hy
    · exact ⟨h, List.mem_cons_self, hy⟩
    · obtain ⟨it, hit, hyi⟩ := ih y hy
      exact ⟨it, List.mem_cons_of_mem _ hit, hyi⟩
  | nil => exact fun _ hy => nomatch hy
  | atom t e => exact fun y hy => ⟨t, by rw [e]; exact List.mem_singleton.2 rfl, hy⟩

theorem vars_apply_compFields (σ : Subst) (args : Term) (y : Nat) (hy : y ∈ (apply σ args).vars) :
    ∃ f ∈ compFields args, y ∈ (apply σ f).vars := by
  obtain ⟨it, hit, hyi⟩ := vars_apply_iterItems σ args y hy
  -- the item's own contribution to the fields: an `Option` object's items, or the item itself
  suffices h : ∃ f ∈ (match it with | .comp 4 kids => kids.iterItems | t => [t]), y ∈ (apply σ f).vars from
    let ⟨f, hf, hyf⟩ := h
    ⟨f, List.mem_flatMap.2 ⟨it, hit, hf⟩, hyf⟩
  split
  · exact vars_apply_iterItems σ _ y hyi
  · exact ⟨it, List.mem_singleton.2 rfl, hyi⟩

theorem vars_apply_labelFields (σ : Subst) : ∀ (w : Term) (y : Nat), y ∈ (apply σ w).vars → (∀ xv, w ≠ .var xv) →
    ∃ f ∈ labelFields w, y ∈ (apply σ f).vars := by
  intro w y hy hnv
  cases w with
  | cons h t =>
    exact (List.mem_append.1 (hy : y ∈ (apply σ h).vars ++ (apply σ t).vars)).elim (fun a => ⟨h, List.mem_cons_self, a⟩)
      fun a => ⟨t, List.mem_cons_of_mem _ List.mem_cons_self, a⟩
  | comp _ args => exact vars_apply_compFields σ args y hy
  | var x => exact absurd rfl (hnv x)
  | val _ => exact nomatch hy
  | nil => exact nomatch hy

theorem vars_of_walk_var {σ : Subst} (hs : Solved σ) {x : Term} {xv y : Nat} (hw : walk σ x = .var xv)
    (hy : y ∈ (apply σ x).vars) : y = xv := by
  rw [← walk_eq_apply_top hs x, hw] at hy
  simpa only [apply, walk_normal hs x xv hw, Term.vars, List.mem_singleton] using hy

theorem mem_vars_apply_unbound {τ : Subst} {y : Nat} (hy : τ y = .var y) : ∀ {u : Term}, y ∈ u.vars → y ∈ (apply τ u).vars := by
  intro u
  induction u with
  | var z =>
    intro h
    cases List.mem_singleton.1 h
    show y ∈ (τ y).vars
    rw [hy]
    exact List.mem_singleton.2 rfl
  | val _ => exact fun h => nomatch h
  | nil => exact fun h => nomatch h
  | cons a b iha ihb => exact fun h => List.mem_append.2 ((List.mem_append.1 h).imp iha ihb)
  | comp _ a ih => exact ih

theorem mem_vars_ofList_var {k : Nat} : ∀ {ks : List Nat}, k ∈ ks → k ∈ (Term.ofList (ks.map Term.var)).vars
  | k' :: ks, h => by
    simp only [List.map_cons, Term.ofList, Term.vars, List.mem_append, List.mem_singleton]
    exact (List.mem_cons.1 h).imp id mem_vars_ofList_var

section
variable {ord : Order} (ho : OrderOK ord) (dfs : Call → State → State × G)
include ho

theorem reach_inv {s t : State} (h : LInv s) (r : Reach ord s t) :
    LInv t ∧ KN s t ∧ KeysMono s t ∧ SubS (fun _ => False) s t := by
  obtain ⟨ls, e⟩ := r
  obtain ⟨w2, i2, z2, d2, l2, k2, m2, u2⟩ := labelAll ho ls s t h.w h.i h.z h.dk h.live e
  exact ⟨⟨w2, i2, z2, d2, l2⟩, k2, m2, u2⟩

/-- the status of a key along a labelling: unbound, or a number -/
def KeyOK (s : State) (k : Nat) : Prop := s.σ k = .var k ∨ ∃ m, s.σ k = Term.num m
/-- what labelling leaves of a key: bound, or without a domain -/
def KeyDone (t : State) (k : Nat) : Prop := t.σ k ≠ .var k ∨ t.dget k = none

omit ho in
theorem keyDone_mono {t t' : State} (hs : Solved t.σ) (k : KN t t') (m : KeysMono t t') {y : Nat} (h : KeyDone t y) :
    KeyDone t' y := by
  rcases h with h | h
  · exact .inl (k.bound_mono hs h)
  · right
    cases hg : t'.dget y with
    | none => rfl
    | some d => have := m y (by rw [hg]; rfl); rw [h] at this; cases this

/-- a variable of `apply s.σ u` is, in a state reached from `s`, either bound (done) or still a variable of the walked
    term there -/
theorem done_transfer {s t1 t : State} (hi : LInv s) (r1 : Reach ord s t1) {u : Term} {y : Nat}
    (hy : y ∈ (apply s.σ u).vars) (hdone : ∀ y' ∈ (apply t1.σ u).vars, KeyDone t y') (r2 : Reach ord t1 t) : KeyDone t y := by
  obtain ⟨li1, kn1, _, _⟩ := reach_inv ho hi r1
  obtain ⟨_, kn2, _, _⟩ := reach_inv ho li1 r2
  by_cases hb : t1.σ y = .var y
  · exact hdone y (by rw [← kn1.ext u]; exact mem_vars_apply_unbound hb hy)
  · exact .inl (kn2.bound_mono li1.w.solved hb)

theorem keyDone_of_keyOK {s t : State} (hi : LInv s) (r : Reach ord s t) {k : Nat} {u : Term} (hk : KeyOK s k)
    (hu : k ∈ u.vars) (d : ∀ y ∈ (apply s.σ u).vars, KeyDone t y) : KeyDone t k := by
  rcases hk with hk | ⟨m, hk⟩
  · exact d k (mem_vars_apply_unbound hk hu)
  · exact .inl ((reach_inv ho hi r).2.1.bound_mono hi.w.solved (by rw [hk]; simp [Term.num]))

/-- what labelling the terms `fs` one after the other from `s` delivers: states reached by labelling equalities, in which
    every variable of the walked terms is done -/
def ReachDone (ord : Order) (fs : List Term) (s : State) (zs : List State) : Prop :=
  ∀ t ∈ zs, Reach ord s t ∧ ∀ f ∈ fs, ∀ y ∈ (apply s.σ f).vars, KeyDone t y

omit ho in
theorem ReachDone.reach {fs : List Term} {s t : State} {zs : List State} (c : ReachDone ord fs s zs) (ht : t ∈ zs) :
    Reach ord s t := (c t ht).1

omit ho in
theorem ReachDone.done {fs : List Term} {s t : State} {zs : List State} (c : ReachDone ord fs s zs) (ht : t ∈ zs)
    {f : Term} (hf : f ∈ fs) : ∀ y ∈ (apply s.σ f).vars, KeyDone t y := (c t ht).2 f hf

omit ho in
theorem reachDone_self {fs : List Term} {s : State} (h : ∀ f ∈ fs, ∀ y ∈ (apply s.σ f).vars, KeyDone s y) :
    ReachDone ord fs s [s] :=
  fun t ht => by cases List.mem_singleton.1 ht; exact ⟨Reach.refl ord s, h⟩

theorem reachDone_var {x : Term} {s : State} (hi : LInv s) {xv : Nat} (hw : walk s.σ x = .var xv) {vs : List Int}
    {zs : List State} (hz : zs = vs.filterMap fun v => labelStep ord xv v s) (hall : ∀ t ∈ zs, t.panic = none) :
    ReachDone ord [x] s zs := by
  intro t ht
  have hpt := hall t ht
  subst hz
  obtain ⟨v, _, hv⟩ := List.mem_filterMap.1 ht
  have hu := (liftRes_ok hv hpt).2
  obtain ⟨_, _, _, _, _, _, _, _, hb⟩ := label_step ho hi.w hi.i hi.z hi.dk v xv hu
  refine ⟨⟨[(v, xv)], by simp [labelAtoms, postAllF, postF, hu, Res.bind]⟩, fun f hf y hy => ?_⟩
  cases List.mem_singleton.1 hf
  cases vars_of_walk_var hi.w.solved hw hy
  exact .inl (by rw [hb]; simp [Term.num])

theorem reachDone_flatMapM {s : State} (hi : LInv s) {f : Term} {fs : List Term} {xs zs : List State}
    {g : State → Option (List State)} (c1 : ReachDone ord [f] s xs) (hg : flatMapM g xs = some zs)
    (c2 : ∀ t ∈ xs, ∀ ys, g t = some ys → ReachDone ord fs t ys) : ReachDone ord (f :: fs) s zs := by
  intro t ht
  obtain ⟨t1, ht1, ys, e, hty⟩ := (flatMapM_mem hg t).1 ht
  have r1 := c1.reach ht1
  have c2 := c2 t1 ht1 ys e
  have r2 := c2.reach hty
  obtain ⟨li1, _, _, _⟩ := reach_inv ho hi r1
  obtain ⟨_, kn2, km2, _⟩ := reach_inv ho li1 r2
  refine ⟨r1.trans r2, fun f' hf' y hy => ?_⟩
  rcases List.mem_cons.1 hf' with e' | hf'
  · exact keyDone_mono li1.w.solved kn2 km2 (c1.done ht1 (List.mem_singleton.2 e') y hy)
  · exact done_transfer ho hi r1 hy (c2.done hty hf') r2

theorem forceAns_reachDone (n : Nat) (x : Term) : Run dfs LInv (ReachDone ord [x]) (forceAns ord n x) :=
  forceAns_run dfs ord (I := LInv) (C := ReachDone ord)
    (nil := fun _ _ => reachDone_self fun _ hf => nomatch hf)
    (seq := fun _ _ _ _ _ _ hi c1 hg c2 => reachDone_flatMapM ho hi c1 hg c2)
    (keep := fun _ _ _ hi c t ht => (reach_inv ho hi (c.reach ht)).1)
    (free := fun x s xv hi hw hd => reachDone_self fun f hf y hy => by
      cases List.mem_singleton.1 hf
      cases vars_of_walk_var hi.w.solved hw hy
      exact .inr hd)
    (var := fun _ _ _ _ _ hi _ hw _ hz hall => reachDone_var ho hi hw hz hall)
    (sub := fun x s zs hi hnv c t ht => ⟨c.reach ht, fun f hf y hy => by
      cases List.mem_singleton.1 hf
      rw [← walk_eq_apply_top hi.w.solved x] at hy
      obtain ⟨f', hf', hy'⟩ := vars_apply_labelFields s.σ _ y hy hnv
      exact c.done ht hf' y hy'⟩) n x

theorem key_labelled (n N : Nat) (k : Nat) (s : State) (zs : List State) (hi : LInv s) (hp : s.panic = none)
    (hk : KeyOK s k) (h : evalRef dfs N (forceAns ord (n + 1) (.var k)) s = some zs) (hall : ∀ t ∈ zs, t.panic = none) :
    ∀ t ∈ zs, Reach ord s t ∧ KeyDone t k := fun _ ht =>
  have c := forceAns_reachDone ho dfs (n + 1) (.var k) N s zs hi hp h hall
  ⟨c.reach ht, keyDone_of_keyOK ho hi (c.reach ht) hk (List.mem_singleton.2 rfl) (c.done ht (List.mem_singleton.2 rfl))⟩

theorem keys_labelled : ∀ (ks : List Nat) (n N : Nat) (s : State) (zs : List State), ks.length < n → LInv s →
    s.panic = none → (∀ k ∈ ks, KeyOK s k) →
    evalRef dfs N (forceAns ord n (Term.ofList (ks.map Term.var))) s = some zs → (∀ t ∈ zs, t.panic = none) →
    ∀ t ∈ zs, Reach ord s t ∧ ∀ k ∈ ks, KeyDone t k := fun _ n N s zs _ hi hp hk h hall _ ht =>
  have c := forceAns_reachDone ho dfs n _ N s zs hi hp h hall
  ⟨c.reach ht, fun k hkm =>
    keyDone_of_keyOK ho hi (c.reach ht) (hk k hkm) (mem_vars_ofList_var hkm) (c.done ht (List.mem_singleton.2 rfl))⟩

/-- a labelling goal reaches its results by labelling equalities -/
def ReachOK (g : G) : Prop :=
  (∀ N s zs, LInv s → s.panic = none → evalRef dfs N g s = some zs → (∀ t ∈ zs, t.panic = none) →
    ∀ t ∈ zs, Reach ord s t) ∧
  (∀ N s zs, s.panic ≠ none → evalRef dfs N g s = some zs → s ∈ zs) ∧
  g.isFail = false

theorem forceAns_reachOK : ∀ (n : Nat) (t : Term), ReachOK (ord := ord) dfs (forceAns ord n t) := fun n t =>
  ⟨fun N s zs hi hp h hall t' ht' => (forceAns_reachDone ho dfs n t N s zs hi hp h hall).reach ht',
   (forceAns_pass dfs ord n t).through, (forceAns_pass dfs ord n t).notFail⟩

theorem blocks_inv (n N : Nat) (x : Term) (s : State) (xs : List State) (hi : LInv s) (hp : s.panic = none)
    (hops : OpsOK s) (h : evalRef dfs N (forceAns ord n x) s = some xs) (hall : ∀ t ∈ xs, t.panic = none) :
    ∀ c ∈ xs, LInv c ∧ OpsOK c ∧ Reach ord s c := by
  intro c hc
  have r := (forceAns_reachDone ho dfs n x N s xs hi hp h hall).reach hc
  obtain ⟨li, kn, _, su⟩ := reach_inv ho hi r
  exact ⟨li, hops.keep hi.w.solved kn su, r⟩

theorem linv_of_atoms (n : Nat) (as : List FAtom) (hok : ∀ a ∈ as, a.OK) (hnz : ∀ a ∈ as, a.NoZ) (s : State)
    (h : postAllF ord (State.empty n) as = .ok s) : LInv s := by
  obtain ⟨hdk, hz⟩ := fd_dk ho n as hok hnz s h
  have r := postAllF_sem ho as (State.empty n) (wfs_empty n) (inv_empty n) hok
  rw [h] at r
  exact ⟨r.1, r.2.1, hz, hdk, fd_live ho n as hok s h⟩

theorem labelling_decides (x : Term) (n N : Nat) (s : State) (ds : List State) (hi : LInv s) (hp : s.panic = none)
    (hops : OpsOK s) (hx : ∀ y, (s.dget y).isSome → y ∈ (apply s.σ x).vars)
    (h : evalRef dfs N (forceAns ord n x) s = some ds) (hall : ∀ t ∈ ds, t.panic = none) :
    (∀ d ∈ ds, d.dstore = [] ∧ (∀ p ∈ d.store, p.2.isDiseq = true) ∧ WFS d ∧ ∀ γ, Sem NoI γ d → Sem NoI γ s) ∧
    ((∃ γ, Sem NoI γ s) → ds ≠ []) := by
  have part := forceAns_part dfs ho n x N s ds ⟨hi.w, hi.i⟩ hp h hall
  refine ⟨fun d hd => ?_, fun ⟨γ, hγ⟩ e => ?_⟩
  · have c := forceAns_reachDone ho dfs n x N s ds hi hp h hall
    obtain ⟨li, kn, km, su⟩ := reach_inv ho hi (c.reach hd)
    have hb : ∀ y, (s.dget y).isSome → d.σ y ≠ .var y := by
      intro y hy e
      have hyu : s.σ y = .var y := (hi.dk y hy).elim id (fun f => f.elim)
      rcases c.done hd (List.mem_singleton.2 rfl) y (hx y hy) with b | b
      · exact b e
      · have := kn.dom y hyu e hy
        rw [b] at this; cases this
    obtain ⟨c1, c2⟩ := labelled_closed li.dk li.live (hops.keep hi.w.solved kn su) km hb
    exact ⟨c1, c2, li.w, (part.1 d hd).2.2⟩
  · obtain ⟨t, ht, _⟩ := part.2.1 γ hγ
    rw [e] at ht; cases ht

/-- the body of the `onceo` in `enforce_constraints_fd`, on the textbook semantics -/
theorem keys_labelling_decides (ks : List Nat) (n N : Nat) (s : State) (ds : List State) (hn : ks.length < n)
    (hi : LInv s) (hp : s.panic = none) (hops : OpsOK s) (hks : ∀ y, (s.dget y).isSome → y ∈ ks)
    (hko : ∀ k ∈ ks, KeyOK s k)
    (h : evalRef dfs N (forceAns ord n (Term.ofList (ks.map Term.var))) s = some ds) (hall : ∀ t ∈ ds, t.panic = none) :
    (∀ d ∈ ds, d.dstore = [] ∧ (∀ p ∈ d.store, p.2.isDiseq = true) ∧ WFS d ∧ ∀ γ, Sem NoI γ d → Sem NoI γ s) ∧
    ((∃ γ, Sem NoI γ s) → ds ≠ []) :=
  labelling_decides ho dfs _ n N s ds hi hp hops
    (fun y hy => mem_vars_apply_unbound ((hi.dk y hy).elim id (fun f => f.elim)) (mem_vars_ofList_var (hks y hy))) h hall

end

section
variable {ord : Order} (ho : OrderOK ord) (dfs : Call → State → State × G)
include ho

/-- The `onceo` of `enforce_constraints_fd`, on the engine.  A state that survives propagation but has no solution yields
    no answer, and one with solutions yields exactly one: the number of answers does not depend on how strong
    propagation is. -/
theorem hidden_labelling_engine (pf m : Nat) (ks : List Nat) (n N : Nat) (c : State) (ds ys : List State)
    (hn : ks.length < n) (hi : LInv c) (hp : c.panic = none) (hops : OpsOK c) (hks : ∀ y, (c.dget y).isSome → y ∈ ks)
    (hko : ∀ k ∈ ks, KeyOK c k)
    (h : evalRef dfs N (forceAns ord n (Term.ofList (ks.map Term.var))) c = some ds) (hall : ∀ t ∈ ds, t.panic = none)
    (hd : drainF (solveAt dfs pf (m + 1)) pf
      (start dfs (solveAt dfs pf (m + 1)) pf (Goal.conjOfList [forceAns ord n (Term.ofList (ks.map Term.var))]) c) = some ys) :
    ds.Perm ys ∧
    start dfs (solveAt dfs pf (m + 1)) pf (Goal.onceo [forceAns ord n (Term.ofList (ks.map Term.var))]) c =
      firstStrm ys.head? ∧
    (∀ b, ys.head? = some b → b.dstore = [] ∧ (∀ p ∈ b.store, p.2.isDiseq = true) ∧ ∀ γ, Sem NoI γ b → Sem NoI γ c) ∧
    ((∃ γ, Sem NoI γ c) → ys.head?.isSome = true) ∧ (ds = [] → ys.head? = none) := by
  have hg : Goal.conjOfList [forceAns ord n (Term.ofList (ks.map Term.var))] =
      .conj (forceAns ord n (Term.ofList (ks.map Term.var))) .succeed := conjOfList_forceAns_cons ord n _ []
  obtain ⟨N', h'⟩ := evalR_conj (g2 := .succeed) ⟨N, h⟩ (flatR_succeed ds)
  obtain ⟨zs, hz, pz⟩ := ref_perm dfs pf m N' _ c ds h' (m + 1)
  obtain ⟨n', ys', hy', py'⟩ := drain_perm _ (topOK_solveAt dfs pf m) hz
  have hsame : solveAt dfs pf (m + 1 + 1) (.conj (forceAns ord n (Term.ofList (ks.map Term.var))) .succeed) c =
      start dfs (solveAt dfs pf (m + 1)) pf (.conj (forceAns ord n (Term.ofList (ks.map Term.var))) .succeed) c := rfl
  rw [hg] at hd
  rw [hsame] at hy'
  have e := drain_det _ hd hy'
  subst e
  have perm : ds.Perm ys := pz.trans py'
  obtain ⟨k1, k2⟩ := keys_labelling_decides ho dfs ks n N c ds hn hi hp hops hks hko h hall
  refine ⟨perm, ?_, fun b hb => ?_, fun hs => ?_, fun he => ?_⟩
  · rw [← hg] at hd
    exact onceo_of_drain _ dfs pf _ c ys hd
  · have hbm : b ∈ ys := List.mem_of_mem_head? hb
    obtain ⟨x1, x2, _, x4⟩ := k1 b (perm.mem_iff.2 hbm)
    exact ⟨x1, x2, x4⟩
  · have hne := k2 hs
    cases hy : ys with
    | nil => rw [hy] at perm; exact absurd perm.eq_nil hne
    | cons b _ => rfl
  · subst he
    rw [List.nil_perm.1 perm]; rfl

end
end Pv
