/-
  No panic through relation calls (strict mode = programs without `distinctfd`): for programs of FD / CLP(Z)
  constraints, domains, `==`, `!=`, conjunction, conde, fresh and calls of the library relations with the right
  number of arguments, no state the engine ever holds carries a panic site — the only poison is the model's own
  FUEL marker.  (The posting operations never reach a panic site from a well-formed state: `Ref0` in the strict
  mode; they never touch the poison flag: `StepI.pan`; relation bodies are made of `==`, `!=` and calls.)
-/
import PvModel.Proofs.RelSemFD
namespace Pv
open Strm Goal State Term

section
attribute [local instance] Mode.strict
variable {ord : Order}

/-- unpoisoned and well-formed, or poisoned by the model's fuel marker only -/
def OkP (a : State) : Prop := (a.panic = none ∧ WFS a ∧ Inv a) ∨ a.panic = some "FUEL"

theorem postF_panic {a s : State} (t : FAtom) (hi : Inv a) (h : postF ord a t = .ok s) : s.panic = a.panic := by
  cases t with
  | eq u v => exact (unify_step ord hi h).pan
  | neq u v => exact (disunify_step ord hi h).pan
  | cst c => exact (postCst_step ord hi h).pan
  | dom x d => exact (domFd_step ord hi h).pan

theorem postF_okp (ho : OrderOK ord) (t : FAtom) (hk : t.OK) {a b : State}
    (h : (liftRes fun st => postF ord st t) a = some b) (ha : OkP a) : OkP b := by
  rcases liftRes_cases h with ⟨_, rfl⟩ | ⟨hp, hr | ⟨-, rfl⟩ | ⟨s, hr, -⟩⟩
  · exact ha
  · rcases ha with ⟨hn, w, hi⟩ | hf
    · have r := postF_sem ho w hi t hk
      rw [hr] at r
      exact .inl ⟨(postF_panic t hi hr).trans hn, r.1, r.2.1⟩
    · rw [hf] at hp
      cases hp
  · exact .inr rfl
  · rcases ha with ⟨-, w, hi⟩ | hf
    · have r := postF_sem ho w hi t hk
      rw [hr] at r
      exact r.1.elim
    · rw [hf] at hp
      cases hp

/-- goals made of admissible atoms, the interleaving and depth-first connectives, and valid library calls -/
inductive NPG' (ord : Order) (A : FAtom → Prop) : G → Prop
  | succeed : NPG' ord A .succeed
  | fail : NPG' ord A .fail
  | atom {t : FAtom} : A t → NPG' ord A (.atom (liftRes fun st => postF ord st t))
  | conj {g1 g2} : NPG' ord A g1 → NPG' ord A g2 → NPG' ord A (.conj g1 g2)
  | conjD {g1 g2} : NPG' ord A g1 → NPG' ord A g2 → NPG' ord A (.conjD g1 g2)
  | alt {g1 g2} : NPG' ord A g1 → NPG' ord A g2 → NPG' ord A (.alt g1 g2)
  | altD {g1 g2} : NPG' ord A g1 → NPG' ord A g2 → NPG' ord A (.altD g1 g2)
  | fresh {g} : NPG' ord A g → NPG' ord A (.fresh g)
  | call {c : Call} : c.Valid → NPG' ord A (.call c)

section Gen
variable {A : FAtom → Prop} (hA : ∀ u v, A (.eq u v) ∧ A (.neq u v))
include hA

theorem relBody_npg (c : Call) (hv : c.Valid) (n : Nat) : NPG' ord A (relBody ord c n).2 :=
  (relBody_bodyG c n).elim .succeed .fail (fun _ => .conj) (fun _ => .alt) (fun _ => .conjD) (fun _ => .altD) .fresh
    (fun u v => .atom (t := .eq u v) (hA u v).1) (fun u v => .atom (t := .neq u v) (hA u v).2)
    (fun _ _ h => .call (h hv)) (fun h => (h hv).elim)

theorem big_invariant (P : State → Prop)
    (hatom : ∀ t, A t → ∀ a b, (liftRes fun st => postF ord st t) a = some b → P a → P b)
    (hbump : ∀ (a : State) (k : Nat), P a → P { a with nextVar := k }) :
    ∀ (n : Nat) (g : G) (a b : State), BigF (defs ord) n g a b → NPG' ord A g → P a → P b
  | 0, _, _, _, h, _, _ => h.elim
  | n + 1, _, a, b, h, hg, ha => by
    cases hg with
    | succeed =>
      cases h.succeed_eq
      exact ha
    | fail => exact h.elim
    | atom hk => exact hatom _ hk a b h ha
    | conj h1 h2 | conjD h1 h2 =>
      obtain ⟨c, b1, b2⟩ := h
      exact big_invariant P hatom hbump n _ c b b2 h2 (big_invariant P hatom hbump n _ a c b1 h1 ha)
    | alt h1 h2 | altD h1 h2 =>
      rcases h with h | h
      · exact big_invariant P hatom hbump n _ a b h h1 ha
      · exact big_invariant P hatom hbump n _ a b h h2 ha
    | fresh h1 => exact big_invariant P hatom hbump n _ a b h h1 ha
    | @call c hv =>
      have h : BigF (defs ord) n (defs ord c a).2 (defs ord c a).1 b := h
      exact big_invariant P hatom hbump n _ _ b h (relBody_npg hA c hv a.nextVar) (hbump _ _ ha)

end Gen

abbrev NPG (ord : Order) : G → Prop := NPG' ord FAtom.OK

theorem np_big (ho : OrderOK ord) (n : Nat) (g : G) (a b : State) (h : BigF (defs ord) n g a b) (hg : NPG ord g)
    (ha : OkP a) : OkP b :=
  big_invariant (fun _ _ => ⟨trivial, trivial⟩) OkP (fun t hk _ _ h ha => postF_okp ho t hk h ha)
    (fun a k h => h.imp (fun ⟨hn, w, hi⟩ => ⟨hn, (fd_bump a k).1 ⟨w, hi⟩⟩) id) n g a b h hg ha

def FRProg.Calls : FRProg → Prop
  | .conj p q => Calls p ∧ Calls q
  | .alt p q => Calls p ∧ Calls q
  | .fresh p => Calls p
  | .call c => c.Valid
  | _ => True

theorem FRProg.npg : ∀ (p : FRProg), p.OK → p.Calls → NPG ord (p.goal ord)
  | .succeed, _, _ => .succeed
  | .atom _, hk, _ => NPG'.atom hk
  | .conj p q, hk, hc => .conj (FRProg.npg p hk.1 hc.1) (FRProg.npg q hk.2 hc.2)
  | .alt p q, hk, hc => .alt (FRProg.npg p hk.1 hc.1) (FRProg.npg q hk.2 hc.2)
  | .fresh p, hk, hc => .fresh (FRProg.npg p hk hc)
  | .call _, _, hc => .call hc

/-- No panic on the engine: a program of FD / CLP(Z) constraints (no `distinctfd`), domains, `==`, `!=`, conjunction,
    conde, fresh and valid library relation calls, from a state that is unpoisoned and well-formed (or carries the
    FUEL marker) — every state the engine's stream holds, at any nesting level, under any hash order, is again
    unpoisoned and well-formed or carries the model's FUEL marker: no panic site of the state machine is reachable. -/
theorem frprog_no_panic (ho : OrderOK ord) (pf M j : Nat) (p : FRProg) (hk : p.OK) (hc : p.Calls) (a b : State)
    (ha : OkP a) (hm : MemS (solveAt (defs ord) pf (M + 1)) b (solveAt (defs ord) pf j (p.goal ord) a)) : OkP b := by
  obtain ⟨n, hn⟩ := (mem_iff_big (defs_plain ord) pf M j (p.plain ord) a b).1 hm
  exact np_big ho n _ a b hn (FRProg.npg p hk hc) ha

end
end Pv
