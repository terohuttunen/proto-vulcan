/-
  Declarative semantics of the library relations (member, member1, append, rember, permute, distinct) and the
  soundness of the engine for them, in every argument mode: the arguments are arbitrary terms (ground,
  partial, fresh), the start state is any well-formed state.  The notion of well-formed state (`GP`) and of
  described valuation (`SP`) is a parameter: whatever `==` and `!=` are exact for.  Proofs/RelSem.lean takes the
  tree states (`Good`, `StateSem`), Proofs/RelSemFD.lean the states that carry finite domains and FD / CLP(Z)
  constraints.

  Method: a goal `g` "denotes `D`" up to derivation height `N` (`DenG`): every big-step answer `b` of `g` from
  a well-formed unpoisoned state `a` is well-formed and describes only valuations that `a` describes and that
  satisfy `D`.  `DenG` is compositional (conjunction = ∧, conde = ∨, fresh, relation call = unfold); the
  relations' specifications (`AppT`, `MemT`, …, Proofs/RelSpec.lean) are inductive predicates on terms whose rules
  are the clauses, so "the body denotes the spec" is one rule application per clause, and the induction on the
  height closes the recursion.  By `mem_iff_big` (Proofs/BigStep.lean) the statement is about every state
  the engine's stream holds, at every nesting level, for the interleaving and the depth-first variant.
-/
import PvModel.Proofs.BigStep
import PvModel.Proofs.RelBody
import PvModel.Proofs.RelSpec
namespace Pv
open Strm Goal State Term

theorem plain_conjOfList {St K : Type} (gs : List (Goal St K)) (h : ∀ g ∈ gs, Plain g) : Plain (conjOfList gs) :=
  conjOfList_closed .succeed .fail .conj gs h

theorem relBody_plain (ord : Order) (c : Call) (n : Nat) : Plain (relBody ord c n).2 :=
  (relBody_bodyG c n).elim .succeed .fail (fun _ => .conj) (fun _ => .alt) (fun _ => .conjD) (fun _ => .altD) .fresh
    (fun _ _ => .atom _) (fun _ _ => .atom _) (fun _ _ _ => .call _) (fun _ => .atom _)

theorem defs_plain (ord : Order) : PlainDefs (defs ord) := fun c a => relBody_plain ord c a.nextVar

theorem liftRes_cases {f : State → Res State} {a b : State} (h : liftRes f a = some b) :
    (a.panic.isSome = true ∧ b = a) ∨ (a.panic.isSome = false ∧ (f a = .ok b ∨
      (f a = .fuel ∧ b = { a with panic := some "FUEL" }) ∨ ∃ s, f a = .panic s ∧ b = { a with panic := some s })) := by
  unfold liftRes at h
  cases hp : a.panic.isSome with
  | true =>
    simp only [hp, if_true, Option.some.injEq] at h
    exact .inl ⟨rfl, h.symm⟩
  | false =>
    simp only [hp, Bool.false_eq_true, if_false] at h
    refine .inr ⟨rfl, ?_⟩
    cases hr : f a with
    | ok s => rw [hr] at h; exact .inl (congrArg Res.ok (Option.some.inj h))
    | fail => rw [hr] at h; cases h
    | fuel => rw [hr] at h; exact .inr (.inl ⟨rfl, (Option.some.inj h).symm⟩)
    | panic s => rw [hr] at h; exact .inr (.inr ⟨s, rfl, (Option.some.inj h).symm⟩)

section
variable (ord : Order) (GP : State → Prop) (SP : Subst → State → Prop)

/-- the contract between a start state and an answer: poison is kept; an unpoisoned answer of a good state is
    good and describes only valuations the start state describes and that satisfy `D` -/
def SCG (D : Subst → Prop) (a b : State) : Prop :=
  (a.panic.isSome = true → b.panic.isSome = true) ∧
  (b.panic.isSome = false → GP a → GP b ∧ ∀ γ, SP γ b → SP γ a ∧ D γ)

/-- goal `g` denotes `D`, for derivations of height ≤ `N` -/
def DenG (N : Nat) (g : G) (D : Subst → Prop) : Prop :=
  ∀ n, n ≤ N → ∀ a b, BigF (defs ord) n g a b → SCG GP SP D a b

variable {ord GP SP}

theorem SCG.trans {D1 D2 : Subst → Prop} {a c b : State} (h1 : SCG GP SP D1 a c) (h2 : SCG GP SP D2 c b) :
    SCG GP SP (fun γ => D1 γ ∧ D2 γ) a b := by
  refine ⟨fun ha => h2.1 (h1.1 ha), fun hb hg => ?_⟩
  have hc : c.panic.isSome = false := by
    cases hc : c.panic.isSome with
    | false => rfl
    | true => rw [h2.1 hc] at hb; cases hb
  obtain ⟨gc, s1⟩ := h1.2 hc hg
  obtain ⟨gb, s2⟩ := h2.2 hb gc
  exact ⟨gb, fun γ hγ => ⟨(s1 γ (s2 γ hγ).1).1, (s1 γ (s2 γ hγ).1).2, (s2 γ hγ).2⟩⟩

theorem gden_weaken {N : Nat} {g : G} {D D' : Subst → Prop} (h : DenG ord GP SP N g D) (w : ∀ γ, D γ → D' γ) :
    DenG ord GP SP N g D' := fun n hn a b hb =>
  ⟨(h n hn a b hb).1, fun hp hg => ((h n hn a b hb).2 hp hg).imp id fun s γ hγ => (s γ hγ).imp id (w γ)⟩

theorem DenG.of_succ {N : Nat} {g : G} {D : Subst → Prop}
    (h : ∀ n, n + 1 ≤ N → ∀ a b, BigF (defs ord) (n + 1) g a b → SCG GP SP D a b) : DenG ord GP SP N g D
  | 0, _, _, _, hb => hb.elim
  | n + 1, hn, a, b, hb => h n hn a b hb

theorem gden_succeed (N : Nat) : DenG ord GP SP N .succeed fun _ => True :=
  .of_succ fun _ _ a b (h : a = b) => h ▸ ⟨id, fun _ hg => ⟨hg, fun _ hγ => ⟨hγ, trivial⟩⟩⟩

theorem gden_fail (N : Nat) (D : Subst → Prop) : DenG ord GP SP N .fail D :=
  .of_succ fun _ _ _ _ h => h.elim

theorem gden_of_succeed {N : Nat} {D : Subst → Prop} (h : DenG ord GP SP (N + 1) .succeed D) {a : State}
    (hp : a.panic.isSome = false) (hg : GP a) : ∀ γ, SP γ a → D γ := fun γ hγ =>
  (((h 1 (Nat.le_add_left 1 N) a a rfl).2 hp hg).2 γ hγ).2

theorem gden_liftRes {f : State → Res State} {D : Subst → Prop}
    (h : ∀ a s, GP a → f a = .ok s → GP s ∧ ∀ γ, SP γ s → SP γ a ∧ D γ) (N : Nat) :
    DenG ord GP SP N (.atom (liftRes f)) D :=
  .of_succ fun _ _ a b hb => by
    rcases liftRes_cases hb with ⟨hp, rfl⟩ | ⟨hp, hr | ⟨-, rfl⟩ | ⟨s, -, rfl⟩⟩
    · exact ⟨id, fun hq => by rw [hp] at hq; cases hq⟩
    · exact ⟨fun x => (by rw [hp] at x; cases x), fun _ hg => h a b hg hr⟩
    · exact ⟨fun _ => rfl, fun hq => by cases hq⟩
    · exact ⟨fun _ => rfl, fun hq => by cases hq⟩

theorem gden_conj {N : Nat} {g1 g2 : G} {D1 D2 : Subst → Prop} (h1 : DenG ord GP SP N g1 D1) (h2 : DenG ord GP SP N g2 D2) :
    DenG ord GP SP N (.conj g1 g2) fun γ => D1 γ ∧ D2 γ :=
  .of_succ fun n hn a b ⟨c, b1, b2⟩ => (h1 n (Nat.le_of_succ_le hn) a c b1).trans (h2 n (Nat.le_of_succ_le hn) c b b2)

theorem gden_conjD {N : Nat} {g1 g2 : G} {D1 D2 : Subst → Prop} (h1 : DenG ord GP SP N g1 D1) (h2 : DenG ord GP SP N g2 D2) :
    DenG ord GP SP N (.conjD g1 g2) fun γ => D1 γ ∧ D2 γ :=
  .of_succ fun n hn a b ⟨c, b1, b2⟩ => (h1 n (Nat.le_of_succ_le hn) a c b1).trans (h2 n (Nat.le_of_succ_le hn) c b b2)

/-- the short-cut of `mkConj` and `mkConjD`: two goals that are literally `succeed` -/
theorem gden_both {N : Nat} {D1 D2 : Subst → Prop} (h1 : DenG ord GP SP N .succeed D1) (h2 : DenG ord GP SP N .succeed D2) :
    DenG ord GP SP N .succeed fun γ => D1 γ ∧ D2 γ :=
  .of_succ fun n hn a b hb => (h1 (n + 1) hn a a rfl).trans (h2 (n + 1) hn a b hb)

theorem gden_mkConj {N : Nat} {g1 g2 : G} {D1 D2 : Subst → Prop} (h1 : DenG ord GP SP N g1 D1) (h2 : DenG ord GP SP N g2 D2) :
    DenG ord GP SP N (mkConj g1 g2) fun γ => D1 γ ∧ D2 γ :=
  mkConj_cases (P := fun g => DenG ord GP SP N g fun γ => D1 γ ∧ D2 γ)
    (fun e1 e2 => gden_both (e1 ▸ h1) (e2 ▸ h2)) (fun _ => gden_fail N _) (gden_conj h1 h2)

theorem gden_mkConjD {N : Nat} {g1 g2 : G} {D1 D2 : Subst → Prop} (h1 : DenG ord GP SP N g1 D1) (h2 : DenG ord GP SP N g2 D2) :
    DenG ord GP SP N (mkConjD g1 g2) fun γ => D1 γ ∧ D2 γ :=
  mkConjD_cases (P := fun g => DenG ord GP SP N g fun γ => D1 γ ∧ D2 γ)
    (fun e1 e2 => gden_both (e1 ▸ h1) (e2 ▸ h2)) (fun _ => gden_fail N _) (gden_conjD h1 h2)

theorem gden_alt {N : Nat} {g1 g2 : G} {D1 D2 : Subst → Prop} (h1 : DenG ord GP SP N g1 D1) (h2 : DenG ord GP SP N g2 D2) :
    DenG ord GP SP N (.alt g1 g2) fun γ => D1 γ ∨ D2 γ :=
  .of_succ fun n hn a b h =>
    h.elim (gden_weaken h1 (fun _ => .inl) n (Nat.le_of_succ_le hn) a b) (gden_weaken h2 (fun _ => .inr) n (Nat.le_of_succ_le hn) a b)

theorem gden_altD {N : Nat} {g1 g2 : G} {D1 D2 : Subst → Prop} (h1 : DenG ord GP SP N g1 D1) (h2 : DenG ord GP SP N g2 D2) :
    DenG ord GP SP N (.altD g1 g2) fun γ => D1 γ ∨ D2 γ :=
  .of_succ fun n hn a b h =>
    h.elim (gden_weaken h1 (fun _ => .inl) n (Nat.le_of_succ_le hn) a b) (gden_weaken h2 (fun _ => .inr) n (Nat.le_of_succ_le hn) a b)

theorem gden_fresh {N : Nat} {g : G} {D : Subst → Prop} (h : DenG ord GP SP N g D) : DenG ord GP SP N (.fresh g) D :=
  .of_succ fun n hn a b hb => h n (Nat.le_of_succ_le hn) a b hb

theorem gden_call (hbump : ∀ (a : State) (k : Nat), (GP a → GP { a with nextVar := k }) ∧ ∀ γ, SP γ { a with nextVar := k } → SP γ a)
    {N : Nat} {c : Call} {D : Subst → Prop} (h : ∀ m, DenG ord GP SP N (relBody ord c m).2 D) :
    DenG ord GP SP (N + 1) (.call c) D :=
  .of_succ fun n hn a b hb =>
    have hs := h a.nextVar n (Nat.le_of_succ_le_succ hn) _ b hb
    ⟨hs.1, fun hp hg => (hs.2 hp ((hbump a _).1 hg)).imp id fun s γ hγ => (s γ hγ).imp ((hbump a _).2 γ) id⟩

abbrev GD := G × (Subst → Prop)

theorem gden_altOfList_all {N : Nat} {S : Subst → Prop} (gs : List G) (h : ∀ g ∈ gs, DenG ord GP SP N g S) :
    DenG ord GP SP N (altOfList gs) S :=
  altOfList_closed (P := fun g => DenG ord GP SP N g S) (gden_fail N S)
    (fun h1 h2 => gden_weaken (gden_alt h1 h2) fun _ h => h.elim id id) gs h

theorem gden_altDOfList_all {N : Nat} {S : Subst → Prop} (gs : List G) (h : ∀ g ∈ gs, DenG ord GP SP N g S) :
    DenG ord GP SP N (altDOfList gs) S :=
  altDOfList_closed (P := fun g => DenG ord GP SP N g S) (gden_fail N S)
    (fun h1 h2 => gden_weaken (gden_altD h1 h2) fun _ h => h.elim id id) gs h

theorem gden_altOfList {N : Nat} : ∀ (ps : List GD), (∀ p ∈ ps, DenG ord GP SP N p.1 p.2) →
    DenG ord GP SP N (altOfList (ps.map Prod.fst)) fun γ => ∃ p ∈ ps, p.2 γ := fun ps h =>
  gden_altOfList_all _ fun g hg => by
    obtain ⟨p, hp, rfl⟩ := List.mem_map.1 hg
    exact gden_weaken (h p hp) fun γ hγ => ⟨p, hp, hγ⟩

theorem gden_altDOfList {N : Nat} : ∀ (ps : List GD), (∀ p ∈ ps, DenG ord GP SP N p.1 p.2) →
    DenG ord GP SP N (altDOfList (ps.map Prod.fst)) fun γ => ∃ p ∈ ps, p.2 γ := fun ps h =>
  gden_altDOfList_all _ fun g hg => by
    obtain ⟨p, hp, rfl⟩ := List.mem_map.1 hg
    exact gden_weaken (h p hp) fun γ hγ => ⟨p, hp, hγ⟩

theorem gden_conjL_nil (d : Bool) (N : Nat) : DenG ord GP SP N (conjLOf d []) fun _ => True := by
  cases d
  · exact gden_succeed N
  · exact gden_succeed N

theorem gden_conjL_cons {N : Nat} (d : Bool) {g : G} {gs : List G} {D1 D2 : Subst → Prop} (h1 : DenG ord GP SP N g D1)
    (h2 : DenG ord GP SP N (conjLOf d gs) D2) : DenG ord GP SP N (conjLOf d (g :: gs)) fun γ => D1 γ ∧ D2 γ := by
  cases d
  · exact gden_mkConj h1 h2
  · exact gden_mkConjD h1 h2

theorem gden_oneOf {N : Nat} (d : Bool) {cs : List (List G)} {S : Subst → Prop}
    (h : ∀ cl ∈ cs, DenG ord GP SP N (conjLOf d cl) S) : DenG ord GP SP N (oneOf d cs) S := by
  cases d
  · refine gden_weaken (gden_mkConj (gden_altOfList_all _ fun g hg => ?_) (gden_succeed N)) fun _ h => h.1
    obtain ⟨cl, hcl, rfl⟩ := List.mem_map.1 hg
    exact h cl hcl
  · refine gden_weaken (gden_mkConjD (gden_altDOfList_all _ fun g hg => ?_) (gden_succeed N)) fun _ h => h.1
    obtain ⟨cl, hcl, rfl⟩ := List.mem_map.1 hg
    exact h cl hcl

theorem apply_pair_eq {γ : Subst} {a b a' b' : Term} :
    apply γ (ofList [a, b]) = apply γ (ofList [a', b']) ↔ apply γ a = apply γ a' ∧ apply γ b = apply γ b' := by
  simp only [ofList, apply, Term.cons.injEq, and_true]

theorem apply_triple_eq {γ : Subst} {a b c a' b' c' : Term} :
    apply γ (ofList [a, b, c]) = apply γ (ofList [a', b', c']) ↔
      apply γ a = apply γ a' ∧ apply γ b = apply γ b' ∧ apply γ c = apply γ c' := by
  simp only [ofList, apply, Term.cons.injEq, and_true]

theorem gden_bad (N : Nat) (D : Subst → Prop) (msg : String) : DenG ord GP SP N (.atom (liftRes fun _ => .panic msg)) D :=
  gden_liftRes (fun _ _ _ h => by cases h) N

section Bodies
variable (N : Nat) (heq : ∀ u v, DenG ord GP SP N (eqG ord u v) fun γ => apply γ u = apply γ v)
  (hneq : ∀ u v, DenG ord GP SP N (diseqG ord u v) fun γ => apply γ u ≠ apply γ v)
  (ih : ∀ c, DenG ord GP SP N (.call c) (RelSem c))

include ih

theorem gden_spin0 (d : Bool) (m : Nat) : DenG ord GP SP N (relBody ord ⟨.spin, [], d⟩ m).2 (RelSem ⟨.spin, [], d⟩) := by
  rw [body_spin0]
  exact gden_weaken (gden_conjL_cons d (ih _) (gden_conjL_nil d N)) fun _ h => h.1

theorem gden_spin1 (a : Term) (d : Bool) (m : Nat) : DenG ord GP SP N (relBody ord ⟨.spin, [a], d⟩ m).2 (RelSem ⟨.spin, [a], d⟩) := by
  rw [body_spin1]
  exact gden_weaken (gden_conjL_cons d (gden_fresh (gden_conjL_cons d (ih _) (gden_conjL_nil d N))) (gden_conjL_nil d N))
    fun _ h => h.1.1

include heq

theorem gden_member (x l : Term) (d : Bool) (m : Nat) :
    DenG ord GP SP N (relBody ord ⟨.member, [x, l], d⟩ m).2 (RelSem ⟨.member, [x, l], d⟩) := by
  rw [body_member]
  refine gden_oneOf d (List.forall_mem_cons.2 ⟨?_, List.forall_mem_cons.2 ⟨?_, nofun⟩⟩)
  · refine gden_weaken (gden_conjL_cons d (heq _ _) (gden_conjL_cons d (heq _ _) (gden_conjL_nil d N))) ?_
    rintro γ ⟨h1, h2, -⟩
    show MemT (apply γ x) (apply γ l)
    rw [h1, ← h2]
    exact .head _ _
  · refine gden_weaken (gden_conjL_cons d (heq _ _) (gden_conjL_cons d (ih _) (gden_conjL_nil d N))) ?_
    rintro γ ⟨h1, h2, -⟩
    show MemT (apply γ x) (apply γ l)
    rw [h1]
    exact .tail h2

theorem gden_append (l s ls : Term) (d : Bool) (m : Nat) :
    DenG ord GP SP N (relBody ord ⟨.append, [l, s, ls], d⟩ m).2 (RelSem ⟨.append, [l, s, ls], d⟩) := by
  rw [body_append]
  refine gden_oneOf d (List.forall_mem_cons.2 ⟨?_, List.forall_mem_cons.2 ⟨?_, nofun⟩⟩)
  · refine gden_weaken (gden_conjL_cons d (heq _ _) (gden_conjL_nil d N)) ?_
    rintro γ ⟨h1, -⟩
    obtain ⟨e1, e2, e3⟩ := apply_triple_eq.1 h1
    show AppT (apply γ l) (apply γ s) (apply γ ls)
    rw [e1, e2, e3]
    exact .nil _
  · refine gden_weaken (gden_conjL_cons d (heq _ _) (gden_conjL_cons d (ih _) (gden_conjL_nil d N))) ?_
    rintro γ ⟨h1, h2, -⟩
    obtain ⟨e1, e2, e3⟩ := apply_triple_eq.1 h1
    show AppT (apply γ l) (apply γ s) (apply γ ls)
    rw [e1, e2, e3]
    exact .cons h2

theorem gden_permute (xl yl : Term) (d : Bool) (m : Nat) :
    DenG ord GP SP N (relBody ord ⟨.permute, [xl, yl], d⟩ m).2 (RelSem ⟨.permute, [xl, yl], d⟩) := by
  rw [body_permute]
  refine gden_oneOf d (List.forall_mem_cons.2 ⟨?_, List.forall_mem_cons.2 ⟨?_, nofun⟩⟩)
  · refine gden_weaken (gden_conjL_cons d (heq _ _) (gden_conjL_nil d N)) ?_
    rintro γ ⟨h1, -⟩
    obtain ⟨e1, e2⟩ := apply_pair_eq.1 h1
    show PermT (apply γ xl) (apply γ yl)
    rw [e1, e2]
    exact .nil
  · refine gden_weaken (gden_conjL_cons d (heq _ _) (gden_conjL_cons d
      (gden_fresh (gden_conjL_cons d (ih _) (gden_conjL_cons d (ih _) (gden_conjL_nil d N)))) (gden_conjL_nil d N))) ?_
    rintro γ ⟨h1, ⟨h2, h3, -⟩, -⟩
    obtain ⟨e1, -⟩ := apply_pair_eq.1 h1
    show PermT (apply γ xl) (apply γ yl)
    rw [e1]
    exact .cons h2 h3

include hneq

theorem gden_member1 (x l : Term) (d : Bool) (m : Nat) :
    DenG ord GP SP N (relBody ord ⟨.member1, [x, l], d⟩ m).2 (RelSem ⟨.member1, [x, l], d⟩) := by
  rw [body_member1]
  refine gden_oneOf d (List.forall_mem_cons.2 ⟨?_, List.forall_mem_cons.2 ⟨?_, nofun⟩⟩)
  · refine gden_weaken (gden_conjL_cons d (heq _ _) (gden_conjL_cons d (heq _ _) (gden_conjL_nil d N))) ?_
    rintro γ ⟨h1, h2, -⟩
    show Mem1T (apply γ x) (apply γ l)
    rw [h1, ← h2]
    exact .head _ _
  · refine gden_weaken (gden_conjL_cons d (heq _ _) (gden_conjL_cons d
      (gden_conjL_cons d (hneq _ _) (gden_conjL_cons d (ih _) (gden_conjL_nil d N))) (gden_conjL_nil d N))) ?_
    rintro γ ⟨h1, ⟨h2, h3, -⟩, -⟩
    show Mem1T (apply γ x) (apply γ l)
    rw [h1]
    exact .tail h2 h3

theorem gden_rember (x ls out : Term) (d : Bool) (m : Nat) :
    DenG ord GP SP N (relBody ord ⟨.rember, [x, ls, out], d⟩ m).2 (RelSem ⟨.rember, [x, ls, out], d⟩) := by
  rw [body_rember]
  refine gden_oneOf d (List.forall_mem_cons.2 ⟨?_, List.forall_mem_cons.2 ⟨?_, List.forall_mem_cons.2 ⟨?_, nofun⟩⟩⟩)
  · refine gden_weaken (gden_conjL_cons d (heq _ _) (gden_conjL_nil d N)) ?_
    rintro γ ⟨h1, -⟩
    obtain ⟨e1, e2⟩ := apply_pair_eq.1 h1
    show RemT (apply γ x) (apply γ ls) (apply γ out)
    rw [e1, e2]
    exact .nil _
  · refine gden_weaken (gden_conjL_cons d (heq _ _) (gden_conjL_cons d (heq _ _) (gden_conjL_nil d N))) ?_
    rintro γ ⟨h1, h2, -⟩
    obtain ⟨e1, e2⟩ := apply_pair_eq.1 h1
    show RemT (apply γ x) (apply γ ls) (apply γ out)
    rw [e1, e2, ← h2]
    exact .hit _ _
  · refine gden_weaken (gden_conjL_cons d (heq _ _) (gden_conjL_cons d (hneq _ _) (gden_conjL_cons d (ih _)
      (gden_conjL_nil d N)))) ?_
    rintro γ ⟨h1, h2, h3, -⟩
    obtain ⟨e1, e2⟩ := apply_pair_eq.1 h1
    show RemT (apply γ x) (apply γ ls) (apply γ out)
    rw [e1, e2]
    exact .skip h2 h3

theorem gden_distinct (l : Term) (d : Bool) (m : Nat) :
    DenG ord GP SP N (relBody ord ⟨.distinct, [l], d⟩ m).2 (RelSem ⟨.distinct, [l], d⟩) := by
  rw [body_distinct]
  refine gden_oneOf d (List.forall_mem_cons.2 ⟨?_, List.forall_mem_cons.2 ⟨?_, List.forall_mem_cons.2 ⟨?_, nofun⟩⟩⟩)
  · refine gden_weaken (gden_conjL_cons d (heq _ _) (gden_conjL_nil d N)) ?_
    rintro γ ⟨h1, -⟩
    show DistT (apply γ l)
    rw [h1]
    exact .nil
  · refine gden_weaken (gden_conjL_cons d (heq _ _) (gden_conjL_nil d N)) ?_
    rintro γ ⟨h1, -⟩
    show DistT (apply γ l)
    rw [h1]
    exact .one _
  · refine gden_weaken (gden_conjL_cons d (heq _ _) (gden_conjL_cons d (hneq _ _) (gden_conjL_cons d (ih _)
      (gden_conjL_cons d (ih _) (gden_conjL_nil d N))))) ?_
    rintro γ ⟨h1, h2, h3, h4, -⟩
    show DistT (apply γ l)
    rw [h1]
    exact .more h2 h3 h4

theorem gden_body (c : Call) (m : Nat) : DenG ord GP SP N (relBody ord c m).2 (RelSem c) := by
  obtain ⟨rel, args, d⟩ := c
  cases rel <;> rcases args with _ | ⟨a1, _ | ⟨a2, _ | ⟨a3, _ | ⟨a4, rest⟩⟩⟩⟩ <;> try exact gden_bad N _ _
  · exact gden_member N heq ih _ _ _ _
  · exact gden_member1 N heq hneq ih _ _ _ _
  · exact gden_append N heq ih _ _ _ _ _
  · exact gden_rember N heq hneq ih _ _ _ _ _
  · exact gden_permute N heq ih _ _ _ _
  · exact gden_distinct N heq hneq ih _ _ _
  · exact gden_spin0 N ih _ _
  · exact gden_spin1 N ih _ _ _

end Bodies

/-- soundness of the library relations, for any notion of well-formed state and described valuation that `==`/`!=`
    respect and the variable counter does not touch -/
theorem gden_rel (hbump : ∀ (a : State) (k : Nat), (GP a → GP { a with nextVar := k }) ∧ ∀ γ, SP γ { a with nextVar := k } → SP γ a)
    (heq : ∀ N u v, DenG ord GP SP N (eqG ord u v) fun γ => apply γ u = apply γ v)
    (hneq : ∀ N u v, DenG ord GP SP N (diseqG ord u v) fun γ => apply γ u ≠ apply γ v) :
    ∀ (N : Nat) (c : Call), DenG ord GP SP N (.call c) (RelSem c)
  | 0, _ => .of_succ fun _ hn => nomatch hn
  | N + 1, c => gden_call hbump fun m => gden_body N (heq N) (hneq N) (gden_rel hbump heq hneq N) c m

end
end Pv
