/-
  The library relations called from tree states: the instance of Proofs/RelSemG.lean with the tree invariant `Good` and
  the tree semantics `StateSem`, for which `==` and `!=` are exact by `postAtom_ok` (Proofs/Tree.lean).
-/
import PvModel.Proofs.RelSemG
import PvModel.Proofs.Tree
namespace Pv
open Strm Goal State Term

section
variable (ord : Order)

/-- `SCG Good StateSem`: the soundness contract (Proofs/RelSemG.lean) of the tree states -/
def SC (D : Subst → Prop) (a b : State) : Prop :=
  (a.panic.isSome = true → b.panic.isSome = true) ∧
  (b.panic.isSome = false → Good a → Good b ∧ ∀ γ, StateSem γ b → StateSem γ a ∧ D γ)

/-- `DenG ord Good StateSem`, written out: the generic lemmas `gden_*` prove it as they stand -/
def DenN (N : Nat) (g : G) (D : Subst → Prop) : Prop :=
  ∀ n, n ≤ N → ∀ a b, BigF (defs ord) n g a b → SC D a b

variable {ord}

theorem den_atom (ho : OrderOK ord) (N : Nat) (t : TAtom) :
    DenN ord N (atomG ord t) fun γ => t.Sat γ :=
  gden_liftRes (fun a s hg hr => (postAtom_ok ord ho a s t hg hr).imp id fun sem γ => (sem γ).1) N

theorem den_of_succeed {N : Nat} {D : Subst → Prop} (h : DenN ord (N + 1) .succeed D) {a : State}
    (hp : a.panic.isSome = false) (hg : Good a) : ∀ γ, StateSem γ a → D γ := gden_of_succeed h hp hg

theorem den_altOfList {N : Nat} : ∀ (ps : List GD), (∀ p ∈ ps, DenN ord N p.1 p.2) →
    DenN ord N (altOfList (ps.map Prod.fst)) fun γ => ∃ p ∈ ps, p.2 γ := gden_altOfList

theorem den_altDOfList {N : Nat} : ∀ (ps : List GD), (∀ p ∈ ps, DenN ord N p.1 p.2) →
    DenN ord N (altDOfList (ps.map Prod.fst)) fun γ => ∃ p ∈ ps, p.2 γ := gden_altDOfList

/-- soundness of the library relations, every height: a call denotes the relation's specification -/
theorem den_rel (ho : OrderOK ord) (N : Nat) (c : Call) : DenN ord N (.call c) (RelSem c) :=
  gden_rel (fun _ _ => ⟨id, fun _ => id⟩) (fun N u v => den_atom ho N (.eq u v)) (fun N u v => den_atom ho N (.neq u v)) N c

theorem rel_sound_big (ho : OrderOK ord) (c : Call) (a b : State) (h : Big (defs ord) (.call c) a b)
    (hp : b.panic.isSome = false) (hg : Good a) : Good b ∧ ∀ γ, StateSem γ b → StateSem γ a ∧ RelSem c γ := by
  obtain ⟨n, hn⟩ := h
  exact (den_rel ho n c n (Nat.le_refl _) a b hn).2 hp hg

end

/-- Soundness of the library relations on the engine: every state in the engine's stream for a call of a
    library relation — any argument terms, from any good state, at any solver nesting level, interleaving or
    depth-first variant — is good and describes only valuations that the start state describes and under which
    the arguments are in the documented relation. -/
theorem rel_sound (ord : Order) (ho : OrderOK ord) (pf M j : Nat) (c : Call) (a b : State)
    (h : MemS (solveAt (defs ord) pf (M + 1)) b (solveAt (defs ord) pf j (.call c) a))
    (hp : b.panic.isSome = false) (hg : Good a) : Good b ∧ ∀ γ, StateSem γ b → StateSem γ a ∧ RelSem c γ :=
  rel_sound_big ho c a b ((mem_iff_big (defs_plain ord) pf M j (.call c) a b).1 h) hp hg

end Pv
