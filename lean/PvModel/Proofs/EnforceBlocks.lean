/-
  `enforce_constraints_fd`, block by block.  The labelling of the query term delivers blocks; from each block `c` the model
  runs `onceo { force_ans(ALL keys of c's domain store) }`.  Here: what that goal delivers from one block, and the assembly
  over all blocks.
-/
import PvModel.Proofs.EnforceKeys
import PvModel.Proofs.ReifyGoal
import PvModel.Proofs.LabelSep
import PvModel.Proofs.LabelGround
namespace Pv
open State Term Goal FD

theorem orderOK_default : OrderOK Order.default := ⟨fun _ => .refl _, fun _ => .refl _, fun _ => .refl _⟩

attribute [local instance] Mode.strict

/-- the term `enforce_constraints_fd` labels under `onceo`: all keys of the domain store, in hash-iteration order -/
abbrev keysTerm (ord : Order) (c : State) : Term := Term.ofList ((ord.ds c.dstore).map fun p => Term.var p.1)

/-- what the end-to-end theorems assume of a block `c` of the query-term labelling: `verify_all_bound` passes, the keys
    fit the model's fuel (implied by the unpoisoned labelling; kept as the Props statements have it), their labelling
    finishes with `ds` (textbook evaluation, unpoisoned) and drains to `ys` within the peek fuel -/
def BlockHyp (ord : Order) (dfs : Call → State → State × G) (pf M N : Nat) (c : State) (ds ys : List State) : Prop :=
  c.allBound = true ∧ c.dstore.length < forceFuel ∧
  evalRef dfs N (forceAns ord forceFuel (keysTerm ord c)) c = some ds ∧
  (∀ t ∈ ds, t.panic = none) ∧
  drainF (solveAt dfs pf (M + 1)) pf
    (start dfs (solveAt dfs pf (M + 1)) pf (Goal.conjOfList [forceAns ord forceFuel (keysTerm ord c)]) c) = some ys

/-- `BlockHyp` and the drained states unpoisoned, as the whole-query theorems assume it.  Written flat: the Props statements
    spell these conjuncts out in this bracketing, and their hypotheses are used as `BlockHyp` / `BlockHypU` by unfolding. -/
def BlockHypU (ord : Order) (dfs : Call → State → State × G) (pf M N : Nat) (c : State) (ds ys : List State) : Prop :=
  c.allBound = true ∧ c.dstore.length < forceFuel ∧
  evalRef dfs N (forceAns ord forceFuel (keysTerm ord c)) c = some ds ∧
  (∀ t ∈ ds, t.panic = none) ∧
  drainF (solveAt dfs pf (M + 1)) pf
    (start dfs (solveAt dfs pf (M + 1)) pf (Goal.conjOfList [forceAns ord forceFuel (keysTerm ord c)]) c) = some ys ∧
  (∀ t ∈ ys, t.panic = none)

section
variable {ord : Order} {dfs : Call → State → State × G} {pf M N : Nat} {c : State} {ds ys : List State}

theorem BlockHyp.allBound (h : BlockHyp ord dfs pf M N c ds ys) : c.allBound = true := h.1

theorem BlockHyp.fits (h : BlockHyp ord dfs pf M N c ds ys) : c.dstore.length < forceFuel := h.2.1

theorem BlockHyp.labelled (h : BlockHyp ord dfs pf M N c ds ys) :
    evalRef dfs N (forceAns ord forceFuel (keysTerm ord c)) c = some ds := h.2.2.1

theorem BlockHyp.unpoisoned (h : BlockHyp ord dfs pf M N c ds ys) : ∀ t ∈ ds, t.panic = none := h.2.2.2.1

theorem BlockHyp.drained (h : BlockHyp ord dfs pf M N c ds ys) :
    drainF (solveAt dfs pf (M + 1)) pf
      (start dfs (solveAt dfs pf (M + 1)) pf (Goal.conjOfList [forceAns ord forceFuel (keysTerm ord c)]) c) = some ys :=
  h.2.2.2.2

theorem BlockHypU.block (h : BlockHypU ord dfs pf M N c ds ys) : BlockHyp ord dfs pf M N c ds ys :=
  ⟨h.1, h.2.1, h.2.2.1, h.2.2.2.1, h.2.2.2.2.1⟩

theorem BlockHypU.unpoisoned (h : BlockHypU ord dfs pf M N c ds ys) : ∀ t ∈ ys, t.panic = none := h.2.2.2.2.2

end

/-- the Boolean form of `c.panic = none` and `BlockHyp`, for the checkers of the non-vacuity sections: `e` the textbook
    evaluation of the key labelling, `d` its drain -/
theorem blockCheck_spec {c : State} {e d : Option (List State)}
    (h : (c.panic.isNone && c.allBound && decide (c.dstore.length < forceFuel) &&
      (match e with
       | some ds => ds.all (·.panic.isNone)
       | none => false) && d.isSome) = true) :
    c.panic = none ∧ c.allBound = true ∧ c.dstore.length < forceFuel ∧
      e = some (e.getD []) ∧ (∀ t ∈ e.getD [], t.panic = none) ∧ d = some (d.getD []) := by
  simp only [Bool.and_eq_true, decide_eq_true_eq] at h
  obtain ⟨⟨⟨⟨b1, b2⟩, b3⟩, b4⟩, b5⟩ := h
  refine ⟨Option.isNone_iff_eq_none.1 b1, b2, b3, ?_⟩
  cases e with
  | none => cases b4
  | some ds =>
    cases d with
    | none => cases b5
    | some ys => exact ⟨rfl, fun t ht => Option.isNone_iff_eq_none.1 (List.all_eq_true.1 b4 t ht), rfl⟩

theorem kindCheck_spec {s : State}
    (h : (s.store.all fun p => p.2.isDiseq || (operandsOf p.2).all fun u => (walk s.σ u).isVar || (walk s.σ u).isNum) = true) :
    ∀ p ∈ s.store, p.2.isDiseq = false → ∀ u ∈ operandsOf p.2, (walk s.σ u).isVar = true ∨ (walk s.σ u).isNum = true := by
  intro p hp hd u hu
  have hp' := List.all_eq_true.1 h p hp
  rw [hd, Bool.false_or] at hp'
  exact Bool.or_eq_true _ _ ▸ List.all_eq_true.1 hp' u hu

section
variable {ord : Order} (ho : OrderOK ord) (dfs : Call → State → State × G)
include ho

/-- `hidden_labelling_engine` and `keys_labelled` at the key list `enforce_constraints_fd` builds: it contains every
    variable with a domain and, the keys being unbound (`LInv.dk`), only variables in the state those lemmas want. -/
theorem hidden_keys_engine (pf m N : Nat) (c : State) (ds ys : List State)
    (hn : c.dstore.length < forceFuel) (hi : LInv c) (hp : c.panic = none) (hops : OpsOK c)
    (h : evalRef dfs N (forceAns ord forceFuel (keysTerm ord c)) c = some ds) (hall : ∀ t ∈ ds, t.panic = none)
    (hd : drainF (solveAt dfs pf (m + 1)) pf
      (start dfs (solveAt dfs pf (m + 1)) pf (Goal.conjOfList [forceAns ord forceFuel (keysTerm ord c)]) c) = some ys) :
    start dfs (solveAt dfs pf (m + 1)) pf (Goal.onceo [forceAns ord forceFuel (keysTerm ord c)]) c = firstStrm ys.head? ∧
    (∀ b, ys.head? = some b → b ∈ ds) ∧
    (∀ b ∈ ds, Reach ord c b ∧ b.dstore = [] ∧ (∀ p ∈ b.store, p.2.isDiseq = true) ∧ WFS b ∧ ∀ γ, Sem NoI γ b → Sem NoI γ c) ∧
    ((∃ γ, Sem NoI γ c) → ys.head?.isSome = true) ∧ (ds = [] → ys.head? = none) := by
  have hperm := ho.2.2 c.dstore
  have hmap : keysTerm ord c = Term.ofList (((ord.ds c.dstore).map (·.1)).map Term.var) := by
    unfold keysTerm; rw [List.map_map]; rfl
  rw [hmap] at h hd ⊢
  have hks : ∀ y, (c.dget y).isSome → y ∈ (ord.ds c.dstore).map (·.1) := fun y hy => by
    obtain ⟨q, hq, e⟩ := dget_isSome_iff.1 hy
    exact List.mem_map.2 ⟨q, hperm.mem_iff.2 hq, e⟩
  have hko : ∀ k ∈ (ord.ds c.dstore).map (·.1), KeyOK c k := fun k hk => by
    obtain ⟨q, hq, e⟩ := List.mem_map.1 hk
    have : (c.dget k).isSome := dget_isSome_iff.2 ⟨q, hperm.mem_iff.1 hq, e⟩
    exact .inl ((hi.dk k this).elim id (fun f => f.elim))
  have hlen : ((ord.ds c.dstore).map (·.1)).length < forceFuel := by
    rw [List.length_map, hperm.length_eq]; exact hn
  obtain ⟨pm, e1, _, e3⟩ := hidden_labelling_engine ho dfs pf m _ forceFuel N c ds ys hlen hi hp hops hks hko h hall hd
  obtain ⟨k1, _⟩ := keys_labelling_decides ho dfs _ forceFuel N c ds hlen hi hp hops hks hko h hall
  refine ⟨e1, fun b hb => pm.mem_iff.2 (List.mem_of_mem_head? hb), fun b hb => ?_, e3⟩
  exact ⟨(keys_labelled ho dfs _ forceFuel N c ds hlen hi hp hko h hall b hb).1, k1 b hb⟩

/-- The blocks come out in some engine order (`xs'`), each contributing the head of its key labelling. -/
theorem enforce_blocks (pf M : Nat) (x : Term) (s : State) (N : Nat) (xs : List State) (hi : LInv s) (hp : s.panic = none)
    (hops : OpsOK s) (h1 : evalRef dfs N (forceAns ord forceFuel x) s = some xs) (hall1 : ∀ c ∈ xs, c.panic = none)
    (NOf : State → Nat) (dsOf ysOf : State → List State)
    (hblk : ∀ c ∈ xs, BlockHyp ord dfs pf M (NOf c) c (dsOf c) (ysOf c)) :
    (∃ xs', xs.Perm xs' ∧
      AnsS (solveAt dfs pf (M + 2)) (solveAt dfs pf (M + 2) (enforceFd ord x) s) (xs'.flatMap fun c => ((ysOf c).head?).toList)) ∧
    ∀ c ∈ xs, Reach ord s c ∧ (∀ γ, Sem NoI γ c → Sem NoI γ s) ∧
      (∀ b, (ysOf c).head? = some b → b ∈ dsOf c) ∧
      (∀ b ∈ dsOf c, Reach ord c b ∧ b.dstore = [] ∧ (∀ p ∈ b.store, p.2.isDiseq = true) ∧ WFS b ∧
        ∀ γ, Sem NoI γ b → Sem NoI γ c) ∧
      ((∃ γ, Sem NoI γ c) → ((ysOf c).head?).isSome = true) ∧ (dsOf c = [] → (ysOf c).head? = none) := by
  have hb := blocks_inv ho dfs forceFuel N x s xs hi hp hops h1 hall1
  have part := forceAns_part dfs ho forceFuel x N s xs ⟨hi.w, hi.i⟩ hp h1 hall1
  have key : ∀ c ∈ xs, _ := fun c hc => by
    have hk := hblk c hc
    obtain ⟨li, oc, _⟩ := hb c hc
    exact hidden_keys_engine ho dfs pf M (NOf c) c (dsOf c) (ysOf c) hk.fits li (hall1 c hc) oc hk.labelled hk.unpoisoned hk.drained
  refine ⟨enforce_compose dfs pf M ord x s N xs (fun c => (ysOf c).head?) h1 fun c hc => ?_, fun c hc => ?_⟩
  · exact ⟨hall1 c hc, (hblk c hc).allBound, (key c hc).1⟩
  · exact ⟨(hb c hc).2.2, (part.1 c hc).2.2, (key c hc).2⟩

end
end Pv
