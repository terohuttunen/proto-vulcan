/-
  Completeness of the engine for the library relations: every valuation described by the start state under
  which the arguments are in the relation is (after choosing values for the fresh variables the unfolding
  introduces) described by a state in the engine's stream — or the model ran out of unification fuel on the
  way, which leaves a FUEL-poisoned state in the stream.

  Ingredients: `Free m st` — the state says nothing about variables ≥ m (semantically: its described
  valuations are closed under changing those variables); atoms keep it (their meaning only depends on the
  variables they mention, and the counter `nextVar` is not touched: `AddOK.nv`); a relation call advances the
  counter past the fresh variables of its body.  `Complete m γ R` says that the run `R` finds `γ` from every state
  past `m`; sequencing keeps it, so a clause is complete when its goals are, and a call is complete through any one
  of its clauses (`Complete.call`).  The induction is on the derivation of the specification: the rule names the
  clause, its premises give the fresh variables their values and the recursive calls their completeness.
-/
import PvModel.Proofs.RelSem
import PvModel.Proofs.Below
import PvModel.Proofs.BigList
import PvModel.Proofs.DiseqNF
namespace Pv
open Strm Goal State Term

def Agree (m : Nat) (γ γ' : Subst) : Prop := ∀ x, x < m → γ x = γ' x

theorem Agree.refl (m : Nat) (γ : Subst) : Agree m γ γ := fun _ _ => rfl
theorem Agree.symm {m : Nat} {γ γ' : Subst} (h : Agree m γ γ') : Agree m γ' γ := fun x hx => (h x hx).symm
theorem Agree.trans {m : Nat} {γ1 γ2 γ3 : Subst} (h1 : Agree m γ1 γ2) (h2 : Agree m γ2 γ3) : Agree m γ1 γ3 :=
  fun x hx => (h1 x hx).trans (h2 x hx)
theorem Agree.mono {m m' : Nat} {γ γ' : Subst} (h : Agree m γ γ') (hm : m' ≤ m) : Agree m' γ γ' :=
  fun x hx => h x (Nat.lt_of_lt_of_le hx hm)

theorem apply_of_agree {m : Nat} {γ γ' : Subst} {t : Term} (hb : Below m t) (h : Agree m γ γ') : apply γ t = apply γ' t :=
  apply_agree fun y hy => h y (hb y hy)

theorem relSem_agree {m : Nat} {γ γ' : Subst} (c : Call) (hb : ∀ t ∈ c.args, Below m t) (hag : Agree m γ γ')
    (h : RelSem c γ) : RelSem c γ' := by
  have ea : ∀ t ∈ c.args, apply γ t = apply γ' t := fun t ht => apply_of_agree (hb t ht) hag
  have hv := relSem_valid h
  revert ea h
  refine hv.elim (fun x l d h ea => ?_) (fun x l d h ea => ?_) (fun l s ls d h ea => ?_)
    (fun x ls out d h ea => ?_) (fun xl yl d h ea => ?_) (fun l d h ea => ?_)
  all_goals
    simp only [List.forall_mem_cons] at ea
    simpa only [RelSem, ea] using h

/-- the state says nothing about the variables ≥ m -/
def Free (m : Nat) (st : State) : Prop := ∀ γ γ', Agree m γ γ' → StateSem γ st → StateSem γ' st

theorem Free.mono {m m' : Nat} {st : State} (h : Free m st) (hm : m ≤ m') : Free m' st :=
  fun γ γ' ha => h γ γ' (ha.mono hm)

def RInv (st : State) : Prop := Good st ∧ Free st.nextVar st

def setV (γ : Subst) (x : Nat) (t : Term) : Subst := fun y => if y = x then t else γ y

theorem setV_self (γ : Subst) (x : Nat) (t : Term) : setV γ x t x = t := by simp [setV]
theorem setV_other (γ : Subst) {x y : Nat} (t : Term) (h : y ≠ x) : setV γ x t y = γ y := by simp [setV, h]
theorem agree_setV (γ : Subst) {m x : Nat} (t : Term) (h : m ≤ x) : Agree m γ (setV γ x t) :=
  fun y hy => (setV_other γ t (Nat.ne_of_lt (Nat.lt_of_lt_of_le hy h))).symm

def setVs (γ : Subst) (n : Nat) : List (Nat × Term) → Subst
  | [] => γ
  | (i, t) :: ps => setV (setVs γ n ps) (n + i) t

theorem agree_setVs (γ : Subst) (n : Nat) : ∀ ps, Agree n γ (setVs γ n ps)
  | [] => Agree.refl n γ
  | (i, t) :: ps => (agree_setVs γ n ps).trans (agree_setV _ t (Nat.le_add_right n i))

theorem setVs_lookup (γ : Subst) (n i : Nat) {t : Term} : ∀ {ps : List (Nat × Term)}, ps.lookup i = some t → setVs γ n ps (n + i) = t
  | (j, u) :: ps, h => by
    rw [List.lookup_cons] at h
    by_cases hij : i = j
    · subst hij
      rw [beq_self_eq_true] at h
      exact (setV_self _ _ u).trans (Option.some.inj h)
    · rw [beq_eq_false_iff_ne.2 hij] at h
      exact (setV_other _ u fun e => hij (Nat.add_left_cancel e)).trans (setVs_lookup γ n i h)

theorem sat_agree {m : Nat} {γ γ' : Subst} (t : TAtom)
    (hb : t.Below m) (h : Agree m γ γ') :
    t.Sat γ → t.Sat γ' := by
  cases t with
  | eq u v => simp only [TAtom.Sat]; rw [apply_of_agree hb.1 h, apply_of_agree hb.2 h]; exact id
  | neq u v => simp only [TAtom.Sat]; rw [apply_of_agree hb.1 h, apply_of_agree hb.2 h]; exact id

section
variable {ord : Order}

/-- what a successful search step promises about its answer -/
def Post (a : State) (γ : Subst) (b : State) : Prop :=
  b.panic.isSome = true ∨ (RInv b ∧ a.nextVar ≤ b.nextVar ∧ ∃ γ', Agree a.nextVar γ γ' ∧ StateSem γ' b)

theorem Post.desc {a b : State} {γ : Subst} (p : Post a γ b) :
    b.panic.isSome = true ∨ ∃ γ', Agree a.nextVar γ γ' ∧ StateSem γ' b :=
  p.imp_right fun h => h.2.2

theorem rinv_postAtom (ho : OrderOK ord) (t : TAtom) {a b : State}
    (hb : t.Below a.nextVar)
    (hi : RInv a) (hr : postAtom ord a t = .ok b) : RInv b ∧ b.nextVar = a.nextVar := by
  obtain ⟨gb, sem⟩ := postAtom_ok ord ho a b t hi.1 hr
  have nv := postAtom_nv ho t hi.1 hr
  refine ⟨⟨gb, fun γ1 γ2 hag h1 => ?_⟩, nv⟩
  rw [nv] at hag
  have := (sem γ1).1 h1
  exact (sem γ2).2 ⟨hi.2 γ1 γ2 hag this.1, sat_agree t hb hag this.2⟩

theorem atom_run (ho : OrderOK ord) (t : TAtom) {a : State} {γ : Subst}
    (hb : t.Below a.nextVar)
    (hp : a.panic.isSome = false) (hi : RInv a) (hγ : StateSem γ a) (hs : t.Sat γ) :
    ∃ b, Big (defs ord) (atomG ord t) a b ∧
      (b.panic.isSome = true ∨ (RInv b ∧ b.nextVar = a.nextVar ∧ StateSem γ b)) := by
  simp only [big_atom, liftRes, hp, Bool.false_eq_true, if_false]
  cases hr : postAtom ord a t with
  | ok b =>
    obtain ⟨ib, nv⟩ := rinv_postAtom ho t hb hi hr
    exact ⟨b, rfl, .inr ⟨ib, nv, ((postAtom_ok ord ho a b t hi.1 hr).2 γ).2 ⟨hγ, hs⟩⟩⟩
  | fail => exact (postAtom_fail ord ho a t hi.1 hr γ ⟨hγ, hs⟩).elim
  | fuel => exact ⟨_, rfl, .inl rfl⟩
  | panic s => exact absurd hr (postAtom_no_panic ord ho a t hi.1 s)

/-- poison passes through the run `R`: from a poisoned state it reaches a poisoned state -/
def Flow (R : State → State → Prop) : Prop := ∀ a, a.panic.isSome = true → ∃ b, R a b ∧ b.panic.isSome = true

theorem Flow.mono {R R' : State → State → Prop} (h : Flow R) (hR : ∀ a b, R a b → R' a b) : Flow R' := fun a hp =>
  let ⟨b, hb, pb⟩ := h a hp
  ⟨b, hR a b hb, pb⟩

theorem Flow.seq {R S : State → State → Prop} (h1 : Flow R) (h2 : Flow S) : Flow fun a b => ∃ c, R a c ∧ S c b :=
  fun a hp =>
    let ⟨c, hc, pc⟩ := h1 a hp
    let ⟨b, hb, pb⟩ := h2 c pc
    ⟨b, ⟨c, hc, hb⟩, pb⟩

theorem Flow.nil : Flow (BigChain ord []) := fun a hp => ⟨a, rfl, hp⟩

theorem flow_atom (f : State → Res State) {a : State} (hp : a.panic.isSome = true) :
    Big (defs ord) (.atom (liftRes f)) a a := by
  simp [big_atom, liftRes, hp]

theorem Flow.atom (f : State → Res State) : Flow (Big (defs ord) (.atom (liftRes f))) :=
  fun a hp => ⟨a, flow_atom f hp, hp⟩

theorem rinv_bump {a : State} (k : Nat) (h : RInv a) : RInv { a with nextVar := a.nextVar + k } :=
  ⟨h.1, fun γ γ' hag hγ => h.2 γ γ' (hag.mono (Nat.le_add_right _ _)) hγ⟩

theorem post_trans {a c b : State} {γ γ1 : Subst} (h1 : a.nextVar ≤ c.nextVar) (hag : Agree a.nextVar γ γ1)
    (p : Post c γ1 b) : Post a γ b := by
  rcases p with p | ⟨ib, hn, γ', hag', sb⟩
  · exact .inl p
  · exact .inr ⟨ib, Nat.le_trans h1 hn, γ', hag.trans (hag'.mono h1), sb⟩

theorem flow_call {c : Call} {d : Bool} {c1 : List G} {cs : List (List G)} {k : Nat} {a : State}
    (hbody : relBody ord c a.nextVar = (k, oneOf d (c1 :: cs)))
    (h1 : ∀ {a : State}, a.panic.isSome = true → BigChain ord c1 a a) (hp : a.panic.isSome = true) :
    ∃ b, Big (defs ord) (.call c) a b ∧ b.panic.isSome = true := by
  refine ⟨{ a with nextVar := a.nextVar + k }, ?_, hp⟩
  rw [big_call_rel, hbody]
  exact (big_oneOf d _ _ _).2 ⟨c1, List.mem_cons_self, h1 (a := { a with nextVar := a.nextVar + k }) hp⟩

/-- a poisoned state runs through a valid library call: the first clause of every body is made of atoms -/
theorem flow_valid (c : Call) (hv : c.Valid) : Flow (Big (defs ord) (.call c)) := by
  intro a hp
  refine hv.elim (fun x l d => ?_) (fun x l d => ?_) (fun l s ls d => ?_) (fun x ls out d => ?_) (fun xl yl d => ?_) (fun l d => ?_)
  · exact flow_call (body_member x l d _) (fun hp => ⟨_, flow_atom _ hp, _, flow_atom _ hp, rfl⟩) hp
  · exact flow_call (body_member1 x l d _) (fun hp => ⟨_, flow_atom _ hp, _, flow_atom _ hp, rfl⟩) hp
  · exact flow_call (body_append l s ls d _) (fun hp => ⟨_, flow_atom _ hp, rfl⟩) hp
  · exact flow_call (body_rember x ls out d _) (fun hp => ⟨_, flow_atom _ hp, rfl⟩) hp
  · exact flow_call (body_permute xl yl d _) (fun hp => ⟨_, flow_atom _ hp, rfl⟩) hp
  · exact flow_call (body_distinct l d _) (fun hp => ⟨_, flow_atom _ hp, rfl⟩) hp

theorem flow_append (l s ls : Term) (d : Bool) : Flow (Big (defs ord) (.call ⟨.append, [l, s, ls], d⟩)) :=
  flow_valid _ trivial

theorem flow_member (x l : Term) (d : Bool) : Flow (Big (defs ord) (.call ⟨.member, [x, l], d⟩)) :=
  flow_valid _ trivial

theorem flow_member1 (x l : Term) (d : Bool) : Flow (Big (defs ord) (.call ⟨.member1, [x, l], d⟩)) :=
  flow_valid _ trivial

theorem diseqG_atom (u v : Term) : ∃ f, diseqG ord u v = .atom (liftRes f) := ⟨_, rfl⟩

/-- The run `R` is complete for `γ` past `m`: it passes a poisoned state on, and from an unpoisoned state with the
    invariant whose counter is at least `m` and which describes a valuation `γ'` agreeing with `γ` below `m`, it reaches
    a state describing an extension of `γ'` (or a FUEL-poisoned one).  It speaks of every such `γ'` because the goals
    that ran before have given their own fresh variables, all at or above `m`, values of their own. -/
def Complete (m : Nat) (γ : Subst) (R : State → State → Prop) : Prop :=
  Flow R ∧
  ∀ a γ', m ≤ a.nextVar → Agree m γ γ' → a.panic.isSome = false → RInv a → StateSem γ' a → ∃ b, R a b ∧ Post a γ' b

theorem Complete.run {a : State} {γ : Subst} {R : State → State → Prop} (h : Complete a.nextVar γ R)
    (hp : a.panic.isSome = false) (hi : RInv a) (hγ : StateSem γ a) : ∃ b, R a b ∧ Post a γ b :=
  h.2 a γ (Nat.le_refl _) (Agree.refl _ _) hp hi hγ

theorem Complete.mono {m : Nat} {γ : Subst} {R R' : State → State → Prop} (h : Complete m γ R)
    (hR : ∀ a b, R a b → R' a b) : Complete m γ R' :=
  ⟨h.1.mono hR,
    fun a γ' hle hag hp hi hγ => let ⟨b, hb, pb⟩ := h.2 a γ' hle hag hp hi hγ; ⟨b, hR a b hb, pb⟩⟩

theorem Complete.seq {m : Nat} {γ : Subst} {R S : State → State → Prop} (h1 : Complete m γ R) (h2 : Complete m γ S) :
    Complete m γ fun a b => ∃ c, R a c ∧ S c b := by
  refine ⟨h1.1.seq h2.1, fun a γ' hle hag hp hi hγ => ?_⟩
  obtain ⟨c, hc, pc⟩ := h1.2 a γ' hle hag hp hi hγ
  cases hpc : c.panic.isSome with
  | true =>
    obtain ⟨b, hb, pb⟩ := h2.1 c hpc
    exact ⟨b, ⟨c, hc, hb⟩, .inl pb⟩
  | false =>
    rcases pc with p | ⟨ic, nvc, γ'', hag', sc⟩
    · rw [hpc] at p; cases p
    · obtain ⟨b, hb, pb⟩ := h2.2 c γ'' (Nat.le_trans hle nvc) (hag.trans (hag'.mono hle)) hpc ic sc
      exact ⟨b, ⟨c, hc, hb⟩, post_trans nvc hag' pb⟩

theorem Complete.nil {m : Nat} {γ : Subst} : Complete m γ (BigChain ord []) :=
  ⟨Flow.nil, fun a γ' _ _ _ hi hγ => ⟨a, rfl, .inr ⟨hi, Nat.le_refl _, γ', Agree.refl _ _, hγ⟩⟩⟩

theorem Complete.cons {m : Nat} {γ : Subst} {g : G} {gs : List G} (h1 : Complete m γ (Big (defs ord) g))
    (h2 : Complete m γ (BigChain ord gs)) : Complete m γ (BigChain ord (g :: gs)) :=
  h1.seq h2

theorem Complete.conjL {m : Nat} {γ : Subst} {gs : List G} (d : Bool) (h : Complete m γ (BigChain ord gs)) :
    Complete m γ (Big (defs ord) (conjLOf d gs)) :=
  h.mono fun a b => (big_conjLOf d gs a b).2

theorem Complete.fresh {m : Nat} {γ : Subst} {g : G} (h : Complete m γ (Big (defs ord) g)) :
    Complete m γ (Big (defs ord) (.fresh g)) :=
  h.mono fun _ _ => big_fresh.2

theorem complete_atom (ho : OrderOK ord) (t : TAtom) {m : Nat} {γ : Subst}
    (hb : t.Below m) (hs : t.Sat γ) :
    Complete m γ (Big (defs ord) (atomG ord t)) := by
  refine ⟨Flow.atom _, fun a γ' hle hag hp hi hγ => ?_⟩
  obtain ⟨b, hab, post⟩ := atom_run ho t (hb.mono hle) hp hi hγ (sat_agree t hb hag hs)
  refine ⟨b, hab, post.imp_right fun ⟨ib, nvb, sb⟩ => ⟨ib, Nat.le_of_eq nvb.symm, γ', Agree.refl _ _, sb⟩⟩

theorem complete_eq (ho : OrderOK ord) {m : Nat} {γ : Subst} {u v : Term} (bu : Below m u) (bv : Below m v)
    (h : apply γ u = apply γ v) : Complete m γ (Big (defs ord) (eqG ord u v)) :=
  complete_atom ho (.eq u v) ⟨bu, bv⟩ h

theorem complete_neq (ho : OrderOK ord) {m : Nat} {γ : Subst} {u v : Term} (bu : Below m u) (bv : Below m v)
    (h : apply γ u ≠ apply γ v) : Complete m γ (Big (defs ord) (diseqG ord u v)) :=
  complete_atom ho (.neq u v) ⟨bu, bv⟩ h

/-- A call is complete through one clause of its body: with the fresh variables `n + i` of the unfolding set to values
    `ps` of our choice, the clause is complete past them. -/
theorem Complete.call {c : Call} {m k : Nat} {d : Bool} {γ : Subst} {cs : Nat → List (List G)}
    (hbody : ∀ n, relBody ord c n = (k, oneOf d (cs n))) (ps : List (Nat × Term))
    (h : ∀ n γ1, m ≤ n + k → Agree m γ γ1 → (∀ i {t}, ps.lookup i = some t → γ1 (n + i) = t) →
      ∃ cl ∈ cs n, Complete (n + k) γ1 (BigChain ord cl))
    (hv : c.Valid) : Complete m γ (Big (defs ord) (.call c)) := by
  refine ⟨flow_valid c hv, fun a γ' hle hag hp hi hγ => ?_⟩
  have hag1 := agree_setVs γ' a.nextVar ps
  obtain ⟨cl, hcl, hc⟩ := h a.nextVar _ (Nat.le_add_right_of_le hle) (hag.trans (hag1.mono hle)) fun i _ => setVs_lookup γ' _ i
  obtain ⟨b, hb, pb⟩ := hc.run (a := { a with nextVar := a.nextVar + k }) hp (rinv_bump k hi) (hi.2 γ' _ hag1 hγ)
  refine ⟨b, ?_, post_trans (Nat.le_add_right _ k) hag1 pb⟩
  rw [big_call_rel, hbody]
  exact (big_oneOf d _ _ b).2 ⟨cl, hcl, hb⟩

theorem below3 {m : Nat} {l s ls : Term} (bl : Below m l) (bs : Below m s) (bls : Below m ls) : Below m (ofList [l, s, ls]) :=
  below_cons bl (below_cons bs (below_cons bls (below_nil m)))

theorem below2 {m : Nat} {u v : Term} (bu : Below m u) (bv : Below m v) : Below m (ofList [u, v]) :=
  below_cons bu (below_cons bv (below_nil m))

theorem complete_member (ho : OrderOK ord) (d : Bool) {X Lt : Term} (h : MemT X Lt) :
    ∀ (x l : Term) (m : Nat) (γ : Subst), Below m x → Below m l → apply γ x = X → apply γ l = Lt →
      Complete m γ (Big (defs ord) (.call ⟨.member, [x, l], d⟩)) := by
  induction h with
  | head t =>
    intro x l m γ bx bl ex el
    refine .call (body_member x l d) [(0, X), (1, t)] (fun n γ1 hk hag v => ?_) trivial
    refine ⟨_, .head _, .cons (complete_eq ho (bl.mono hk) (below_cons (below_fresh n) (below_fresh n)) ?_)
      (.cons (complete_eq ho (below_fresh n) (bx.mono hk) ?_) .nil)⟩
    · simp only [apply]; rw [← apply_of_agree bl hag, el, v 0 rfl, v 1 rfl]
    · simp only [apply]; rw [v 0 rfl, ← apply_of_agree bx hag, ex]
  | @tail hd t _ ih =>
    intro x l m γ bx bl ex el
    refine .call (body_member x l d) [(3, hd), (2, t)] (fun n γ1 hk hag v => ?_) trivial
    refine ⟨_, .tail _ (.head _), .cons (complete_eq ho (bl.mono hk) (below_cons (below_fresh n) (below_fresh n)) ?_)
      (.cons (ih x (.var (n + 2)) _ γ1 (bx.mono hk) (below_fresh n) ?_ (v 2 rfl)) .nil)⟩
    · simp only [apply]; rw [← apply_of_agree bl hag, el, v 3 rfl, v 2 rfl]
    · rw [← apply_of_agree bx hag, ex]

theorem member_complete (ho : OrderOK ord) (d : Bool) : ∀ {X Lt : Term}, MemT X Lt →
    ∀ (x l : Term) (a : State) (γ : Subst), Below a.nextVar x → Below a.nextVar l →
      a.panic.isSome = false → RInv a → StateSem γ a → apply γ x = X → apply γ l = Lt →
      ∃ b, Big (defs ord) (.call ⟨.member, [x, l], d⟩) a b ∧ Post a γ b :=
  fun h x l _ γ bx bl hp hi hγ ex el => (complete_member ho d h x l _ γ bx bl ex el).run hp hi hγ

theorem complete_member1 (ho : OrderOK ord) (d : Bool) {X Lt : Term} (h : Mem1T X Lt) :
    ∀ (x l : Term) (m : Nat) (γ : Subst), Below m x → Below m l → apply γ x = X → apply γ l = Lt →
      Complete m γ (Big (defs ord) (.call ⟨.member1, [x, l], d⟩)) := by
  induction h with
  | head t =>
    intro x l m γ bx bl ex el
    refine .call (body_member1 x l d) [(0, X), (1, t)] (fun n γ1 hk hag v => ?_) trivial
    refine ⟨_, .head _, .cons (complete_eq ho (bl.mono hk) (below_cons (below_fresh n) (below_fresh n)) ?_)
      (.cons (complete_eq ho (below_fresh n) (bx.mono hk) ?_) .nil)⟩
    · simp only [apply]; rw [← apply_of_agree bl hag, el, v 0 rfl, v 1 rfl]
    · simp only [apply]; rw [v 0 rfl, ← apply_of_agree bx hag, ex]
  | @tail hd t hne _ ih =>
    intro x l m γ bx bl ex el
    refine .call (body_member1 x l d) [(3, hd), (2, t)] (fun n γ1 hk hag v => ?_) trivial
    have ex1 : apply γ1 x = X := by rw [← apply_of_agree bx hag, ex]
    refine ⟨_, .tail _ (.head _), .cons (complete_eq ho (bl.mono hk) (below_cons (below_fresh n) (below_fresh n)) ?_)
      (.cons (.conjL d (.cons (complete_neq ho (below_fresh n) (bx.mono hk) ?_)
        (.cons (ih x (.var (n + 2)) _ γ1 (bx.mono hk) (below_fresh n) ex1 (v 2 rfl)) .nil))) .nil)⟩
    · simp only [apply]; rw [← apply_of_agree bl hag, el, v 3 rfl, v 2 rfl]
    · simp only [apply]; rw [v 3 rfl, ex1]; exact hne

theorem complete_append (ho : OrderOK ord) (d : Bool) {L S R : Term} (h : AppT L S R) :
    ∀ (l s ls : Term) (m : Nat) (γ : Subst), Below m l → Below m s → Below m ls →
      apply γ l = L → apply γ s = S → apply γ ls = R → Complete m γ (Big (defs ord) (.call ⟨.append, [l, s, ls], d⟩)) := by
  induction h with
  | nil S =>
    intro l s ls m γ bl bs bls el es els
    refine .call (body_append l s ls d) [(0, S)] (fun n γ1 hk hag v => ?_) trivial
    refine ⟨_, .head _, .cons (complete_eq ho (below3 (bl.mono hk) (bs.mono hk) (bls.mono hk))
      (below3 (below_nil _) (below_fresh n) (below_fresh n)) ?_) .nil⟩
    simp only [ofList, apply]
    rw [← apply_of_agree bl hag, ← apply_of_agree bs hag, ← apply_of_agree bls hag, el, es, els, v 0 rfl]
  | @cons x T S R' _ ih =>
    intro l s ls m γ bl bs bls el es els
    refine .call (body_append l s ls d) [(1, x), (2, T), (3, R'), (4, S)] (fun n γ1 hk hag v => ?_) trivial
    refine ⟨_, .tail _ (.head _), .cons (complete_eq ho (below3 (bl.mono hk) (bs.mono hk) (bls.mono hk))
        (below3 (below_cons (below_fresh n) (below_fresh n)) (below_fresh n) (below_cons (below_fresh n) (below_fresh n))) ?_)
      (.cons (ih (.var (n + 2)) (.var (n + 4)) (.var (n + 3)) _ γ1 (below_fresh n) (below_fresh n) (below_fresh n)
        (v 2 rfl) (v 4 rfl) (v 3 rfl)) .nil)⟩
    simp only [ofList, apply]
    rw [← apply_of_agree bl hag, ← apply_of_agree bs hag, ← apply_of_agree bls hag, el, es, els, v 1 rfl, v 2 rfl, v 3 rfl, v 4 rfl]

theorem append_complete (ho : OrderOK ord) (d : Bool) : ∀ {L S R : Term}, AppT L S R →
    ∀ (l s ls : Term) (a : State) (γ : Subst), Below a.nextVar l → Below a.nextVar s → Below a.nextVar ls →
      a.panic.isSome = false → RInv a → StateSem γ a → apply γ l = L → apply γ s = S → apply γ ls = R →
      ∃ b, Big (defs ord) (.call ⟨.append, [l, s, ls], d⟩) a b ∧ Post a γ b :=
  fun h l s ls _ γ bl bs bls hp hi hγ el es els => (complete_append ho d h l s ls _ γ bl bs bls el es els).run hp hi hγ

theorem complete_rember (ho : OrderOK ord) (d : Bool) {X Ls Out : Term} (h : RemT X Ls Out) :
    ∀ (x ls out : Term) (m : Nat) (γ : Subst), Below m x → Below m ls → Below m out →
      apply γ x = X → apply γ ls = Ls → apply γ out = Out → Complete m γ (Big (defs ord) (.call ⟨.rember, [x, ls, out], d⟩)) := by
  induction h with
  | nil =>
    intro x ls out m γ bx bl bo ex el eo
    refine .call (body_rember x ls out d) [] (fun n γ1 hk hag v => ?_) trivial
    refine ⟨_, .head _, .cons (complete_eq ho (below2 (bl.mono hk) (bo.mono hk)) (below2 (below_nil _) (below_nil _)) ?_) .nil⟩
    simp only [ofList, apply]
    rw [← apply_of_agree bl hag, ← apply_of_agree bo hag, el, eo]
  | hit dd =>
    intro x ls out m γ bx bl bo ex el eo
    refine .call (body_rember x ls out d) [(0, X), (1, dd)] (fun n γ1 hk hag v => ?_) trivial
    refine ⟨_, .tail _ (.head _), .cons (complete_eq ho (below2 (bl.mono hk) (bo.mono hk))
        (below2 (below_cons (below_fresh n) (below_fresh n)) (below_fresh n)) ?_)
      (.cons (complete_eq ho (below_fresh n) (bx.mono hk) ?_) .nil)⟩
    · simp only [ofList, apply]
      rw [← apply_of_agree bl hag, ← apply_of_agree bo hag, el, eo, v 0 rfl, v 1 rfl]
    · simp only [apply]; rw [v 0 rfl, ← apply_of_agree bx hag, ex]
  | @skip y ys zs hne _ ih =>
    intro x ls out m γ bx bl bo ex el eo
    refine .call (body_rember x ls out d) [(2, y), (3, ys), (4, zs)] (fun n γ1 hk hag v => ?_) trivial
    have ex1 : apply γ1 x = X := by rw [← apply_of_agree bx hag, ex]
    refine ⟨_, .tail _ (.tail _ (.head _)), .cons (complete_eq ho (below2 (bl.mono hk) (bo.mono hk))
        (below2 (below_cons (below_fresh n) (below_fresh n)) (below_cons (below_fresh n) (below_fresh n))) ?_)
      (.cons (complete_neq ho (below_fresh n) (bx.mono hk) ?_)
        (.cons (ih x (.var (n + 3)) (.var (n + 4)) _ γ1 (bx.mono hk) (below_fresh n) (below_fresh n) ex1 (v 3 rfl) (v 4 rfl)) .nil))⟩
    · simp only [ofList, apply]
      rw [← apply_of_agree bl hag, ← apply_of_agree bo hag, el, eo, v 2 rfl, v 3 rfl, v 4 rfl]
    · simp only [apply]; rw [v 2 rfl, ex1]; exact hne

theorem complete_distinct (ho : OrderOK ord) (d : Bool) {Lt : Term} (h : DistT Lt) :
    ∀ (l : Term) (m : Nat) (γ : Subst), Below m l → apply γ l = Lt → Complete m γ (Big (defs ord) (.call ⟨.distinct, [l], d⟩)) := by
  induction h with
  | nil =>
    intro l m γ bl el
    refine .call (body_distinct l d) [] (fun n γ1 hk hag v => ?_) trivial
    refine ⟨_, .head _, .cons (complete_eq ho (bl.mono hk) (below_nil _) ?_) .nil⟩
    simp only [apply]; rw [← apply_of_agree bl hag, el]
  | one e =>
    intro l m γ bl el
    refine .call (body_distinct l d) [(0, e)] (fun n γ1 hk hag v => ?_) trivial
    refine ⟨_, .tail _ (.head _), .cons (complete_eq ho (bl.mono hk) (below_cons (below_fresh n) (below_nil _)) ?_) .nil⟩
    simp only [apply]; rw [← apply_of_agree bl hag, el, v 0 rfl]
  | @more f s r hne _ _ ih1 ih2 =>
    intro l m γ bl el
    refine .call (body_distinct l d) [(3, f), (2, s), (1, r)] (fun n γ1 hk hag v => ?_) trivial
    refine ⟨_, .tail _ (.tail _ (.head _)), .cons (complete_eq ho (bl.mono hk)
        (below_cons (below_fresh n) (below_cons (below_fresh n) (below_fresh n))) ?_)
      (.cons (complete_neq ho (below_fresh n) (below_fresh n) ?_)
        (.cons (ih1 (.cons (.var (n + 3)) (.var (n + 1))) _ γ1 (below_cons (below_fresh n) (below_fresh n)) ?_)
          (.cons (ih2 (.cons (.var (n + 2)) (.var (n + 1))) _ γ1 (below_cons (below_fresh n) (below_fresh n)) ?_)
            .nil)))⟩
    · simp only [apply]; rw [← apply_of_agree bl hag, el, v 3 rfl, v 2 rfl, v 1 rfl]
    · simp only [apply]; rw [v 3 rfl, v 2 rfl]; exact hne
    · simp only [apply]; rw [v 3 rfl, v 1 rfl]
    · simp only [apply]; rw [v 2 rfl, v 1 rfl]

theorem complete_permute (ho : OrderOK ord) (d : Bool) {Xl Yl : Term} (h : PermT Xl Yl) :
    ∀ (xl yl : Term) (m : Nat) (γ : Subst), Below m xl → Below m yl → apply γ xl = Xl → apply γ yl = Yl →
      Complete m γ (Big (defs ord) (.call ⟨.permute, [xl, yl], d⟩)) := by
  induction h with
  | nil =>
    intro xl yl m γ bx by' ex ey
    refine .call (body_permute xl yl d) [] (fun n γ1 hk hag v => ?_) trivial
    refine ⟨_, .head _, .cons (complete_eq ho (below2 (bx.mono hk) (by'.mono hk)) (below2 (below_nil _) (below_nil _)) ?_) .nil⟩
    simp only [ofList, apply]
    rw [← apply_of_agree bx hag, ← apply_of_agree by' hag, ex, ey]
  | @cons x xs Yl ys _ hrem ih =>
    intro xl yl m γ bx by' ex ey
    refine .call (body_permute xl yl d) [(1, x), (0, xs), (2, Yl), (3, ys)] (fun n γ1 hk hag v => ?_) trivial
    refine ⟨_, .tail _ (.head _), .cons (complete_eq ho (below2 (bx.mono hk) (by'.mono hk))
        (below2 (below_cons (below_fresh n) (below_fresh n)) (below_fresh n)) ?_)
      (.cons (.fresh (.conjL d (.cons (ih (.var (n + 0)) (.var (n + 3)) _ γ1 (below_fresh n) (below_fresh n) (v 0 rfl) (v 3 rfl))
        (.cons (complete_rember ho d hrem (.var (n + 1)) yl (.var (n + 3)) _ γ1 (below_fresh n) (by'.mono hk)
          (below_fresh n) (v 1 rfl) ?_ (v 3 rfl)) .nil)))) .nil)⟩
    · simp only [ofList, apply]
      rw [← apply_of_agree bx hag, ← apply_of_agree by' hag, ex, ey, v 1 rfl, v 0 rfl, v 2 rfl]
    · rw [← apply_of_agree by' hag, ey]

/-- completeness of `permute`, for its clause-level specification `PermT` -/
theorem permute_complete (ho : OrderOK ord) (d : Bool) : ∀ {Xl Yl : Term}, PermT Xl Yl →
    ∀ (xl yl : Term) (a : State) (γ : Subst), Below a.nextVar xl → Below a.nextVar yl →
      a.panic.isSome = false → RInv a → StateSem γ a → apply γ xl = Xl → apply γ yl = Yl →
      ∃ b, Big (defs ord) (.call ⟨.permute, [xl, yl], d⟩) a b ∧ Post a γ b :=
  fun h xl yl _ γ bx by' hp hi hγ ex ey => (complete_permute ho d h xl yl _ γ bx by' ex ey).run hp hi hγ

/-- Completeness of the library relations (big-step form): if the arguments, over variables below `m`, are in the
    relation under `γ`, the call is complete for `γ` past `m` — from a good state past `m` that says nothing about the
    variables at or above its counter and describes `γ` below `m`, the call has an answer describing that valuation
    extended to the fresh variables, or a FUEL-poisoned answer -/
theorem complete_rel (ho : OrderOK ord) {c : Call} {m : Nat} {γ : Subst} (hb : ∀ t ∈ c.args, Below m t) (h : RelSem c γ) :
    Complete m γ (Big (defs ord) (.call c)) := by
  have hv := relSem_valid h
  revert hb h
  refine hv.elim (fun x l d hb h => ?_) (fun x l d hb h => ?_) (fun l s ls d hb h => ?_) (fun x ls out d hb h => ?_)
    (fun xl yl d hb h => ?_) (fun l d hb h => ?_)
  · exact complete_member ho d h x l m γ (hb _ (.head _)) (hb _ (.tail _ (.head _))) rfl rfl
  · exact complete_member1 ho d h x l m γ (hb _ (.head _)) (hb _ (.tail _ (.head _))) rfl rfl
  · exact complete_append ho d h l s ls m γ (hb _ (.head _)) (hb _ (.tail _ (.head _))) (hb _ (.tail _ (.tail _ (.head _)))) rfl rfl rfl
  · exact complete_rember ho d h x ls out m γ (hb _ (.head _)) (hb _ (.tail _ (.head _))) (hb _ (.tail _ (.tail _ (.head _)))) rfl rfl rfl
  · exact complete_permute ho d h xl yl m γ (hb _ (.head _)) (hb _ (.tail _ (.head _))) rfl rfl
  · exact complete_distinct ho d h l m γ (hb _ (.head _)) rfl

/-- `complete_rel` on the engine: the answer is in the engine's stream, at every nesting level -/
theorem rel_complete (ho : OrderOK ord) (pf M j : Nat) (c : Call) (a : State) (γ : Subst)
    (hb : ∀ t ∈ c.args, Below a.nextVar t) (hp : a.panic.isSome = false) (hi : RInv a) (hγ : StateSem γ a)
    (h : RelSem c γ) :
    ∃ b, MemS (solveAt (defs ord) pf (M + 1)) b (solveAt (defs ord) pf j (.call c) a) ∧ Post a γ b :=
  let ⟨b, hb', post⟩ := (complete_rel ho hb h).run hp hi hγ
  ⟨b, (mem_iff_big (defs_plain ord) pf M j (.call c) a b).2 hb', post⟩

theorem rinv_empty (n : Nat) : RInv (State.empty n) :=
  ⟨good_empty n, fun _ γ' _ _ => stateSem_empty n γ'⟩

end
end Pv
