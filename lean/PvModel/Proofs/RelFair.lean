/-
  Delivery: for goals of the interleaving fragment (atoms, conjunction, `conde`, fresh, calls of library relations
  outside `dfs { }`), `Solver::next` delivers after finitely many steps exactly the big-step answers — also when
  there are infinitely many.

  The fairness theorem (C07_program) asks that every relation body is interleaving (`BfsDefs`); the model's
  relation table also holds the depth-first variants of the library relations (calls made inside `dfs { }`).
  `defsI` is the table with every call forced to the interleaving variant; on goals without depth-first nodes
  and without dfs-calls the two engines are the same function (`solveAt_eq`, `runF_eq`), so fairness transfers.
-/
import PvModel.Proofs.RelProgram
import PvModel.Proofs.Stream
namespace Pv
open Strm Goal State Term

section Generic
variable {St K : Type} {defs : K → St → St × Goal St K}

theorem BfsG.plain {g : Goal St K} (h : BfsG defs g) : Plain g := by
  induction h with
  | succeed => exact .succeed
  | fail => exact .fail
  | atom f => exact .atom f
  | dyn _ ih => exact .dyn ih
  | conj _ _ i1 i2 => exact .conj i1 i2
  | disj _ _ i1 i2 => exact .disj i1 i2
  | alt _ _ i1 i2 => exact .alt i1 i2
  | fresh _ i => exact .fresh i
  | anyo _ i => exact .anyo i
  | call => exact .call _

/-- Delivery = big-step for any state type and any relation table whose bodies are interleaving: `Solver::next`
    delivers a state after finitely many steps exactly when it is a big-step answer (soundness of the stream,
    `mem_iff_big`, and fairness, `fair`) -/
theorem delivered_iff_big_of_bfs (hD : BfsDefs defs) (pf M : Nat) {g : Goal St K} (hg : BfsG defs g) (a b : St) :
    (∃ n, b ∈ runF (solveAt defs pf (M + 1)) n (solveAt defs pf (M + 1) g a)) ↔ Big defs g a b := by
  rw [← mem_iff_big (fun k a => (hD k a).plain) pf M (M + 1) hg.plain a b]
  exact ⟨fun ⟨n, hn⟩ => runF_sound _ (topOK_solveAt _ pf M) n _ b hn,
    fair defs _ (topOK_solveAt _ pf M) (solveAt_bfs defs hD pf (M + 1)) (solveAt_bfs defs hD pf (M + 1) g a hg)⟩

end Generic

section
variable (ord : Order)

/-- the relation table with every call taken as an interleaving call -/
def defsI : Call → State → State × G := fun c st => defs ord { c with dfs := false } st

variable {ord}

theorem defsI_eq {c : Call} (h : c.dfs = false) : defsI ord c = defs ord c := by
  obtain ⟨r, as, d⟩ := c
  simp only at h
  subst h
  rfl

/-- goals of the interleaving fragment whose calls are interleaving calls -/
inductive NoD : G → Prop
  | succeed : NoD .succeed
  | fail : NoD .fail
  | atom (f) : NoD (.atom f)
  | conj {g1 g2} : NoD g1 → NoD g2 → NoD (.conj g1 g2)
  | alt {g1 g2} : NoD g1 → NoD g2 → NoD (.alt g1 g2)
  | fresh {g} : NoD g → NoD (.fresh g)
  | call {c} : c.dfs = false → NoD (.call c)

theorem noD_bfs {D : Call → State → State × G} {g : G} (h : NoD g) : BfsG D g := by
  induction h with
  | succeed => exact .succeed
  | fail => exact .fail
  | atom f => exact .atom f
  | conj _ _ i1 i2 => exact .conj i1 i2
  | alt _ _ i1 i2 => exact .alt i1 i2
  | fresh _ i => exact .fresh i
  | call _ => exact .call

theorem relBody_noD (r : Rel) (as : List Term) (n : Nat) : NoD (relBody ord ⟨r, as, false⟩ n).2 :=
  (relBody_bodyG _ n).elim .succeed .fail (fun _ => .conj) (fun _ => .alt) (fun h => Bool.noConfusion h) (fun h => Bool.noConfusion h) .fresh
    (fun _ _ => .atom _) (fun _ _ => .atom _) (fun _ _ _ => .call rfl) (fun _ => .atom _)

theorem bfsDefs_I : BfsDefs (defsI ord) := fun c a => noD_bfs (relBody_noD c.rel c.args a.nextVar)

mutual
inductive NoDS : Strm State Call → Prop
  | empty : NoDS .empty
  | unit (a) : NoDS (.unit a)
  | cons {a l} : NoDL l → NoDS (.cons a l)
  | lazy {l} : NoDL l → NoDS (.lazy l)
inductive NoDL : Lz State Call → Prop
  | mplus {l1 l2} : NoDL l1 → NoDL l2 → NoDL (.mplus l1 l2)
  | bind {l g} : NoDL l → NoD g → NoDL (.bind l g)
  | pause {a g} : NoD g → NoDL (.pause a g)
  | delay {s} : NoDS s → NoDL (.delay s)
end

theorem mplus_noD {s : Strm State Call} {l : Lz State Call} (hs : NoDS s) (hl : NoDL l) : NoDS (mplus s l) := by
  cases hs with
  | empty => exact .lazy hl
  | unit a => exact .cons hl
  | cons h => exact .cons (.mplus hl h)
  | lazy h => exact .lazy (.mplus hl h)

theorem bind_noD {s : Strm State Call} {g : G} (hs : NoDS s) (hg : NoD g) : NoDS (Strm.bind s g) := by
  unfold Strm.bind
  split
  · exact hs
  · split
    · exact .empty
    · cases hs with
      | empty => exact .empty
      | unit a => exact .lazy (.pause hg)
      | cons h => exact .lazy (.mplus (.pause hg) (.bind h hg))
      | lazy h => exact .lazy (.bind h hg)

theorem lazyBind_noD {l : Lz State Call} {g : G} (hl : NoDL l) (hg : NoD g) : NoDS (lazyBind l g) := by
  unfold lazyBind
  split
  · exact .lazy hl
  · split
    · exact .empty
    · exact .lazy (.bind hl hg)

section Two
variable {top top' : G → State → Strm State Call}
  (heq : ∀ g a, NoD g → top g a = top' g a) (hnd : ∀ g a, NoD g → NoDS (top g a))
include heq hnd

omit heq in
theorem step_noD : ∀ (l : Lz State Call), NoDL l → NoDS (step top l)
  | .mplus l1 l2, h => by cases h with | mplus h1 h2 => exact mplus_noD (step_noD l1 h1) h2
  | .bind l g, h => by cases h with | bind h1 hg => exact bind_noD (step_noD l h1) hg
  | .pause a g, h => by cases h with | pause hg => exact hnd g a hg
  | .delay s, h => by cases h with | delay hs => exact hs
  | .mplusD _ _, h => by cases h
  | .bindD _ _, h => by cases h

omit hnd in
theorem step_eq : ∀ (l : Lz State Call), NoDL l → step top l = step top' l
  | .mplus l1 l2, h => by cases h with | mplus h1 h2 => simp only [step, step_eq l1 h1]
  | .bind l g, h => by cases h with | bind h1 hg => simp only [step, step_eq l h1]
  | .pause a g, h => by cases h with | pause hg => exact heq g a hg
  | .delay s, _ => rfl
  | .mplusD _ _, h => by cases h
  | .bindD _ _, h => by cases h

theorem runF_eq : ∀ (n : Nat) (s : Strm State Call), NoDS s → runF top n s = runF top' n s
  | 0, _, _ => rfl
  | n + 1, .empty, _ => rfl
  | n + 1, .unit a, _ => rfl
  | n + 1, .cons a l, h => by
    cases h with
    | cons hl => simp only [runF, runF_eq n (.lazy l) (.lazy hl)]
  | n + 1, .lazy l, h => by
    cases h with
    | lazy hl =>
      simp only [runF]
      rw [← step_eq heq l hl]
      exact runF_eq n _ (step_noD hnd l hl)

end Two

theorem start_noD {D : Call → State → State × G} {top0 : G → State → Strm State Call} (pf : Nat)
    (hD : ∀ c a, c.dfs = false → NoD (D c a).2) (h0 : ∀ g a, NoD g → NoDS (top0 g a)) {g : G} (hg : NoD g) :
    ∀ a, NoDS (start D top0 pf g a) := by
  induction hg with
  | succeed => intro a; simp only [start]; exact .unit a
  | fail => intro a; simp only [start]; exact .empty
  | atom f => intro a; simp only [start]; split <;> constructor
  | conj h1 h2 _ _ => intro a; simp only [start]; exact lazyBind_noD (.pause h1) h2
  | alt _ _ i1 i2 => intro a; simp only [start]; exact mplus_noD (i1 a) (.delay (i2 a))
  | fresh h _ => intro a; simp only [start]; exact .lazy (.pause h)
  | call hc => intro a; simp only [start]; exact h0 _ _ (hD _ a hc)

theorem defs_noD (c : Call) (a : State) (h : c.dfs = false) : NoD (defs ord c a).2 := by
  obtain ⟨r, as, d⟩ := c
  simp only at h
  subst h
  exact relBody_noD r as a.nextVar

theorem defsI_noD (c : Call) (a : State) (_h : c.dfs = false) : NoD (defsI ord c a).2 :=
  relBody_noD c.rel c.args a.nextVar

theorem solveAt_noD (pf : Nat) : ∀ (n : Nat) (g : G) (a : State), NoD g → NoDS (solveAt (defs ord) pf n g a)
  | 0, _, _, hg => .lazy (.pause hg)
  | n + 1, _, a, hg => start_noD pf defs_noD (fun g a hg => solveAt_noD pf n g a hg) hg a

section Tables
variable {D D' : Call → State → State × G} (hD : ∀ c, c.dfs = false → D c = D' c)
  (hcl : ∀ c a, c.dfs = false → NoD (D c a).2)
include hD hcl

theorem start_congr {top0 top0' : G → State → Strm State Call} (pf : Nat)
    (h0 : ∀ g a, NoD g → top0 g a = top0' g a) {g : G} (hg : NoD g) :
    ∀ a, start D top0 pf g a = start D' top0' pf g a := by
  induction hg with
  | succeed => intro a; simp only [start]
  | fail => intro a; simp only [start]
  | atom f => intro a; simp only [start]
  | conj _ _ _ _ => intro a; simp only [start]
  | alt _ _ i1 i2 => intro a; simp only [start, i1 a, i2 a]
  | fresh _ _ => intro a; simp only [start]
  | @call c hc =>
    intro a
    simp only [start, ← hD c hc]
    exact h0 _ _ (hcl c a hc)

theorem solveAt_congr (pf : Nat) : ∀ (n : Nat) (g : G) (a : State), NoD g → solveAt D pf n g a = solveAt D' pf n g a
  | 0, _, _, _ => rfl
  | n + 1, _, a, hg => start_congr hD hcl pf (fun g a hg => solveAt_congr pf n g a hg) hg a

theorem bigF_congr : ∀ (n : Nat) (g : G) (a b : State), NoD g → BigF D n g a b → BigF D' n g a b
  | 0, _, _, _, _, h => h
  | n + 1, _, a, b, hg, h => by
    cases hg with
    | succeed => exact h
    | fail => exact h
    | atom f => exact h
    | conj h1 h2 => obtain ⟨c, b1, b2⟩ := h; exact ⟨c, bigF_congr n _ _ _ h1 b1, bigF_congr n _ _ _ h2 b2⟩
    | alt h1 h2 => exact h.imp (bigF_congr n _ _ _ h1) (bigF_congr n _ _ _ h2)
    | fresh h1 => exact bigF_congr n _ _ _ h1 h
    | @call c hc =>
      show BigF D' n (D' c a).2 (D' c a).1 b
      rw [← hD c hc]
      exact bigF_congr n _ _ _ (hcl c a hc) h

end Tables

theorem solveAt_eq (pf : Nat) : ∀ (n : Nat) (g : G) (a : State), NoD g →
    solveAt (defs ord) pf n g a = solveAt (defsI ord) pf n g a :=
  solveAt_congr (fun _ hc => (defsI_eq hc).symm) defs_noD pf

/-- Delivery = big-step: on the interleaving fragment, `Solver::next` delivers a state after finitely many steps
    exactly when it is a big-step answer -/
theorem delivered_iff_big (pf M : Nat) {g : G} (hg : NoD g) (a b : State) :
    (∃ n, b ∈ runF (solveAt (defs ord) pf (M + 1)) n (solveAt (defs ord) pf (M + 1) g a)) ↔ Big (defs ord) g a b := by
  have e : ∀ n, runF (solveAt (defs ord) pf (M + 1)) n (solveAt (defs ord) pf (M + 1) g a) =
      runF (solveAt (defsI ord) pf (M + 1)) n (solveAt (defsI ord) pf (M + 1) g a) := fun n => by
    rw [runF_eq (top' := solveAt (defsI ord) pf (M + 1)) (fun g a hg => solveAt_eq pf (M + 1) g a hg)
      (fun g a hg => solveAt_noD pf (M + 1) g a hg) n _ (solveAt_noD pf (M + 1) g a hg), solveAt_eq pf (M + 1) g a hg]
  simp only [e]
  rw [delivered_iff_big_of_bfs bfsDefs_I pf M (noD_bfs hg)]
  exact ⟨fun ⟨k, hk⟩ => ⟨k, bigF_congr (fun _ hc => defsI_eq hc) defsI_noD k g a b hg hk⟩,
    fun ⟨k, hk⟩ => ⟨k, bigF_congr (fun _ hc => (defsI_eq hc).symm) defs_noD k g a b hg hk⟩⟩

end
end Pv
