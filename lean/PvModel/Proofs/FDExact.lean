/-
  Whole conjunctions of CLP(FD) / CLP(Z) / tree atoms: the state reached by posting any list of atoms, in
  any order, under any hash-iteration order of the stores, describes exactly the valuations that satisfy
  every posted atom — propagation (interval narrowing, the re-entrant run_constraints loop, singleton
  domains turned into bindings, the finite-domain extension of unification) loses no solution and admits
  no non-solution; a failure means there is no solution.
  Fragment: every constraint kind; `distinctfd` and its worker only in the lax mode, the former on a proper
  list term, the latter with strictly sorted constants (`CstOK`).
-/
import PvModel.Proofs.FDTop
namespace Pv
open State Term FD
variable [Mode]

/-- the atoms of a constraint program -/
inductive FAtom where
  | eq (u v : Term)
  | neq (u v : Term)
  | cst (c : Cst)
  | dom (x : Term) (d : FD)

def FAtom.Sat (γ : Subst) : FAtom → Prop
  | .eq u v => apply γ u = apply γ v
  | .neq u v => apply γ u ≠ apply γ v
  | .cst c => CstSem γ c
  | .dom x d => InDom x d γ

/-- the atoms the theorems cover: constraints admissible in the mode (`distinctfd` only in the lax mode, and
    on a proper list term), well-formed (non-empty, strictly sorted) domains -/
def FAtom.OK : FAtom → Prop
  | .cst c => CstOK c
  | .dom _ d => WF d
  | _ => True

def postF (ord : Order) (st : State) : FAtom → Res State
  | .eq u v => st.unify ord u v
  | .neq u v => st.disunify ord u v
  | .cst c => st.postCst ord c
  | .dom x d => st.domFd ord x d

def postAllF (ord : Order) : State → List FAtom → Res State
  | st, [] => .ok st
  | st, a :: as => (postF ord st a).bind fun st' => postAllF ord st' as

theorem iok_noI (st : State) : IOK NoI st := fun _ h => h

theorem postF_sem {ord : Order} (ho : OrderOK ord) {st : State} (w : WFS st) (hi : Inv st) (a : FAtom) (hok : a.OK) :
    Ref0 NoI (fun γ => a.Sat γ) st (postF ord st a) := by
  cases a with
  | eq u v => exact unify_sem ho (iok_noI st) w hi u v
  | neq u v => exact disunify_sem ho w hi u v
  | cst c => exact postCst_sem ho (iok_noI st) w hi c hok
  | dom x d => exact domFd_sem ho (iok_noI st) w hi x d hok

theorem postAllF_sem {ord : Order} (ho : OrderOK ord) : ∀ (as : List FAtom) (st : State), WFS st → Inv st →
    (∀ a ∈ as, a.OK) → Ref0 NoI (fun γ => ∀ a ∈ as, a.Sat γ) st (postAllF ord st as)
  | [], _, w, hi, _ => ⟨w, hi, fun _ => ⟨fun h => ⟨h, fun _ h => nomatch h⟩, fun h => h.1⟩⟩
  | a :: as, _, w, hi, hok =>
    ((postF_sem ho w hi a (hok a (List.mem_cons_self ..))).bind fun s1 _ w1 i1 =>
      postAllF_sem ho as s1 w1 i1 fun b hb => hok b (List.mem_cons_of_mem _ hb)).congr
      fun _ => List.forall_mem_cons.symm

theorem postAllF_induct {ord : Order} (P : State → Prop) (A : FAtom → Prop)
    (step : ∀ st st' a, P st → A a → postF ord st a = .ok st' → P st') :
    ∀ (as : List FAtom) (st st' : State), P st → (∀ a ∈ as, A a) → postAllF ord st as = .ok st' → P st'
  | [], _, _, h, _, e => by cases e; exact h
  | a :: as, st, st', h, hA, e => by
    obtain ⟨s1, e1, e2⟩ := Res.bind_ok e
    exact postAllF_induct P A step as s1 st' (step st s1 a h (hA a (List.mem_cons_self ..)) e1)
      (fun b hb => hA b (List.mem_cons_of_mem _ hb)) e2

/-- exactness from the empty state: the state after the whole conjunction describes exactly its solutions -/
theorem fd_exact_ok {ord : Order} (ho : OrderOK ord) (n : Nat) (as : List FAtom) (hok : ∀ a ∈ as, a.OK)
    (st' : State) (h : postAllF ord (State.empty n) as = .ok st') (γ : Subst) :
    Sem NoI γ st' ↔ ∀ a ∈ as, a.Sat γ := by
  have r := postAllF_sem ho as (State.empty n) (wfs_empty n) (inv_empty n) hok
  rw [h] at r
  rw [r.2.2 γ]
  exact ⟨fun a => a.2, fun a => ⟨sem_empty n γ, a⟩⟩

/-- a failing conjunction has no solution -/
theorem fd_exact_fail {ord : Order} (ho : OrderOK ord) (n : Nat) (as : List FAtom) (hok : ∀ a ∈ as, a.OK)
    (h : postAllF ord (State.empty n) as = .fail) : ¬ ∃ γ, ∀ a ∈ as, a.Sat γ := by
  have r := postAllF_sem ho as (State.empty n) (wfs_empty n) (inv_empty n) hok
  rw [h] at r
  rintro ⟨γ, hγ⟩
  exact r γ ⟨sem_empty n γ, hγ⟩

/-- order freedom: two runs of the same atoms — in any two posting orders, under any two hash-iteration
    orders — describe the same valuations; if one of them fails, the other describes none -/
theorem fd_order_free {ord ord' : Order} (ho : OrderOK ord) (ho' : OrderOK ord') (n : Nat)
    (as as' : List FAtom) (hp : as.Perm as') (hok : ∀ a ∈ as, a.OK) :
    (∀ st1 st2, postAllF ord (State.empty n) as = .ok st1 → postAllF ord' (State.empty n) as' = .ok st2 →
      ∀ γ, Sem NoI γ st1 ↔ Sem NoI γ st2) ∧
    (∀ st1, postAllF ord (State.empty n) as = .ok st1 → postAllF ord' (State.empty n) as' = .fail →
      ∀ γ, ¬ Sem NoI γ st1) := by
  have hok' : ∀ a ∈ as', a.OK := fun a ha => hok a (hp.mem_iff.2 ha)
  constructor
  · intro st1 st2 h1 h2 γ
    rw [fd_exact_ok ho n as hok st1 h1, fd_exact_ok ho' n as' hok' st2 h2]
    exact ⟨fun h a ha => h a (hp.mem_iff.2 ha), fun h a ha => h a (hp.mem_iff.1 ha)⟩
  · intro st1 h1 h2 γ hs
    exact fd_exact_fail ho' n as' hok' h2 ⟨γ, fun a ha => (fd_exact_ok ho n as hok st1 h1 γ).1 hs a (hp.mem_iff.2 ha)⟩

/-- a panic stands for a failure: it is reachable only in the lax mode, only at a panic site of `distinctfd`,
    and only when the atoms have no solution -/
theorem fd_panic_refuted {ord : Order} (ho : OrderOK ord) (n : Nat) (as : List FAtom) (hok : ∀ a ∈ as, a.OK) (s : String)
    (h : postAllF ord (State.empty n) as = .panic s) : Mode.allow ∧ DP s ∧ ¬ ∃ γ, ∀ a ∈ as, a.Sat γ := by
  have r := postAllF_sem ho as (State.empty n) (wfs_empty n) (inv_empty n) hok
  rw [h] at r
  exact ⟨r.1, r.2.1, fun ⟨γ, hγ⟩ => r.2.2 γ ⟨sem_empty n γ, hγ⟩⟩

omit [Mode] in
/-- no panic: posting any list of atoms without `distinctfd` never reaches a panic site of the state machine
    (`fd-minmax`: min/max of an empty domain — unreachable because stored domains stay well-formed) -/
theorem fd_no_panic {ord : Order} (ho : OrderOK ord) (n : Nat) (as : List FAtom)
    (hok : ∀ a ∈ as, @FAtom.OK Mode.strict a) (s : String) :
    postAllF ord (State.empty n) as ≠ .panic s := by
  intro h
  exact (@fd_panic_refuted Mode.strict ord ho n as hok s h).1

/-- a state with nothing pending describes its own substitution: the answer itself satisfies every atom -/
theorem fd_closed {ord : Order} (ho : OrderOK ord) (n : Nat) (as : List FAtom) (hok : ∀ a ∈ as, a.OK)
    (st' : State) (h : postAllF ord (State.empty n) as = .ok st') (hs : st'.store = []) (hd : st'.dstore = []) :
    ∀ a ∈ as, a.Sat st'.σ := by
  have r := postAllF_sem ho as (State.empty n) (wfs_empty n) (inv_empty n) hok
  rw [h] at r
  have : Sem NoI st'.σ st' := ⟨Ext.refl _ r.1.solved, by rw [hs]; simp, by unfold DomSem; rw [hd]; simp⟩
  exact ((r.2.2 _).1 this).2

end Pv
