/-
  Programs: constraint atoms combined by conjunction, `conde` and `fresh`, run by the search engine.
  The engine terminates, and the states it delivers are exactly the states of the program's paths (one
  clause chosen at every `conde`): every delivered state describes exactly the solutions of one path,
  and every solution of every path is described by a delivered state.
-/
import PvModel.Model.Goals
import PvModel.Proofs.FDExact
import PvModel.Proofs.Stream
namespace Pv
open State Term FD Goal

theorem liftRes_poisoned {f : State → Res State} {s : State} (h : s.panic ≠ none) : liftRes f s = some s := by
  cases hq : s.panic with
  | none => exact absurd hq h
  | some _ => simp only [liftRes, hq, Option.isSome_some, if_true]

theorem liftRes_ok {f : State → Res State} {s t : State} (h : liftRes f s = some t) (ht : t.panic = none) :
    s.panic = none ∧ f s = .ok t := by
  cases hq : s.panic with
  | some _ =>
    rw [liftRes_poisoned (by rw [hq]; exact Option.some_ne_none _)] at h
    cases h; rw [ht] at hq; cases hq
  | none =>
    simp only [liftRes, hq, Option.isSome_none, Bool.false_eq_true, if_false] at h
    cases hf : f s with
    | ok s' => rw [hf] at h; cases h; exact ⟨rfl, rfl⟩
    | fail => rw [hf] at h; cases h
    | fuel => rw [hf] at h; cases h; cases ht
    | panic site => rw [hf] at h; cases h; cases ht

theorem liftRes_none {f : State → Res State} {s : State} (h : liftRes f s = none) : f s = .fail := by
  unfold liftRes at h
  split at h
  · cases h
  · cases hf : f s with
    | fail => rfl
    | ok s' => rw [hf] at h; cases h
    | fuel => rw [hf] at h; cases h
    | panic site => rw [hf] at h; cases h

theorem liftRes_of_ok {f : State → Res State} {s t : State} (hp : s.panic = none) (h : f s = .ok t) : liftRes f s = some t := by
  simp only [liftRes, hp, h, Option.isSome_none, Bool.false_eq_true, if_false]

theorem liftRes_fuel {f : State → Res State} {s : State} (hp : s.panic = none) (h : f s = .fuel) :
    liftRes f s = some { s with panic := some "FUEL" } := by
  simp only [liftRes, hp, h, Option.isSome_none, Bool.false_eq_true, if_false]

section Inversion
variable {St K : Type} {defs : K → St → St × Goal St K} {n : Nat} {a : St} {zs : List St}

theorem evalRef_succeed_some (h : evalRef defs n (.succeed : Goal St K) a = some zs) : zs = [a] := by
  cases n with
  | zero => cases h
  | succ n => exact (Option.some.inj h).symm

theorem evalRef_fail_some (h : evalRef defs n (.fail : Goal St K) a = some zs) : zs = [] := by
  cases n with
  | zero => cases h
  | succ n => exact (Option.some.inj h).symm

theorem evalRef_atom_some {f : St → Option St} (h : evalRef defs n (.atom f : Goal St K) a = some zs) :
    zs = (f a).toList := by
  cases n with
  | zero => cases h
  | succ n => exact (Option.some.inj h).symm

theorem evalRef_conj_some {g1 g2 : Goal St K} (h : evalRef defs n (.conj g1 g2) a = some zs) :
    ∃ m xs, evalRef defs m g1 a = some xs ∧ flatMapM (evalRef defs m g2) xs = some zs := by
  cases n with
  | zero => cases h
  | succ n => exact ⟨n, evalRef_conj_iff.1 h⟩

theorem evalRef_alt_some {g1 g2 : Goal St K} (h : evalRef defs n (.alt g1 g2) a = some zs) :
    ∃ m xs ys, evalRef defs m g1 a = some xs ∧ evalRef defs m g2 a = some ys ∧ zs = xs ++ ys := by
  cases n with
  | zero => cases h
  | succ n => exact ⟨n, evalRef_alt_iff.1 h⟩

theorem evalRef_fresh_some {g : Goal St K} (h : evalRef defs n (.fresh g) a = some zs) :
    ∃ m, evalRef defs m g a = some zs := by
  cases n with
  | zero => cases h
  | succ n => exact ⟨n, h⟩

end Inversion

variable [Mode]

/-- constraint programs -/
inductive FProg where
  | succeed
  | fail
  | atom (a : FAtom)
  | conj (p q : FProg)
  | alt (p q : FProg)
  | fresh (p : FProg)

namespace FProg

/-- the goal the program denotes: atoms are the goals of Model/Goals.lean (`eqG`, `diseqG`, `cstG`, `domG`) -/
def goal (ord : Order) : FProg → G
  | succeed => .succeed
  | fail => .fail
  | atom a => .atom (liftRes fun st => postF ord st a)
  | conj p q => .conj (goal ord p) (goal ord q)
  | alt p q => .alt (goal ord p) (goal ord q)
  | fresh p => .fresh (goal ord p)

theorem goal_atoms (ord : Order) :
    (∀ u v, goal ord (atom (.eq u v)) = eqG ord u v) ∧ (∀ u v, goal ord (atom (.neq u v)) = diseqG ord u v) ∧
    (∀ c, goal ord (atom (.cst c)) = cstG ord c) ∧ (∀ x d, goal ord (atom (.dom x d)) = domG ord x d) :=
  ⟨fun _ _ => rfl, fun _ _ => rfl, fun _ => rfl, fun _ _ => rfl⟩

/-- the paths: one clause chosen at every disjunction -/
def paths : FProg → List (List FAtom)
  | succeed => [[]]
  | fail => []
  | atom a => [[a]]
  | conj p q => (paths p).flatMap fun x => (paths q).map fun y => x ++ y
  | alt p q => paths p ++ paths q
  | fresh p => paths p

def OK : FProg → Prop
  | atom a => a.OK
  | conj p q => OK p ∧ OK q
  | alt p q => OK p ∧ OK q
  | fresh p => OK p
  | _ => True

def size : FProg → Nat
  | conj p q => size p + size q + 1
  | alt p q => size p + size q + 1
  | fresh p => size p + 1
  | _ => 1

/-- a predicate on programs that an atom hands to the atom itself and a connective to its parts holds of every atom
    on every path -/
theorem paths_forall {Pr : FProg → Prop} {A : FAtom → Prop} (hatom : ∀ a, Pr (.atom a) → A a)
    (hconj : ∀ p q, Pr (.conj p q) → Pr p ∧ Pr q) (halt : ∀ p q, Pr (.alt p q) → Pr p ∧ Pr q)
    (hfresh : ∀ p, Pr (.fresh p) → Pr p) (p : FProg) : Pr p → ∀ path ∈ p.paths, ∀ a ∈ path, A a := by
  induction p with
  | succeed => intro _ path hp a ha; cases List.mem_singleton.1 hp; cases ha
  | fail => intro _ path hp; cases hp
  | atom b => intro h path hp a ha; cases List.mem_singleton.1 hp; cases List.mem_singleton.1 ha; exact hatom b h
  | conj p q ihp ihq =>
    intro h path hp a ha
    obtain ⟨x, hx, hxy⟩ := List.mem_flatMap.1 hp
    obtain ⟨y, hy, rfl⟩ := List.mem_map.1 hxy
    rcases List.mem_append.1 ha with h1 | h1
    · exact ihp (hconj p q h).1 x hx a h1
    · exact ihq (hconj p q h).2 y hy a h1
  | alt p q ihp ihq =>
    intro h path hp
    rcases List.mem_append.1 hp with h1 | h1
    · exact ihp (halt p q h).1 path h1
    · exact ihq (halt p q h).2 path h1
  | fresh p ih => exact fun h => ih (hfresh p h)

theorem paths_ok (p : FProg) : OK p → ∀ path ∈ paths p, ∀ a ∈ path, a.OK :=
  paths_forall (fun _ h => h) (fun _ _ h => h) (fun _ _ h => h) (fun _ h => h) p

end FProg

theorem postF_pan (ord : Order) {st st' : State} {a : FAtom} (hi : Inv st) (h : postF ord st a = .ok st') :
    st'.panic = st.panic ∧ Inv st' := by
  cases a with
  | eq u v => exact ⟨(unify_step ord hi h).pan, (unify_step ord hi h).inv⟩
  | neq u v => exact ⟨(disunify_step ord hi h).pan, (disunify_step ord hi h).inv⟩
  | cst c => exact ⟨(postCst_step ord hi h).pan, (postCst_step ord hi h).inv⟩
  | dom x d => exact ⟨(domFd_step ord hi h).pan, (domFd_step ord hi h).inv⟩

theorem postAllF_pan (ord : Order) : ∀ (as : List FAtom) {st st' : State}, Inv st →
    postAllF ord st as = .ok st' → st'.panic = st.panic ∧ Inv st'
  | [], st, st', hi, h => by simp only [postAllF, Res.ok.injEq] at h; subst h; exact ⟨rfl, hi⟩
  | a :: as, st, st', hi, h => by
    simp only [postAllF] at h
    obtain ⟨s1, e1, h⟩ := Res.bind_ok h
    obtain ⟨p1, i1⟩ := postF_pan ord hi e1
    obtain ⟨p2, i2⟩ := postAllF_pan ord as i1 h
    exact ⟨p2.trans p1, i2⟩

theorem postAllF_append (ord : Order) : ∀ (x y : List FAtom) (st : State),
    postAllF ord st (x ++ y) = (postAllF ord st x).bind fun s => postAllF ord s y
  | [], y, st => rfl
  | a :: x, y, st => by
    simp only [List.cons_append, postAllF]
    cases postF ord st a with
    | ok s1 => simp only [Res.bind]; exact postAllF_append ord x y s1
    | fail => rfl
    | fuel => rfl
    | panic s => rfl

section Ref
variable (ord : Order) (dfs : Call → State → State × G)

theorem evalRef_total_of_le (p : FProg) : ∀ (n : Nat) (st : State), p.size ≤ n →
    ∃ xs, evalRef dfs n (p.goal ord) st = some xs := by
  induction p with
  | succeed => intro n st h; cases n with | zero => cases h | succ m => exact ⟨_, rfl⟩
  | fail => intro n st h; cases n with | zero => cases h | succ m => exact ⟨_, rfl⟩
  | atom a => intro n st h; cases n with | zero => cases h | succ m => exact ⟨_, rfl⟩
  | conj p q ihp ihq =>
    intro n st h
    cases n with
    | zero => cases h
    | succ m =>
      have h : p.size + q.size ≤ m := Nat.le_of_succ_le_succ h
      obtain ⟨xs, hx⟩ := ihp m st (Nat.le_trans (Nat.le_add_right _ _) h)
      obtain ⟨zs, hz⟩ := flatMapM_total (fun s => ihq m s (Nat.le_trans (Nat.le_add_left _ _) h)) xs
      exact ⟨zs, by simp only [FProg.goal, evalRef, hx, hz]⟩
  | alt p q ihp ihq =>
    intro n st h
    cases n with
    | zero => cases h
    | succ m =>
      have h : p.size + q.size ≤ m := Nat.le_of_succ_le_succ h
      obtain ⟨xs, hx⟩ := ihp m st (Nat.le_trans (Nat.le_add_right _ _) h)
      obtain ⟨ys, hy⟩ := ihq m st (Nat.le_trans (Nat.le_add_left _ _) h)
      exact ⟨xs ++ ys, by simp only [FProg.goal, evalRef, hx, hy]⟩
  | fresh p ih =>
    intro n st h
    cases n with
    | zero => cases h
    | succ m => exact ih m st (Nat.le_of_succ_le_succ h)

theorem evalRef_total (p : FProg) : ∀ (k : Nat) (st : State), ∃ xs, evalRef dfs (p.size + k) (p.goal ord) st = some xs :=
  fun k st => evalRef_total_of_le ord dfs p _ st (Nat.le_add_right _ _)

theorem evalRef_path_of_mem (p : FProg) : ∀ (n : Nat) (st : State) (xs : List State),
    evalRef dfs n (p.goal ord) st = some xs → ∀ s ∈ xs, s.panic = none →
    st.panic = none ∧ ∃ path ∈ p.paths, postAllF ord st path = .ok s := by
  induction p with
  | succeed =>
    intro n st xs h s hs hp
    cases evalRef_succeed_some h
    cases List.mem_singleton.1 hs
    exact ⟨hp, [], List.mem_singleton.2 rfl, rfl⟩
  | fail => intro n st xs h s hs; cases evalRef_fail_some h; cases hs
  | atom a =>
    intro n st xs h s hs hp
    cases evalRef_atom_some h
    obtain ⟨hps, e⟩ := liftRes_ok (Option.mem_toList.1 hs) hp
    exact ⟨hps, [a], List.mem_singleton.2 rfl, by rw [postAllF, e]; rfl⟩
  | conj p q ihp ihq =>
    intro n st xs h s hs hp
    obtain ⟨m, xs1, e1, h⟩ := evalRef_conj_some h
    obtain ⟨s1, hs1, ys, ey, hsy⟩ := (flatMapM_mem h s).1 hs
    obtain ⟨hp1, y, hy, ey'⟩ := ihq m s1 ys ey s hsy hp
    obtain ⟨hpst, x, hx, ex⟩ := ihp m st xs1 e1 s1 hs1 hp1
    exact ⟨hpst, x ++ y, List.mem_flatMap.2 ⟨x, hx, List.mem_map.2 ⟨y, hy, rfl⟩⟩, by
      rw [postAllF_append, ex]; exact ey'⟩
  | alt p q ihp ihq =>
    intro n st xs h s hs hp
    obtain ⟨m, a1, a2, e1, e2, rfl⟩ := evalRef_alt_some h
    rcases List.mem_append.1 hs with h' | h'
    · obtain ⟨hpst, x, hx, ex⟩ := ihp m st a1 e1 s h' hp
      exact ⟨hpst, x, List.mem_append.2 (.inl hx), ex⟩
    · obtain ⟨hpst, x, hx, ex⟩ := ihq m st a2 e2 s h' hp
      exact ⟨hpst, x, List.mem_append.2 (.inr hx), ex⟩
  | fresh p ih =>
    intro n st xs h
    obtain ⟨m, h⟩ := evalRef_fresh_some h
    exact ih m st xs h

theorem evalRef_paths_sound (p : FProg) (n : Nat) (st : State) (xs : List State)
    (h : evalRef dfs n (p.goal ord) st = some xs) (s : State) (hs : s ∈ xs) (hp : s.panic = none) :
    ∃ path ∈ p.paths, postAllF ord st path = .ok s :=
  (evalRef_path_of_mem ord dfs p n st xs h s hs hp).2

theorem evalRef_paths_complete (p : FProg) : ∀ (n : Nat) (st : State) (xs : List State), Inv st → st.panic = none →
    evalRef dfs n (p.goal ord) st = some xs → ∀ path ∈ p.paths, ∀ s, postAllF ord st path = .ok s → s ∈ xs := by
  induction p with
  | succeed =>
    intro n st xs _ _ h path hpth s hs
    cases evalRef_succeed_some h
    cases List.mem_singleton.1 hpth
    cases hs
    exact List.mem_singleton.2 rfl
  | fail => intro n st xs _ _ h path hpth; cases hpth
  | atom a =>
    intro n st xs _ hpn h path hpth s hs
    cases evalRef_atom_some h
    cases List.mem_singleton.1 hpth
    obtain ⟨s1, e1, hs⟩ := Res.bind_ok hs
    cases hs
    exact Option.mem_toList.2 (liftRes_of_ok hpn e1)
  | conj p q ihp ihq =>
    intro n st xs hi hpn h path hpth s hs
    obtain ⟨m, xs1, e1, h⟩ := evalRef_conj_some h
    obtain ⟨x, hx, hxy⟩ := List.mem_flatMap.1 hpth
    obtain ⟨y, hy, rfl⟩ := List.mem_map.1 hxy
    rw [postAllF_append] at hs
    obtain ⟨s1, ex, ey⟩ := Res.bind_ok hs
    have hs1 : s1 ∈ xs1 := ihp m st xs1 hi hpn e1 x hx s1 ex
    obtain ⟨p1, i1⟩ := postAllF_pan ord x hi ex
    obtain ⟨ys, eys⟩ := flatMapM_some_of_mem h s1 hs1
    exact (flatMapM_mem h s).2 ⟨s1, hs1, ys, eys, ihq m s1 ys i1 (p1.trans hpn) eys y hy s ey⟩
  | alt p q ihp ihq =>
    intro n st xs hi hpn h path hpth s hs
    obtain ⟨m, a1, a2, e1, e2, rfl⟩ := evalRef_alt_some h
    rcases List.mem_append.1 hpth with h' | h'
    · exact List.mem_append.2 (.inl (ihp m st a1 hi hpn e1 path h' s hs))
    · exact List.mem_append.2 (.inr (ihq m st a2 hi hpn e2 path h' s hs))
  | fresh p ih =>
    intro n st xs hi hpn h
    obtain ⟨m, h⟩ := evalRef_fresh_some h
    exact ih m st xs hi hpn h

end Ref

theorem fd_program_paths (ord : Order) (dfs : Call → State → State × G) (pf M : Nat) (p : FProg) (st : State)
    (hi : Inv st) (hp : st.panic = none) :
    ∃ k ys, drainF (solveAt dfs pf (M + 1)) k (solveAt dfs pf (M + 1) (p.goal ord) st) = some ys ∧
      runF (solveAt dfs pf (M + 1)) k (solveAt dfs pf (M + 1) (p.goal ord) st) = ys ∧
      (∀ s ∈ ys, s.panic = none → ∃ path ∈ p.paths, postAllF ord st path = .ok s) ∧
      (∀ path ∈ p.paths, ∀ s, postAllF ord st path = .ok s → s ∈ ys) := by
  obtain ⟨xs, hx⟩ := evalRef_total ord dfs p 0 st
  obtain ⟨zs, hz, pz⟩ := ref_perm dfs pf M _ _ _ _ hx M
  obtain ⟨k, ys, hd, py⟩ := drain_perm _ (topOK_solveAt dfs pf M) hz
  have hmem : ∀ s, s ∈ ys ↔ s ∈ xs := fun s => (pz.trans py).mem_iff.symm
  exact ⟨k, ys, hd, drain_run _ k _ ys hd,
    fun s hs hps => evalRef_paths_sound ord dfs p _ st xs hx s ((hmem s).1 hs) hps,
    fun path hpth s hpost => (hmem s).2 (evalRef_paths_complete ord dfs p _ st xs hi hp hx path hpth s hpost)⟩

/-- Programs on the engine: for every constraint program (atoms of the fragment under conjunction, conde
    and fresh) the interleaving search terminates, and the list `ys` of states it delivers satisfies:
    (1) every unpoisoned delivered state describes exactly the solutions of one path of the program;
    (2) every solution of every path is described by a delivered state (unless that path's own run ran out
        of the model's unification fuel, which the driver reports as FUEL).
    Any hash-iteration order, any solver nesting level. -/
theorem fd_program {ord : Order} (ho : OrderOK ord) (dfs : Call → State → State × G) (pf M nv : Nat)
    (p : FProg) (hok : p.OK) :
    ∃ k ys, drainF (solveAt dfs pf (M + 1)) k (solveAt dfs pf (M + 1) (p.goal ord) (State.empty nv)) = some ys ∧
      runF (solveAt dfs pf (M + 1)) k (solveAt dfs pf (M + 1) (p.goal ord) (State.empty nv)) = ys ∧
      (∀ s ∈ ys, s.panic = none → ∃ path ∈ p.paths, ∀ γ, Sem NoI γ s ↔ ∀ a ∈ path, a.Sat γ) ∧
      (∀ path ∈ p.paths, ∀ γ, (∀ a ∈ path, a.Sat γ) → postAllF ord (State.empty nv) path ≠ .fuel →
        ∃ s ∈ ys, Sem NoI γ s) := by
  obtain ⟨k, ys, hd, hr, hsound, hcomplete⟩ := fd_program_paths ord dfs pf M p (State.empty nv) (inv_empty nv) rfl
  refine ⟨k, ys, hd, hr, fun s hs hp => ?_, fun path hpth γ hγ hnf => ?_⟩
  · obtain ⟨path, hpth, hpost⟩ := hsound s hs hp
    exact ⟨path, hpth, fun γ => fd_exact_ok ho nv path (FProg.paths_ok p hok path hpth) s hpost γ⟩
  · have hokp := FProg.paths_ok p hok path hpth
    cases hpost : postAllF ord (State.empty nv) path with
    | ok s => exact ⟨s, hcomplete path hpth s hpost, (fd_exact_ok ho nv path hokp s hpost γ).2 hγ⟩
    | fail => exact absurd ⟨γ, hγ⟩ (fd_exact_fail ho nv path hokp hpost)
    | fuel => exact absurd hpost hnf
    | panic s => exact absurd ⟨γ, hγ⟩ (fd_panic_refuted ho nv path hokp s hpost).2.2

end Pv
