/-
  A fully labelled state is closed.  Labelling posts equalities `k == x`.  Through such steps (Proofs/Tight.lean:
  no new key, no new propagator, no stale entry) a variable with a domain stays unbound with a domain or becomes a number
  (`KN`), so every operand of every stored propagator stays "a number, or a variable with a domain" (`OpsOK`: what
  `verify_all_bound` checks before labelling, together with the documented operand kinds).  Hence, once every variable
  that had a domain is bound, the domain store is empty and, by liveness (Proofs/Live.lean), no propagator is left:
  the hypotheses of `C16_ground_answer_sound` hold, the answer is a solution.
-/
import PvModel.Proofs.Tight
import PvModel.Proofs.FDProgram
namespace Pv
open State Term FD
attribute [local instance] Mode.strict

/-- the substitution grows, an unbound variable stays unbound or becomes a number, and keeps having a domain while unbound -/
structure KN (st st' : State) : Prop where
  ext : Ext st.σ st'.σ
  numonly : ∀ y, st.σ y = .var y → st'.σ y = .var y ∨ ∃ n, st'.σ y = Term.num n
  dom : ∀ y, st.σ y = .var y → st'.σ y = .var y → (st.dget y).isSome → (st'.dget y).isSome

theorem KN.of_keeps {st st' : State} (k : Keeps st st') : KN st st' := ⟨k.ext, k.numonly, k.dom⟩

theorem KN.refl {st : State} (h : Solved st.σ) : KN st st := ⟨Ext.refl _ h, fun _ h => .inl h, fun _ _ _ h => h⟩

theorem KN.trans {a b c : State} (h1 : KN a b) (h2 : KN b c) : KN a c := by
  have num_fix : ∀ y n, b.σ y = Term.num n → c.σ y = Term.num n := fun y n e => by
    have := h2.ext (.var y)
    simp only [apply, e] at this
    simpa [Term.num, apply] using this.symm
  refine ⟨Ext.trans h1.ext h2.ext, fun y hy => ?_, fun y hy hc hd => ?_⟩
  · rcases h1.numonly y hy with e | ⟨n, e⟩
    · exact h2.numonly y e
    · exact .inr ⟨n, num_fix y n e⟩
  · rcases h1.numonly y hy with e | ⟨n, e⟩
    · exact h2.dom y e hc (h1.dom y hy e hd)
    · rw [num_fix y n e] at hc; simp [Term.num] at hc

theorem KN.bound_mono {a b : State} (hs : Solved a.σ) (k : KN a b) {y : Nat} (h : a.σ y ≠ .var y) : b.σ y ≠ .var y := by
  intro e
  have hx : apply b.σ (a.σ y) = .var y := (k.ext (.var y)).trans e
  cases hc : a.σ y with
  | var z =>
    -- `z` is unbound in `a` (solved), so in `b` it is unbound or a number; but `b` sends it to `var y`
    rw [hc] at hx
    have hzu : a.σ z = .var z := by have := hs y; rw [hc] at this; exact this
    have hx : b.σ z = .var y := hx
    rcases k.numonly z hzu with e3 | ⟨n, e3⟩
    · rw [e3] at hx; cases hx; exact h hc
    · rw [e3] at hx; cases hx
  | val a => rw [hc] at hx; cases hx
  | nil => rw [hc] at hx; cases hx
  | cons a b => rw [hc] at hx; cases hx
  | comp g a => rw [hc] at hx; cases hx

/-- every operand of every stored propagator is a number or a variable with a domain -/
def OpsOK (s : State) : Prop := ∀ p ∈ s.store, p.2.isDiseq = false → ∀ u ∈ operandsOf p.2,
  (∃ n, walk s.σ u = Term.num n) ∨ (∃ x, walk s.σ u = .var x ∧ (s.dget x).isSome)

theorem OpsOK.keep {s s' : State} (h : OpsOK s) (hs : Solved s.σ) (kn : KN s s') (sub : SubS (fun _ => False) s s') :
    OpsOK s' := by
  intro p hp hd u hu
  rcases sub p hp hd with ⟨q, hq, e⟩ | f
  · have hqd : q.2.isDiseq = false := by rw [e]; exact hd
    have := h q hq hqd u (by rw [e]; exact hu)
    by_cases hv : ∃ x0, u = .var x0
    · obtain ⟨x0, rfl⟩ := hv
      have hx0 : s'.σ x0 = apply s'.σ (s.σ x0) := (kn.ext (.var x0)).symm
      show (∃ n, s'.σ x0 = Term.num n) ∨ ∃ x, s'.σ x0 = .var x ∧ (s'.dget x).isSome
      rw [hx0]
      have this : (∃ n, s.σ x0 = Term.num n) ∨ ∃ x, s.σ x0 = .var x ∧ (s.dget x).isSome := this
      rcases this with ⟨n, e1⟩ | ⟨x, e1, hdx⟩
      · exact .inl ⟨n, by rw [e1]; rfl⟩
      · have hxu : s.σ x = .var x := by have := hs x0; rw [e1] at this; exact this
        rw [e1]
        rcases kn.numonly x hxu with e2 | ⟨n, e2⟩
        · exact .inr ⟨x, e2, kn.dom x hxu e2 hdx⟩
        · exact .inl ⟨n, e2⟩
    · -- an operand that is not a variable is its own walk, in any state
      have hw : ∀ σ, walk σ u = u := fun σ => by
        cases u with
        | var x => exact absurd ⟨x, rfl⟩ hv
        | _ => rfl
      rw [hw] at this ⊢
      exact this.imp id fun ⟨x, e1, _⟩ => absurd ⟨x, e1⟩ hv
  · exact f.elim

theorem closed_of_keys_bound {s : State} (hdk : DK s) (hl : Live s) (ho : OpsOK s)
    (hall : ∀ y, (s.dget y).isSome → s.σ y ≠ .var y) : s.dstore = [] ∧ ∀ p ∈ s.store, p.2.isDiseq = true := by
  have hnone : ∀ y, s.dget y = none := by
    intro y
    cases hg : s.dget y with
    | none => rfl
    | some d =>
      have h1 : (s.dget y).isSome := by rw [hg]; rfl
      exact absurd ((hdk y h1).elim id (fun f => f.elim)) (hall y h1)
  have hd : s.dstore = [] := by
    apply List.eq_nil_iff_forall_not_mem.2
    intro q hq
    have : (s.dget q.1).isSome := dget_isSome_iff.2 ⟨q, hq, rfl⟩
    rw [hnone] at this; cases this
  refine ⟨hd, fun p hp => ?_⟩
  cases hpd : p.2.isDiseq with
  | true => rfl
  | false =>
    rcases hl p hp hpd with f | ⟨t, ht, hn⟩
    · exact f.elim
    · rcases ho p hp hpd t ht with ⟨n, e⟩ | ⟨x, _, hx⟩
      · rw [e] at hn; simp [Term.num, Term.isNum] at hn
      · rw [hnone] at hx; cases hx

theorem labelled_closed {s s' : State} (hdk : DK s') (hl : Live s') (ho : OpsOK s') (hm : KeysMono s s')
    (hall : ∀ y, (s.dget y).isSome → s'.σ y ≠ .var y) :
    s'.dstore = [] ∧ ∀ p ∈ s'.store, p.2.isDiseq = true :=
  closed_of_keys_bound hdk hl ho fun y h => hall y (hm y h)

theorem unifyF_num_var {n : Nat} {σ σ' : Subst} {e : Ext1} {k : Int} {x : Nat} (hs : Solved σ)
    (h : unifyF (n + 1) σ [] (Term.num k) (.var x) = some (some (σ', e))) :
    (σ' = σ ∧ e = []) ∨ ∃ y, σ y = .var y ∧ σ' = bindS y (Term.num k) σ ∧ e = [(y, Term.num k)] := by
  have st := unifyF_step hs h
  have hwu : walk σ (Term.num k) = .val (.num k) := rfl
  cases st with
  | same x' hu _ => rw [hwu] at hu; cases hu
  | bindL x' hu _ _ => rw [hwu] at hu; cases hu
  | bindR y hv _ _ => exact .inr ⟨y, walk_normal hs _ y hv, rfl, rfl⟩
  | valEq a _ _ => exact .inl ⟨rfl, rfl⟩
  | nilnil hu _ => rw [hwu] at hu; cases hu
  | consOk _ _ _ _ _ _ _ hu _ _ _ => rw [hwu] at hu; cases hu
  | comp _ _ _ _ hu _ _ => rw [hwu] at hu; cases hu

section Top
variable {ord : Order} (ho : OrderOK ord)
include ho

theorem extStep_kn {snap cur s3 : State} (hsn : ∀ x d, snap.dget x = some d → WF d) (w : WFS cur) (hi : Inv cur)
    (p : Nat × Term) (hpb : cur.σ p.1 ≠ .var p.1) (h : extStep ord snap cur p = .ok s3) :
    WFS s3 ∧ Inv s3 ∧ KN cur s3 := by
  rcases extStep_ok ho hsn w hi h with ⟨_, rfl⟩ | ⟨_, s2, _, _, w2, _, k2, _, _, _, w3, i3, k3⟩
  · exact ⟨w, hi, KN.refl w.solved⟩
  · have hb2 : s2.σ p.1 ≠ .var p.1 := fun e => hpb (k2.mono _ e)
    have kdr : KN s2 (s2.dremove p.1) := ⟨Ext.refl _ w2.solved, fun _ h => .inl h, fun y hy _ hd => by
      have hyx : y ≠ p.1 := fun e => hb2 (e ▸ hy)
      rw [dget_dremove_ne _ hyx]; exact hd⟩
    exact ⟨w3, i3, ((KN.of_keeps k2).trans kdr).trans (KN.of_keeps k3)⟩

theorem extFold_kn (snap : State) (hsn : ∀ x d, snap.dget x = some d → WF d) {ps : Ext1} {cur s' : State}
    (w : WFS cur) (hi : Inv cur) (hb : ∀ p ∈ ps, cur.σ p.1 ≠ .var p.1)
    (h : ps.foldl (fun (r : Res State) p => r.bind fun cur => extStep ord snap cur p) (.ok cur) = .ok s') :
    WFS s' ∧ Inv s' ∧ KN cur s' := by
  -- the variables still to come stay bound: the substitution only grows
  obtain ⟨s0, e0, p⟩ := foldl_bind_ok
    (fun l s => WFS s ∧ Inv s ∧ KN cur s ∧ ∀ q ∈ l, s.σ q.1 ≠ .var q.1) (extStep ord snap)
    (fun a l s s3 ⟨w, hi, k, hb⟩ hs => by
      obtain ⟨w3, i3, k3⟩ := extStep_kn ho hsn w hi a (hb a List.mem_cons_self) hs
      exact ⟨w3, i3, k.trans k3, fun q hq => k3.bound_mono w.solved (hb q (List.mem_cons_of_mem _ hq))⟩) ps _ s' h
  cases e0
  obtain ⟨w', i', k', _⟩ := p ⟨w, hi, KN.refl w.solved, hb⟩
  exact ⟨w', i', k'⟩

theorem label_step {st st' : State} (w : WFS st) (hi : Inv st) (hz : NoZ st) (hdk : DK st) (k : Int) (x : Nat)
    (h : unify ord st (Term.num k) (.var x) = .ok st') :
    WFS st' ∧ Inv st' ∧ NoZ st' ∧ DK st' ∧ Live st' ∧ KN st st' ∧ KeysMono st st' ∧ SubS (fun _ => False) st st' ∧
      st'.σ x = Term.num k := by
  have r := unify_sem (I := NoI) ho (iok_noI st) w hi (Term.num k) (.var x)
  rw [h] at r
  obtain ⟨d', z', u', m'⟩ := unify_dk ho w hi hz hdk h
  have hl := unify_live ho w hi h
  have hshape : ∀ σ' e, unifyF unifyFuel st.σ [] (Term.num k) (.var x) = some (some (σ', e)) →
      (σ' = st.σ ∧ e = []) ∨ ∃ y, st.σ y = .var y ∧ σ' = bindS y (Term.num k) st.σ ∧ e = [(y, Term.num k)] :=
    fun σ' e hu => unifyF_num_var (n := unifyFuel - 1) w.solved hu
  have hm := m' (fun σ' e hu p hp => by
    rcases hshape σ' e hu with ⟨_, rfl⟩ | ⟨y, _, _, rfl⟩
    · cases hp
    · simp only [List.mem_singleton] at hp; subst hp; rfl)
  suffices hkn : KN st st' ∧ st'.σ x = Term.num k from ⟨r.1, r.2.1, z', d', hl, hkn.1, hm, u', hkn.2⟩
  -- the substitution: the labelling binding, then propagation; `st'` is `s2` with a longer extension log
  obtain ⟨σ', e, s1, s2, hu, e1, e2, rfl⟩ := unify_ok h
  obtain ⟨s', x', un⟩ := unifyF_sound _ _ _ _ _ _ _ w.solved hu
  obtain ⟨hbnd, _, _⟩ := unifyF_ext_full _ _ _ _ _ _ w.solved hu
  have w0 : WFS { st with σ := σ' } := ⟨s', w.dnodup, w.dwf, w.nodist⟩
  have i0 : Inv { st with σ := σ' } := hi.of_σ σ'
  have hσx : σ' x = Term.num k := (show Term.num k = σ' x from un).symm
  have k0 : KN st { st with σ := σ' } := by
    refine ⟨x', fun y hy => ?_, fun y _ _ hd => hd⟩
    rcases hshape σ' e hu with ⟨rfl, _⟩ | ⟨y0, hy0, rfl, _⟩
    · exact .inl hy
    · by_cases hyy : y = y0
      · subst hyy
        exact .inr ⟨k, bindS_self hy⟩
      · left
        show apply (sub1 y0 (Term.num k)) (st.σ y) = .var y
        rw [hy]
        exact if_neg hyy
  have r1 := runConstraintsF_sem ho (rcFuel + 1) (fun _ => False) _ (fun _ h => h) w0 i0
  rw [e1] at r1
  have i1 := (runConstraintsF_ok ord (rcFuel + 1) _ _ i0 e1).inv
  have hkb : ∀ p ∈ ord.ps e, s1.σ p.1 ≠ .var p.1 := fun p hp e' =>
    (hbnd p ((ho.2.1 e).mem_iff.1 hp)).2 (r1.2.1.mono _ e')
  obtain ⟨_, _, k2⟩ := extFold_kn ho s1 (fun x d hd => r1.1.dwf _ (dget_mem hd)) r1.1 i1 hkb e2
  have k12 : KN { st with σ := σ' } s2 := (KN.of_keeps r1.2.1).trans k2
  have k02 := k0.trans k12
  refine ⟨⟨k02.ext, k02.numonly, k02.dom⟩, ?_⟩
  have e : apply s2.σ (σ' x) = s2.σ x := k12.ext (.var x)
  show s2.σ x = Term.num k
  rw [← e, hσx]
  rfl

end Top

/-- the equalities a labelling posts -/
def labelAtoms (ls : List (Int × Nat)) : List FAtom := ls.map fun p => .eq (Term.num p.1) (.var p.2)

theorem postAllF_append' (ord : Order) (as bs : List FAtom) (st : State) :
    postAllF ord st (as ++ bs) = (postAllF ord st as).bind fun s => postAllF ord s bs :=
  postAllF_append ord as bs st

section Top
variable {ord : Order} (ho : OrderOK ord)
include ho

theorem labelAll : ∀ (ls : List (Int × Nat)) (st st' : State), WFS st → Inv st → NoZ st → DK st → Live st →
    postAllF ord st (labelAtoms ls) = .ok st' →
    WFS st' ∧ Inv st' ∧ NoZ st' ∧ DK st' ∧ Live st' ∧ KN st st' ∧ KeysMono st st' ∧ SubS (fun _ => False) st st' := by
  intro ls
  induction ls with
  | nil =>
    intro st st' w hi hz hdk hl h
    cases h
    exact ⟨w, hi, hz, hdk, hl, KN.refl w.solved, fun _ h => h, fun p hp _ => .inl ⟨p, hp, rfl⟩⟩
  | cons l ls ih =>
    intro st st' w hi hz hdk hl h
    simp only [labelAtoms, List.map_cons, postAllF] at h
    obtain ⟨s1, e1, h⟩ := Res.bind_ok h
    obtain ⟨w1, i1, z1, d1, l1, k1, m1, u1, _⟩ := label_step ho w hi hz hdk l.1 l.2 e1
    obtain ⟨w2, i2, z2, d2, l2, k2, m2, u2⟩ := ih s1 st' w1 i1 z1 d1 l1 h
    exact ⟨w2, i2, z2, d2, l2, k1.trans k2, m1.trans m2, u1.trans u2⟩

/-- The labelled answer is a solution.  Post any atoms (FD constraints, domains, `==`, `!=`; any order) and then any
    labelling equalities `k == x`.  If, before labelling, every operand of every stored propagator was a number or a
    variable with a domain (`verify_all_bound` and the documented operand kinds) and, after it, every variable that had a
    domain is bound, then nothing is pending: the domain store is empty and no propagator is stored; if no tree
    disequality is stored either, every posted atom and every labelling equality holds under the answer's own
    substitution. -/
theorem labelled_answer_sound (n : Nat) (as : List FAtom) (hok : ∀ a ∈ as, a.OK) (hnz : ∀ a ∈ as, a.NoZ)
    (ls : List (Int × Nat)) (st st' : State) (h1 : postAllF ord (State.empty n) as = .ok st) (hops : OpsOK st)
    (h2 : postAllF ord st (labelAtoms ls) = .ok st')
    (hall : ∀ y, (st.dget y).isSome → st'.σ y ≠ .var y) :
    st'.dstore = [] ∧ (∀ p ∈ st'.store, p.2.isDiseq = true) ∧
      (st'.store = [] → ∀ a ∈ as ++ labelAtoms ls, a.Sat st'.σ) := by
  obtain ⟨hdk, hz⟩ := fd_dk ho n as hok hnz st h1
  have hl := fd_live ho n as hok st h1
  have r := postAllF_sem ho as (State.empty n) (wfs_empty n) (inv_empty n) hok
  rw [h1] at r
  obtain ⟨w2, i2, z2, d2, l2, k2, m2, u2⟩ := labelAll ho ls st st' r.1 r.2.1 hz hdk hl h2
  obtain ⟨c1, c2⟩ := labelled_closed d2 l2 (hops.keep r.1.solved k2 u2) m2 hall
  refine ⟨c1, c2, fun hs => ?_⟩
  have hall' : postAllF ord (State.empty n) (as ++ labelAtoms ls) = .ok st' := by
    rw [postAllF_append', h1]; exact h2
  refine fd_closed ho n (as ++ labelAtoms ls) (fun a ha => ?_) st' hall' hs c1
  rcases List.mem_append.1 ha with ha | ha
  · exact hok a ha
  · simp only [labelAtoms, List.mem_map] at ha
    obtain ⟨p, _, rfl⟩ := ha
    trivial

end Top
end Pv
