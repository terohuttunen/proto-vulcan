/-
  The domain store stays tight (strict mode, finite-domain constraints without CLP(Z) on the same variables):
    * `stale`: propagation never leaves the domain of a variable it binds in the store (a "stale" entry: a bound
      variable that still has a domain) — `resolve_storable_domain` removes the entry when it binds, and
      `process_extension_fd` removes the entries of the variables a unification bound;
    * `mono`:  `run_constraints` creates no entry for a variable that had none;
    * `sub`:   `run_constraints` stores no propagator that was not stored before (constraints only re-add themselves;
               re-run tree disequalities may be replaced by new ones).
  Same skeleton as Proofs/Live.lean.  Consequences: in every state reached by posting atoms from the empty state every
  key of the domain store is an unbound variable ("bound variables must not keep a domain"), and labelling steps
  (`k == x`) create no keys and no propagators.
-/
import PvModel.Proofs.Live
namespace Pv
open State Term FD
attribute [local instance] Mode.strict

/-- no CLP(Z) constraint is stored (`plusz`/`timesz` bind their operand without looking at the domain store) -/
def NoZ (st : State) : Prop := ∀ p ∈ st.store, p.2.isZ = false

/-- no new stale entry -/
def Stale (st st' : State) : Prop :=
  ∀ y, (st'.dget y).isSome → st'.σ y ≠ .var y → (st.dget y).isSome ∧ st.σ y ≠ .var y
/-- no new propagator except the allowed ones -/
def SubS (A : Cst → Prop) (st st' : State) : Prop :=
  ∀ p ∈ st'.store, p.2.isDiseq = false → (∃ q ∈ st.store, q.2 = p.2) ∨ A p.2
/-- no new key -/
def KeysMono (st st' : State) : Prop := ∀ y, (st'.dget y).isSome → (st.dget y).isSome
/-- bindings are never undone -/
def BM (st st' : State) : Prop := ∀ y, st'.σ y = .var y → st.σ y = .var y

theorem Stale.refl (a : State) : Stale a a := fun _ p q => ⟨p, q⟩
theorem SubS.refl (A : Cst → Prop) (a : State) : SubS A a a := fun p hp _ => .inl ⟨p, hp, rfl⟩
theorem KeysMono.refl (a : State) : KeysMono a a := fun _ h => h

theorem Stale.trans {a b c : State} (h1 : Stale a b) (h2 : Stale b c) : Stale a c := fun y p q => by
  obtain ⟨p1, q1⟩ := h2 y p q; exact h1 y p1 q1
theorem SubS.trans {A : Cst → Prop} {a b c : State} (h1 : SubS A a b) (h2 : SubS A b c) : SubS A a c := fun p hp hd => by
  rcases h2 p hp hd with ⟨q, hq, e⟩ | a
  · have hqd : q.2.isDiseq = false := by rw [e]; exact hd
    rcases h1 q hq hqd with ⟨q', hq', e'⟩ | a
    · exact .inl ⟨q', hq', e'.trans e⟩
    · exact .inr (by rw [← e]; exact a)
  · exact .inr a
theorem SubS.weaken {A B : Cst → Prop} {a b : State} (h : SubS A a b) (hab : ∀ c, A c → B c) : SubS B a b :=
  fun p hp hd => (h p hp hd).elim .inl (fun x => .inr (hab _ x))
theorem BM.trans {a b c : State} (h1 : BM a b) (h2 : BM b c) : BM a c := fun y h => h1 y (h2 y h)
theorem KeysMono.trans {a b c : State} (h1 : KeysMono a b) (h2 : KeysMono b c) : KeysMono a c := fun y h => h1 y (h2 y h)

theorem NoZ.keepS {A : Cst → Prop} {st st' : State} (h : NoZ st) (t : SubS A st st') (ha : ∀ c, A c → c.isZ = false) :
    NoZ st' := by
  intro p hp
  cases hd : p.2.isDiseq with
  | true => exact Cst.isZ_of_isDiseq hd
  | false =>
    rcases t p hp hd with ⟨q, hq, e⟩ | a
    · rw [← e]; exact h q hq
    · exact ha _ a

structure Tight (A : Cst → Prop) (st st' : State) : Prop where
  stale : ∀ y, (st'.dget y).isSome → st'.σ y ≠ .var y → (st.dget y).isSome ∧ st.σ y ≠ .var y
  mono : ∀ y, (st'.dget y).isSome → (st.dget y).isSome
  sub : ∀ p ∈ st'.store, p.2.isDiseq = false → (∃ q ∈ st.store, q.2 = p.2) ∨ A p.2

theorem Tight.refl (A : Cst → Prop) (st : State) : Tight A st st := ⟨Stale.refl st, KeysMono.refl st, SubS.refl A st⟩

theorem Tight.trans {A : Cst → Prop} {st s1 s2 : State} (h1 : Tight A st s1) (h2 : Tight A s1 s2) : Tight A st s2 :=
  ⟨Stale.trans h1.stale h2.stale, KeysMono.trans h1.mono h2.mono, SubS.trans h1.sub h2.sub⟩

theorem Tight.weaken {A B : Cst → Prop} {st st' : State} (h : Tight A st st') (hab : ∀ c, A c → B c) : Tight B st st' :=
  ⟨h.stale, h.mono, SubS.weaken h.sub hab⟩

theorem Tight.same {A : Cst → Prop} {st st' : State} (hσ : st'.σ = st.σ) (hd : st'.dstore = st.dstore)
    (hs : SubS A st st') : Tight A st st' := by
  have hg : ∀ y, st'.dget y = st.dget y := fun y => by unfold State.dget; rw [hd]
  exact ⟨fun y a b => ⟨by rw [← hg]; exact a, by rw [← hσ]; exact b⟩, fun y a => by rw [← hg]; exact a, hs⟩

theorem NoZ.keep {A : Cst → Prop} {st st' : State} (h : NoZ st) (t : Tight A st st') (ha : ∀ c, A c → c.isZ = false) :
    NoZ st' := h.keepS t.sub ha

theorem dget_dremove_self (st : State) (x : Nat) : (st.dremove x).dget x = none := by
  simp [State.dremove, State.dget]

theorem keysMono_dremove (st : State) (x : Nat) : KeysMono st (st.dremove x) := fun y a => by
  by_cases hyx : y = x
  · subst hyx; rw [dget_dremove_self] at a; cases a
  · rw [dget_dremove_ne _ hyx] at a; exact a

theorem stale_dremove (st : State) (x : Nat) : Stale st (st.dremove x) :=
  fun y a b => ⟨keysMono_dremove st x y a, b⟩

theorem stale_bind_dremove (st : State) (x : Nat) (t : Term) : Stale st ({ st with σ := bindS x t st.σ }.dremove x) :=
  fun y a b => by
    by_cases hyx : y = x
    · subst hyx; rw [dget_dremove_self] at a; cases a
    · rw [dget_dremove_ne _ hyx] at a
      refine ⟨a, fun hy => b ?_⟩
      show apply (sub1 x t) (st.σ y) = .var y
      rw [hy]; simp [apply, sub1, hyx]

def RcTight (rc : State → Res State) : Prop :=
  ∀ st st', WFS st → Inv st → NoZ st → rc st = .ok st' → Tight (fun _ => False) st st'

section WithRC
variable {rc : State → Res State} (hrt : RcTight rc)
include hrt

theorem processDomain_loose {A : Cst → Prop} {st st' : State} {x : Term} {d : FD} (w : WFS st) (hi : Inv st) (hz : NoZ st)
    (h : processDomain rc st x d = .ok st') :
    Stale st st' ∧ SubS A st st' ∧ ((∀ y, walk st.σ x = .var y → (st.dget y).isSome) → KeysMono st st') := by
  rcases processDomain_ok h with ⟨_, _, _, rfl⟩ | ⟨y, i, hy, _, ⟨_, rfl⟩ | ⟨n, _, hr⟩⟩
  · exact ⟨Stale.refl _, SubS.refl _ _, fun _ => KeysMono.refl _⟩
  · refine ⟨fun z a b => ?_, SubS.refl A st, fun hk z a => ?_⟩
    · by_cases hzy : z = y
      · subst hzy; exact absurd (walk_normal w.solved x z hy) b
      · rw [dget_dinsert_ne _ _ hzy] at a; exact ⟨a, b⟩
    · by_cases hzy : z = y
      · subst hzy; exact hk z hy
      · rw [dget_dinsert_ne _ _ hzy] at a; exact a
  · obtain ⟨_, _, w0, i0⟩ := bindNum_ok w hi (walk_normal w.solved x y hy) n
    have t := (hrt _ _ w0 i0 hz hr).weaken (B := A) (fun _ f => f.elim)
    exact ⟨(stale_bind_dremove st y _).trans t.stale, t.sub, fun _ => (keysMono_dremove st y).trans t.mono⟩

theorem processDomain_tight {A : Cst → Prop} {st st' : State} {x : Term} {d : FD} (w : WFS st) (hi : Inv st) (hz : NoZ st)
    (hdv : ∀ y, walk st.σ x = .var y → (st.dget y).isSome) (h : processDomain rc st x d = .ok st') : Tight A st st' :=
  have r := processDomain_loose (A := A) hrt w hi hz h
  ⟨r.1, r.2.2 hdv, r.2.1⟩

end WithRC

theorem with_tight (ord : Order) {st : State} {i : Nat} {c : Cst} (hd : c.isDiseq = false) :
    Tight (· = c) st (st.withConstraint ord i c) := by
  rw [withConstraint_other ord st i hd]
  refine Tight.same rfl rfl fun p hp _ => ?_
  rcases List.mem_append.1 hp with hp | hp
  · exact .inl ⟨p, (List.mem_filter.1 hp).1, rfl⟩
  · simp only [List.mem_singleton] at hp; subst hp; exact .inr rfl

theorem with_tight_diseq (ord : Order) (A : Cst → Prop) {st : State} {i : Nat} {ps : Ext1} :
    Tight A st (st.withConstraint ord i (.diseq ps)) := by
  rw [withConstraint_diseq_eq]
  split
  · exact Tight.refl _ _
  · generalize hL : (ord.cs st.store).filter (subOf ord ps) = L
    obtain ⟨t1, t2, _, t4, _⟩ := takes_fields L st
    refine Tight.same t1 t2 fun p hp hpd => ?_
    simp only at hp
    rcases List.mem_append.1 hp with hp | hp
    · exact .inl ⟨p, t4.subset hp, rfl⟩
    · simp only [List.mem_singleton] at hp; subst hp; cases hpd

theorem withNew_tight_diseq (ord : Order) (A : Cst → Prop) {st : State} {ps : Ext1} :
    Tight A st (st.withNewConstraint ord (.diseq ps)) := by
  unfold State.withNewConstraint
  have := with_tight_diseq ord A (st := { st with nextId := st.nextId + 1 }) (i := st.nextId) (ps := ps)
  exact ⟨this.stale, this.mono, this.sub⟩

theorem runDiseq_tight (ord : Order) (A : Cst → Prop) {st st' : State} {ps : Ext1}
    (e : runDiseq ord st ps = .ok st') : Tight A st st' := by
  rcases runDiseq_ok e with rfl | ⟨e, rfl⟩
  · exact Tight.refl _ _
  · exact withNew_tight_diseq ord A

def SelfTight (self : Nat → Cst → State → Res State) : Prop :=
  ∀ i c st st', WFS st → Fr i st → c.isDistinct = false → c.isZ = false → NoZ st →
    self i c st = .ok st' → Tight (· = c) st st'

theorem selfTight_fuel : SelfTight (fun _ _ _ => .fuel) := fun _ _ _ _ _ _ _ _ _ h => by cases h

section WithRC
variable {rc : State → Res State} (hrc : RcOK rc) (hrs : RcSem rc) (hrl : RcLive rc) (hrt : RcTight rc) (ord : Order)
include hrc hrs hrl hrt

theorem processDomain_allT {st st' : State} {x : Term} {d : FD} {i : Nat} (w : WFS st) (f : Fr i st) (hz : NoZ st)
    (hd : WFI d) (hdv : ∀ y, walk st.σ x = .var y → (st.dget y).isSome)
    (h : processDomain rc st x d = .ok st') :
    WFS st' ∧ Fr i st' ∧ Keeps st st' ∧ NoZ st' ∧ ∀ A : Cst → Prop, Tight A st st' := by
  obtain ⟨w1, f1, k1, _⟩ := processDomain_all hrc hrs hrl w f hd (.inr hdv) h
  have t := fun A : Cst → Prop => processDomain_tight (A := A) hrt w f.inv hz hdv h
  exact ⟨w1, f1, k1, hz.keep (t fun _ => False) (fun _ f => f.elim), t⟩

omit hrc hrs hrl hrt in
theorem tail_tight {self : Nat → Cst → State → Res State} (hst : SelfTight self) {i : Nat} {c : Cst}
    {s s' : State} {ws : List Term} (w : WFS s) (f : Fr i s) (hd : c.isDiseq = false) (hnd : c.isDistinct = false)
    (hcz : c.isZ = false) (hz : NoZ s)
    (h : (if operandBound s ws then self i c s else .ok (s.withConstraint ord i c)) = .ok s') : Tight (· = c) s s' := by
  split at h
  · exact hst i c s s' w f hnd hcz hz h
  · cases h; exact with_tight ord hd

theorem narrow3_tight {self : Nat → Cst → State → Res State} (hst : SelfTight self) {i : Nat} {c : Cst}
    {u v w : Term} {wi ui vi : FD} {st st' : State} (ws : WFS st) (f : Fr i st) (hd : c.isDiseq = false)
    (hnd : c.isDistinct = false) (hcz : c.isZ = false) (hz : NoZ st) (hwi : WFI wi) (hui : WFI ui) (hvi : WFI vi)
    (hu : HasDomIf st (walk st.σ u)) (hv : HasDomIf st (walk st.σ v)) (hw : HasDomIf st (walk st.σ w))
    (h : narrow3 rc ord self i c (walk st.σ u) (walk st.σ v) (walk st.σ w) wi ui vi st = .ok st') :
    Tight (· = c) st st' := by
  unfold narrow3 at h
  obtain ⟨s1, e1, h⟩ := Res.bind_ok h
  obtain ⟨s2, e2, h⟩ := Res.bind_ok h
  obtain ⟨s3, e3, h⟩ := Res.bind_ok h
  obtain ⟨w1, f1, k1, z1, t1⟩ := processDomain_allT hrc hrs hrl hrt ws f hz hwi hw.dom e1
  obtain ⟨w2, f2, k2, z2, t2⟩ := processDomain_allT hrc hrs hrl hrt w1 f1 z1 hui (hu.keep k1) e2
  obtain ⟨w3, f3, k3, z3, t3⟩ := processDomain_allT hrc hrs hrl hrt w2 f2 z2 hvi (hv.keep (k1.trans k2)) e3
  exact (((t1 _).trans (t2 _)).trans (t3 _)).trans (tail_tight ord hst w3 f3 hd hnd hcz z3 h)

theorem ran3_tight {self : Nat → Cst → State → Res State} (hst : SelfTight self) {i : Nat} {c : Cst}
    {u v w : Term} {st st' : State} (ws : WFS st) (f : Fr i st) (hd : c.isDiseq = false) (hnd : c.isDistinct = false)
    (hcz : c.isZ = false) (hz : NoZ st) (r : Ran3 rc ord self i c u v w st st') : Tight (· = c) st st' := by
  match r with
  | .ground (e := e) .. => subst e; exact Tight.refl _ _
  | .readd (e := e) .. => subst e; exact with_tight ord hd
  | .narrow (hu := hud) (hv := hvd) (hw := hwd) (h := h) .. =>
    exact narrow3_tight hrc hrs hrl hrt ord hst ws f hd hnd hcz hz (interval_wfi _ _) (interval_wfi _ _) (interval_wfi _ _)
      (hasDomIf_walk ws u hud) (hasDomIf_walk ws v hvd) (hasDomIf_walk ws w hwd) h

theorem ranLte_tight {self : Nat → Cst → State → Res State} (hst : SelfTight self) {i : Nat}
    {u v : Term} {st st' : State} (ws : WFS st) (f : Fr i st) (hz : NoZ st)
    (r : RanLte rc ord self i u v st st') : Tight (· = .ltefd u v) st st' := by
  have hdi : ∀ {t : Term} {x : Nat} {d : FD}, walk st.σ t = .var x → st.dget x = some d → HasDomIf st (walk st.σ t) :=
    fun {t x d} ht hd => hasDomIf_walk ws t (d := d) (by rw [ht]; exact hd)
  cases r with
  | both x y udom vdom ud' vd' _ _ s1 s2 hux hxd hvy hyd hcb e1 hdb e2 h =>
    have hud' := (copyBefore_spec udom (ws.dwf _ (dget_mem hxd)) _).1 ud' hcb
    have hvd' := (dropBefore_spec vdom (ws.dwf _ (dget_mem hyd)) _).1 vd' hdb
    obtain ⟨w1, f1, k1, z1, t1⟩ := processDomain_allT hrc hrs hrl hrt ws f hz (WFI.of_wf hud'.1) (hdi hux hxd).dom e1
    obtain ⟨w2, f2, k2, z2, t2⟩ := processDomain_allT hrc hrs hrl hrt w1 f1 z1 (WFI.of_wf hvd'.1) ((hdi hvy hyd).keep k1) e2
    exact ((t1 _).trans (t2 _)).trans (tail_tight ord hst w2 f2 rfl rfl rfl z2 h)
  | left x udom ud' _ hux hxd hcb h =>
    have hud' := (copyBefore_spec udom (ws.dwf _ (dget_mem hxd)) _).1 ud' hcb
    exact (processDomain_allT hrc hrs hrl hrt ws f hz (WFI.of_wf hud'.1) (hdi hux hxd).dom h).2.2.2.2 _
  | right y vdom vd' _ hvy hyd hdb h =>
    have hvd' := (dropBefore_spec vdom (ws.dwf _ (dget_mem hyd)) _).1 vd' hdb
    exact (processDomain_allT hrc hrs hrl hrt ws f hz (WFI.of_wf hvd'.1) (hdi hvy hyd).dom h).2.2.2.2 _
  | ground e => subst e; exact Tight.refl _ _
  | readd _ e => subst e; exact with_tight ord rfl

end WithRC

section WithRC
variable {rc : State → Res State} (hrc : RcOK rc) (hrs : RcSem rc) (hrl : RcLive rc) (hrt : RcTight rc) (ord : Order)
include hrc hrs hrl hrt

omit hrc hrs hrl in
theorem ranDiseqFd_tight {i : Nat} {u v : Term} {st st' : State} (ws : WFS st) (f : Fr i st) (hz : NoZ st)
    (r : RanDiseqFd rc ord i u v st st') : Tight (· = .diseqfd u v) st st' := by
  have t1 := with_tight ord (st := st) (i := i) (c := .diseqfd u v) rfl
  cases r with
  | same e => subst e; exact Tight.refl _ _
  | readd _ e => subst e; exact t1
  | narrow _ t _ _ ht h =>
    have w1 : WFS (st.withConstraint ord i (.diseqfd u v)) :=
      (with_sem (I := fun _ => False) ord ws f (c := .diseqfd u v) rfl rfl).1
    have i1 : Inv (st.withConstraint ord i (.diseqfd u v)) :=
      (f.readd ord _).inv
    have z1 : NoZ (st.withConstraint ord i (.diseqfd u v)) := hz.keep t1 (fun c hc => by rw [hc]; rfl)
    -- storing the constraint touches neither the substitution nor the domain store
    have d1 : HasDomIf (st.withConstraint ord i (.diseqfd u v)) (walk st.σ t) := hasDomIf_walk ws t ht
    exact t1.trans (processDomain_tight hrt w1 i1 z1 d1.dom h)

theorem runCstBody_tight {self : Nat → Cst → State → Res State} (hst : SelfTight self) {i : Nat}
    {c : Cst} {st st' : State} (ws : WFS st) (f : Fr i st) (hnd : c.isDistinct = false) (hcz : c.isZ = false)
    (hz : NoZ st) (h : runCstBody rc ord self i c st = .ok st') : Tight (· = c) st st' := by
  cases c with
  | diseq ps => exact runDiseq_tight ord _ h
  | plusz u v w => cases hcz
  | timesz u v w => cases hcz
  | ltefd u v => exact ranLte_tight hrc hrs hrl hrt ord hst ws f hz (runLteFd_ok h)
  | plusfd u v w => exact ran3_tight hrc hrs hrl hrt ord hst ws f rfl rfl rfl hz (runPlusFd_ok h)
  | minusfd u v w => exact ran3_tight hrc hrs hrl hrt ord hst ws f rfl rfl rfl hz (runMinusFd_ok h)
  | timesfd u v w => exact ran3_tight hrc hrs hrl hrt ord hst ws f rfl rfl rfl hz (runTimesFd_ok h)
  | diseqfd u v => exact ranDiseqFd_tight hrt ord ws f hz (runDiseqFd_ok h)
  | distinctfd u => cases hnd
  | distinctfd2 u y n => cases hnd

theorem runCst_selfTight : ∀ k, SelfTight (runCst rc ord k)
  | 0 => fun _ _ _ _ w f hnd hcz hz h => runCstBody_tight hrc hrs hrl hrt ord selfTight_fuel w f hnd hcz hz h
  | k + 1 => fun _ _ _ _ w f hnd hcz hz h => runCstBody_tight hrc hrs hrl hrt ord (runCst_selfTight k) w f hnd hcz hz h

end WithRC

section Loop
variable {rc : State → Res State} (hrc : RcOK rc) (hrs : RcSem rc) (hrl : RcLive rc) (hrt : RcTight rc) {ord : Order}
  (ho : OrderOK ord)
include hrc hrs hrl hrt ho

theorem snapshot_tight {st st' : State} {snap : List (Nat × Cst)} (w : WFS st) (hi : Inv st) (hz : NoZ st)
    (h : runSnapshot rc ord st snap = .ok st') : Tight (fun _ => False) st st' := by
  obtain ⟨s0, e0, p⟩ := foldl_bind_ok (fun _ cur => WFS cur ∧ Inv cur ∧ Tight (fun _ => False) st cur) (snapStep rc ord)
    (by
      rintro p _ cur s1 ⟨w, hi, t⟩ hs
      rcases snapStep_ok hrc hrs ho w hi hs with ⟨rfl, _⟩ | ⟨c, st1, hm, hnd, e1, w1, fr, hb, w', i'⟩
      · exact ⟨w, hi, t⟩
      · have z : NoZ cur := hz.keep t (fun _ f => f.elim)
        have z1 : NoZ st1 := by subst e1; exact fun q hq => z q (List.mem_filter.1 hq).1
        have t1 := runCst_selfTight hrc hrs hrl hrt ord 4 _ _ _ _ w1 fr hnd (z _ hm) z1 hb
        refine ⟨w', i', t.trans ?_⟩
        subst e1
        -- the constraint that re-added itself was stored before it was taken out
        exact ⟨t1.stale, t1.mono, fun q hq hqd => (t1.sub q hq hqd).elim
          (fun ⟨q', hq', e'⟩ => .inl ⟨q', (List.mem_filter.1 hq').1, e'⟩) (fun a => .inl ⟨(p.1, c), hm, a.symm⟩)⟩)
    snap (.ok st) st' h
  cases e0
  exact (p ⟨w, hi, Tight.refl _ _⟩).2.2

end Loop

theorem runConstraintsF_tight {ord : Order} (ho : OrderOK ord) : ∀ n, RcTight (runConstraintsF ord n)
  | 0 => fun _ _ _ _ _ h => by cases h
  | n + 1 => fun st st' w hi hz h =>
    snapshot_tight (runConstraintsF_ok ord n) (runConstraintsF_sem ho n) (runConstraintsF_live ho n)
      (runConstraintsF_tight ho n) ho w hi hz h

/-- every key of the domain store is an unbound variable, except the pending ones `R` -/
def DKX (R : Nat → Prop) (st : State) : Prop := ∀ y, (st.dget y).isSome → st.σ y = .var y ∨ R y
abbrev DK (st : State) : Prop := DKX (fun _ => False) st

theorem DKX.keep {R : Nat → Prop} {st st' : State} (h : DKX R st) (t : Stale st st') : DKX R st' := by
  intro y hy
  by_cases hb : st'.σ y = .var y
  · exact .inl hb
  · obtain ⟨a, b⟩ := t y hy hb
    exact (h y a).elim (fun e => absurd e b) .inr

theorem unifyF_newly_bound : ∀ (n : Nat) (σ σ' : Subst) (e e' : Ext1) (u v : Term), Solved σ →
    unifyF n σ e u v = some (some (σ', e')) →
    ∃ δ : Ext1, e' = δ ++ e ∧ ∀ y, σ y = .var y → σ' y ≠ .var y → ∃ p ∈ δ, p.1 = y := by
  intro n σ σ' e e' u v hs h
  obtain ⟨δ, he, hc, rfl, _, _⟩ := unifyF_chain hs h
  exact ⟨δ, he, fun y a b => by
    obtain ⟨p, hp, e⟩ := List.mem_map.1 (hc.bound_iff.1 ⟨a, b⟩)
    exact ⟨p, hp, e⟩⟩

section Top
variable {ord : Order} (ho : OrderOK ord)
include ho

theorem extStep_dk {snap cur s3 : State} (hsn : ∀ x d, snap.dget x = some d → WF d) (w : WFS cur) (hi : Inv cur)
    (hz : NoZ cur) (p : Nat × Term) (h : extStep ord snap cur p = .ok s3) :
    WFS s3 ∧ Inv s3 ∧ NoZ s3 ∧ Stale cur s3 ∧ SubS (fun _ => False) cur s3 ∧ BM cur s3 ∧
      (snap.dget p.1 ≠ none → s3.dget p.1 = none) ∧ ((∀ y, walk cur.σ p.2 ≠ .var y) → KeysMono cur s3) := by
  rcases extStep_ok ho hsn w hi h with ⟨hn, rfl⟩ | ⟨d, s2, _, e2, _, _, k2, w2', i2', h3, w3, i3, k3⟩
  · exact ⟨w, hi, hz, Stale.refl _, SubS.refl _ _, fun _ h => h, fun hne => absurd hn hne, fun _ => KeysMono.refl _⟩
  · obtain ⟨l2, u2, m2⟩ := processDomain_loose (A := fun _ => False) (runConstraintsF_tight ho rcFuel) w hi hz e2
    have z2 : NoZ s2 := hz.keepS u2 (fun _ f => f.elim)
    have t3 := runConstraintsF_tight ho (rcFuel + 1) _ _ w2' i2' z2 h3
    have u3 : SubS (fun _ => False) s2 s3 := t3.sub
    refine ⟨w3, i3, z2.keepS u3 (fun _ f => f.elim), (l2.trans (stale_dremove s2 p.1)).trans t3.stale, u2.trans u3,
      fun y hy => k2.mono y (k3.mono y hy), fun _ => ?_, fun hnv => ?_⟩
    · cases hg : s3.dget p.1 with
      | none => rfl
      | some d3 =>
        have := t3.mono p.1 (by rw [hg]; rfl)
        rw [dget_dremove_self] at this; cases this
    · exact (m2 fun y hy => absurd hy (hnv y)).trans ((keysMono_dremove s2 p.1).trans t3.mono)

theorem extFold_dk (snap : State) (hsn : ∀ x d, snap.dget x = some d → WF d) :
    ∀ (ps : Ext1) (cur s' : State), WFS cur → Inv cur → NoZ cur → (∀ p ∈ ps, cur.σ p.1 ≠ .var p.1) →
      ps.foldl (fun (r : Res State) p => r.bind fun cur => extStep ord snap cur p) (.ok cur) = .ok s' →
      WFS s' ∧ Inv s' ∧ NoZ s' ∧ Stale cur s' ∧ SubS (fun _ => False) cur s' ∧ BM cur s' ∧
        (∀ p ∈ ps, snap.dget p.1 ≠ none → s'.dget p.1 = none) ∧
        ((∀ p ∈ ps, p.2.isVar = false) → KeysMono cur s') := by
  intro ps cur s' w hi hz hb h
  -- the elements still to come belong to `ps`; an entry removed at its own step cannot come back, its variable being bound
  obtain ⟨s0, e0, p⟩ := foldl_bind_ok
    (fun l s => (∀ q ∈ l, q ∈ ps) ∧ WFS s ∧ Inv s ∧ NoZ s ∧ Stale cur s ∧ SubS (fun _ => False) cur s ∧ BM cur s ∧
      (∀ q ∈ ps, q ∈ l ∨ (snap.dget q.1 ≠ none → s.dget q.1 = none)) ∧
      ((∀ q ∈ ps, q.2.isVar = false) → KeysMono cur s))
    (extStep ord snap)
    (by
      rintro a l s s1 ⟨hl, w, hi, hz, l0, u0, b0, d0, m0⟩ hs
      obtain ⟨w3, i3, z3, l3, u3, b3, d3, m3⟩ := extStep_dk ho hsn w hi hz a hs
      refine ⟨fun q hq => hl q (List.mem_cons_of_mem _ hq), w3, i3, z3, l0.trans l3, u0.trans u3, b0.trans b3,
        fun q hq => ?_, fun hnv => (m0 hnv).trans (m3 fun y hy => ?_)⟩
      · rcases d0 q hq with hm | hd
        · rcases List.mem_cons.1 hm with rfl | hm
          · exact .inr d3
          · exact .inl hm
        · refine .inr fun hne => ?_
          cases hg : s1.dget q.1 with
          | none => rfl
          | some dd =>
            have hbq : s1.σ q.1 ≠ .var q.1 := fun e => hb q hq (b0 _ (b3 _ e))
            have := (l3 q.1 (by rw [hg]; rfl) hbq).1
            rw [hd hne] at this; cases this
      · have := hnv a (hl a List.mem_cons_self)
        cases hp2 : a.2 with
        | var z => rw [hp2] at this; cases this
        | _ => rw [hp2] at hy; simp [walk] at hy) ps _ s' h
  cases e0
  obtain ⟨_, w', i', z', l', u', b', d', m'⟩ := p ⟨fun _ hq => hq, w, hi, hz, Stale.refl _, SubS.refl _ _, fun _ h => h,
    fun q hq => .inl hq, fun _ => KeysMono.refl _⟩
  exact ⟨w', i', z', l', u', b', fun q hq => (d' q hq).resolve_left (List.not_mem_nil), m'⟩

end Top

/-- the atom posts no CLP(Z) constraint -/
def FAtom.NoZ : FAtom → Prop
  | .cst c => c.isZ = false
  | _ => True

section Top
variable {ord : Order} (ho : OrderOK ord)
include ho

/-- `==`: afterwards no bound variable keeps a domain — `process_extension_fd` has removed the entries of the variables the
    unification bound, propagation those of the variables it bound — and no propagator is new; when the extension binds
    variables to non-variable terms (labelling: `k == x`) no key is new either -/
theorem unify_dk {st st' : State} (w : WFS st) (hi : Inv st) (hz : NoZ st) (hdk : DK st) {u v : Term}
    (h : unify ord st u v = .ok st') :
    DK st' ∧ NoZ st' ∧ SubS (fun _ => False) st st' ∧
      ((∀ σ' e, unifyF unifyFuel st.σ [] u v = some (some (σ', e)) → ∀ p ∈ e, p.2.isVar = false) → KeysMono st st') := by
  obtain ⟨σ', e, s1, s2, hu, e1, e2, rfl⟩ := unify_ok h
  obtain ⟨s', _, _⟩ := unifyF_sound _ _ _ _ _ _ _ w.solved hu
  obtain ⟨hbnd, _, _⟩ := unifyF_ext_full _ _ _ _ _ _ w.solved hu
  obtain ⟨δ, hδ, hnb⟩ := unifyF_newly_bound _ _ _ _ _ _ _ w.solved hu
  simp only [List.append_nil] at hδ
  subst hδ
  have w0 : WFS { st with σ := σ' } := ⟨s', w.dnodup, w.dwf, w.nodist⟩
  have i0 : Inv { st with σ := σ' } := hi.of_σ σ'
  have z0 : NoZ { st with σ := σ' } := fun p hp => hz p hp
  have t1 := runConstraintsF_tight ho (rcFuel + 1) _ _ w0 i0 z0 e1
  have r1 := runConstraintsF_sem ho (rcFuel + 1) (fun _ => False) _ (fun _ h => h) w0 i0
  rw [e1] at r1
  have i1 := (runConstraintsF_ok ord (rcFuel + 1) _ _ i0 e1).inv
  have z1 : NoZ s1 := z0.keep t1 (fun _ f => f.elim)
  rw [processExtensionFd_eq] at e2
  have hperm := ho.2.1 e
  have hkb : ∀ p ∈ ord.ps e, s1.σ p.1 ≠ .var p.1 := fun p hp e =>
    (hbnd p (hperm.mem_iff.1 hp)).2 (r1.2.1.mono _ e)
  obtain ⟨w2, i2, z2, l2, u2, b2, d2, m2⟩ := extFold_dk ho s1 (fun x d hd => r1.1.dwf _ (dget_mem hd)) (ord.ps e) s1 s2
    r1.1 i1 z1 hkb e2
  refine ⟨fun y hy => ?_, fun p hp => z2 p hp, fun p hp hd => ?_, fun hnv y hy => ?_⟩
  · -- a stale entry would be one of a variable this unification bound; those were removed
    have hy : (s2.dget y).isSome := hy
    show s2.σ y = .var y ∨ False
    by_cases hb : s2.σ y = .var y
    · exact .inl hb
    · exfalso
      obtain ⟨a1, b1⟩ := l2 y hy hb
      obtain ⟨a0, b0⟩ := t1.stale y a1 b1
      have hyu : st.σ y = .var y := (hdk y a0).elim id (fun f => f.elim)
      obtain ⟨p, hp, rfl⟩ := hnb y hyu b0
      have hn : s1.dget p.1 ≠ none := fun e => by rw [e] at a1; cases a1
      have := d2 p (hperm.mem_iff.2 hp) hn
      rw [this] at hy; cases hy
  · rcases u2 p hp hd with ⟨q, hq, e⟩ | f
    · have hqd : q.2.isDiseq = false := by rw [e]; exact hd
      rcases t1.sub q hq hqd with ⟨q', hq', e'⟩ | f
      · exact .inl ⟨q', hq', e'.trans e⟩
      · exact f.elim
    · exact f.elim
  · have hy : (s2.dget y).isSome := hy
    exact t1.mono y (m2 (fun p hp => hnv σ' e hu p (hperm.mem_iff.1 hp)) y hy)

theorem postF_dk {st st' : State} (w : WFS st) (hi : Inv st) (hz : NoZ st) (hdk : DK st) (a : FAtom) (hok : a.OK)
    (hnz : a.NoZ) (h : postF ord st a = .ok st') : DK st' ∧ NoZ st' := by
  cases a with
  | eq u v => exact ⟨(unify_dk ho w hi hz hdk h).1, (unify_dk ho w hi hz hdk h).2.1⟩
  | neq u v =>
    rcases disunify_ok (show disunify ord st u v = .ok st' from h) with rfl | ⟨e, rfl⟩
    · exact ⟨hdk, hz⟩
    · have t := withNew_tight_diseq ord (fun _ => False) (st := st) (ps := e)
      exact ⟨hdk.keep t.stale, hz.keep t (fun _ f => f.elim)⟩
  | cst c =>
    simp only [postF] at h
    unfold postCst at h
    have fr : Fr st.nextId { st with nextId := st.nextId + 1 } := fresh_fr hi
    have w0 : WFS { st with nextId := st.nextId + 1 } := w.same rfl rfl fun p hp => .inl hp
    have hrc := runConstraintsF_ok ord rcFuel
    have hrs := runConstraintsF_sem ho rcFuel
    have hrl := runConstraintsF_live ho rcFuel
    have hrt := runConstraintsF_tight ho rcFuel
    have t := runCst_selfTight hrc hrs hrl hrt ord 4 _ _ _ _ w0 fr (CstOK.strict hok) hnz
      (fun p hp => hz p hp) h
    exact ⟨DKX.keep (st := { st with nextId := st.nextId + 1 }) hdk t.stale,
      NoZ.keep (st := { st with nextId := st.nextId + 1 }) (fun p hp => hz p hp) t (fun c hc => by rw [hc]; exact hnz)⟩
  | dom x d =>
    simp only [postF] at h
    unfold domFd at h
    obtain ⟨l, u, _⟩ := processDomain_loose (A := fun _ => False) (runConstraintsF_tight ho rcFuel) w hi hz h
    exact ⟨hdk.keep l, hz.keepS u (fun _ f => f.elim)⟩

/-- domain-store keys are unbound in every state reached by posting atoms (FD constraints, domains, `==`, `!=`; no
    CLP(Z)) from a state in which they were -/
theorem postAllF_dk : ∀ (as : List FAtom) (st st' : State), WFS st → Inv st → NoZ st → DK st → (∀ a ∈ as, a.OK) →
    (∀ a ∈ as, a.NoZ) → postAllF ord st as = .ok st' → DK st' ∧ NoZ st' :=
  fun as st st' w hi hz hdk hok hnz h =>
    (postAllF_induct (fun s => WFS s ∧ Inv s ∧ DK s ∧ NoZ s) (fun a => a.OK ∧ a.NoZ)
      (fun s s' a ⟨w, hi, hdk, hz⟩ ⟨ha, hn⟩ e => by
        have r := postF_sem ho w hi a ha
        rw [e] at r
        exact ⟨r.1, r.2.1, postF_dk ho w hi hz hdk a ha hn e⟩)
      as st st' ⟨w, hi, hdk, hz⟩ (fun a m => ⟨hok a m, hnz a m⟩) h).2.2

theorem fd_dk (n : Nat) (as : List FAtom) (hok : ∀ a ∈ as, a.OK) (hnz : ∀ a ∈ as, a.NoZ) (st' : State)
    (h : postAllF ord (State.empty n) as = .ok st') : DK st' ∧ NoZ st' :=
  postAllF_dk ho as (State.empty n) st' (wfs_empty n) (inv_empty n) (fun p hp => by simp [State.empty] at hp)
    (fun y hy => by simp [State.empty, State.dget] at hy) hok hnz h

end Top
end Pv
