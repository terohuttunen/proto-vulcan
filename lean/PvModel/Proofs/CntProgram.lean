/-
  The constraint-lifecycle invariant for whole programs: every goal builder of Model/Goals.lean (the atoms
  `==`, `!=`, the CLP(Z)/CLP(FD) constraints, `infd`, the library relations, `first`/`rest`, labelling and
  reification) keeps `Inv`, hence (Proofs/Pres.lean) every state any program built from them ever delivers
  satisfies `withs = takes + |store|`.
-/
import PvModel.Proofs.CntGlobal
import PvModel.Proofs.Pres
import PvModel.Proofs.RelSemG
namespace Pv
open State Goal

theorem forall_mem_pair {α} {p : α → Prop} {a b : α} (ha : p a) (hb : p b) : ∀ x ∈ [a, b], p x :=
  List.forall_mem_cons.2 ⟨ha, List.forall_mem_cons.2 ⟨hb, fun _ h => nomatch h⟩⟩

theorem liftRes_pres {f : State → Res State} (hf : ∀ st st', Inv st → f st = .ok st' → Inv st') :
    PresG (K := Call) Inv (.atom (liftRes f)) := by
  refine .atom fun a b ha h => ?_
  rcases liftRes_cases h with ⟨_, rfl⟩ | ⟨_, hr | ⟨_, rfl⟩ | ⟨s, _, rfl⟩⟩
  · exact ha
  · exact hf _ _ ha hr
  · exact SameStore.inv ⟨rfl, rfl, rfl, rfl, rfl⟩ ha
  · exact SameStore.inv ⟨rfl, rfl, rfl, rfl, rfl⟩ ha

section Atoms
variable (ord : Order)

theorem eqG_pres (u v : Term) : PresG Inv (eqG ord u v) :=
  liftRes_pres fun _ _ hi h => (unify_step ord hi h).inv
theorem diseqG_pres (u v : Term) : PresG Inv (diseqG ord u v) :=
  liftRes_pres fun _ _ hi h => (disunify_step ord hi h).inv
theorem cstG_pres (c : Cst) : PresG Inv (cstG ord c) :=
  liftRes_pres fun _ _ hi h => (postCst_step ord hi h).inv
theorem domG_pres (x : Term) (d : FD) : PresG Inv (domG ord x d) :=
  liftRes_pres fun _ _ hi h => (domFd_step ord hi h).inv

theorem assertG_pres (ok : Bool) (site : String) {g : G} (hg : PresG Inv g) : PresG Inv (assertG ok site g) := by
  unfold assertG
  split
  · exact hg
  · exact liftRes_pres fun _ _ _ h => by cases h

theorem pluszG_pres (u v w : Term) : PresG Inv (pluszG ord u v w) := assertG_pres _ _ (cstG_pres ord _)
theorem timeszG_pres (u v w : Term) : PresG Inv (timeszG ord u v w) := assertG_pres _ _ (cstG_pres ord _)
theorem plusfdG_pres (u v w : Term) : PresG Inv (plusfdG ord u v w) := assertG_pres _ _ (cstG_pres ord _)
theorem minusfdG_pres (u v w : Term) : PresG Inv (minusfdG ord u v w) := assertG_pres _ _ (cstG_pres ord _)
theorem timesfdG_pres (u v w : Term) : PresG Inv (timesfdG ord u v w) := assertG_pres _ _ (cstG_pres ord _)
theorem ltefdG_pres (u v : Term) : PresG Inv (ltefdG ord u v) := assertG_pres _ _ (cstG_pres ord _)
theorem diseqfdG_pres (u v : Term) : PresG Inv (diseqfdG ord u v) := assertG_pres _ _ (cstG_pres ord _)
theorem distinctfdG_pres (u : Term) : PresG Inv (distinctfdG ord u) := assertG_pres _ _ (cstG_pres ord _)
theorem ltfdG_pres (u v : Term) : PresG Inv (ltfdG ord u v) :=
  conjOfList_pres _ (forall_mem_pair (diseqfdG_pres ord u v) (ltefdG_pres ord u v))

theorem infdG_pres (u : Term) (d : FD) : PresG Inv (infdG ord u d) := by
  unfold infdG
  split
  · exact conjOfList_pres _ fun g hg => by
      obtain ⟨v, _, rfl⟩ := List.mem_map.1 hg
      exact domG_pres ord v d
  · exact domG_pres ord u d

theorem consG_pres (a b c : Term) : PresG Inv (consG ord a b c) := eqG_pres ord _ _
theorem emptyG_pres (s : Term) : PresG Inv (emptyG ord s) := eqG_pres ord _ _

theorem nextVar_inv {st : State} (k : Nat) (hi : Inv st) : Inv { st with nextVar := k } :=
  SameStore.inv ⟨rfl, rfl, rfl, rfl, rfl⟩ hi

theorem oneOfList_pres (dfs : Bool) {g : G} (hg : PresG Inv g) :
    PresG Inv (if dfs then Goal.conjDOfList [g] else Goal.conjOfList [g]) := by
  have one : ∀ g' ∈ [g], PresG Inv g' := fun g' h => by rw [List.mem_singleton.1 h]; exact hg
  split
  · exact conjDOfList_pres _ one
  · exact conjOfList_pres _ one

theorem firstG_pres (dfs : Bool) (l f : Term) : PresG Inv (firstG ord dfs l f) :=
  .dyn (fun a ha => nextVar_inv _ ha) fun _ _ => .fresh (oneOfList_pres dfs (consG_pres ord _ _ _))

theorem restG_pres (dfs : Bool) (l r : Term) : PresG Inv (restG ord dfs l r) :=
  .dyn (fun a ha => nextVar_inv _ ha) fun _ _ => .fresh (oneOfList_pres dfs (consG_pres ord _ _ _))

theorem forceAns_pres : ∀ (n : Nat) (x : Term), PresG Inv (forceAns ord n x)
  | 0, _ => liftRes_pres fun _ _ _ h => by cases h
  | n + 1, x => by
    unfold forceAns
    refine .dyn (fun _ ha => ha) fun st _ => ?_
    split
    · exact .succeed
    · split
      · split
        · exact altOfList_pres _ fun g hg => by
            obtain ⟨k, _, rfl⟩ := List.mem_map.1 hg
            exact eqG_pres ord _ _
        · exact .succeed
      · exact conjOfList_pres _ (forall_mem_pair (forceAns_pres n _) (forceAns_pres n _))
      · exact conjOfList_pres _ fun g hg => by
          obtain ⟨a, _, rfl⟩ := List.mem_map.1 hg
          exact forceAns_pres n _
      · exact .succeed

theorem enforceFd_pres (x : Term) : PresG Inv (enforceFd ord x) := by
  unfold enforceFd
  refine conjOfList_pres _ (forall_mem_pair (forceAns_pres ord _ _) (.dyn (fun _ ha => ha) fun st _ => ?_))
  split
  · exact .succeed
  · split
    · exact liftRes_pres fun _ _ _ h => by cases h
    · exact onceo_pres _ fun g hg => by
        rw [List.mem_singleton.1 hg]; exact forceAns_pres ord _ _

theorem withNews_inv : ∀ (cs : List Ext1) (st : State), Inv st →
    Inv (cs.foldl (fun s c => s.withNewConstraint ord (.diseq c)) st)
  | [], _, h => h
  | _ :: cs, st, h => withNews_inv cs _ (withNew_step (i := none) ord st _ h).inv

theorem reifyFinal_pres (x : Term) : PresG Inv (reifyFinal ord x) :=
  liftRes_pres fun st st' hi h => by
    simp only [Res.ok.injEq] at h
    subst h
    exact withNews_inv ord _ _ (SameStore.inv ⟨rfl, rfl, rfl, rfl, rfl⟩ (takesAll_inv st.store st hi))

theorem reifyG_pres (x : Term) : PresG Inv (reifyG ord x) :=
  conjOfList_pres _ (forall_mem_pair (conjOfList_pres _ (forall_mem_pair (enforceFd_pres ord x) .succeed))
    (reifyFinal_pres ord x))

theorem queryG_pres (qv : Term) (qs : List Term) (body : List G) (hb : ∀ g ∈ body, PresG Inv g) :
    PresG Inv (queryG ord qv qs body) :=
  .fresh (conjOfList_pres _ (List.forall_mem_cons.2
    ⟨eqG_pres ord _ _, forall_mem_pair (conjOfList_pres _ hb) (reifyG_pres ord qv)⟩))

theorem relBody_pres (c : Call) (n : Nat) : PresG Inv (relBody ord c n).2 :=
  (relBody_bodyG c n).elim .succeed .fail (fun _ => .conj) (fun _ => .alt) (fun _ => .conjD) (fun _ => .altD) .fresh
    (eqG_pres ord) (diseqG_pres ord) (fun _ _ _ => .call) (fun _ => liftRes_pres fun _ _ _ h => by cases h)

end Atoms

theorem defs_pres (ord : Order) : PresDefs Inv (defs ord) := fun c a ha =>
  ⟨nextVar_inv _ ha, relBody_pres ord c a.nextVar⟩

end Pv
