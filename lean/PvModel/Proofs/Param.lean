/-
  Parametricity of the interleaving engine, for goals built from atoms, conjunction, `conde` and fresh: if two
  goals have the same shape and their atoms take related states to related results (both fail, or both succeed
  with related states), then the engine delivers — step for step — related answers in the same order.
  The atoms may also "escape": produce a state marked bad (the model's FUEL poison).  Bad states pass through
  every later atom unchanged and the fragment has no literal `fail`, so a bad state, once produced, is among the
  answers of that run; the conclusion is then "related position by position, or a bad state is among the answers
  of one of the two runs".
-/
import PvModel.Proofs.StreamAux
namespace Pv
open Strm Goal

section
variable {St K : Type} (R : St → St → Prop) (B : St → Prop)

inductive OptRel : Option St → Option St → Prop
  | none : OptRel none none
  | some {a a'} : R a a' → OptRel (some a) (some a')

/-- related atoms: on related states both fail, or both succeed with related states, or one of them yields a bad state -/
def AtomRel (f f' : St → Option St) : Prop :=
  ∀ a a', R a a' → OptRel R (f a) (f' a') ∨ ∃ p, B p ∧ (f a = some p ∨ f' a' = some p)

/-- bad states pass through the atom unchanged -/
def AtomPass (f : St → Option St) : Prop := ∀ a, B a → f a = some a

/-- same shape, related atoms; no literal `fail` -/
inductive GRel : Goal St K → Goal St K → Prop
  | succeed : GRel .succeed .succeed
  | atom {f f' : St → Option St} : AtomRel R B f f' → AtomPass B f → AtomPass B f' → GRel (.atom f) (.atom f')
  | conj {g1 g2 g1' g2'} : GRel g1 g1' → GRel g2 g2' → GRel (.conj g1 g2) (.conj g1' g2')
  | alt {g1 g2 g1' g2'} : GRel g1 g1' → GRel g2 g2' → GRel (.alt g1 g2) (.alt g1' g2')
  | fresh {g g'} : GRel g g' → GRel (.fresh g) (.fresh g')

/-- the fragment, one side: bad states pass through every atom -/
inductive PG : Goal St K → Prop
  | succeed : PG .succeed
  | atom {f : St → Option St} : AtomPass B f → PG (.atom f)
  | conj {g1 g2} : PG g1 → PG g2 → PG (.conj g1 g2)
  | alt {g1 g2} : PG g1 → PG g2 → PG (.alt g1 g2)
  | fresh {g} : PG g → PG (.fresh g)

mutual
inductive SRel : Strm St K → Strm St K → Prop
  | empty : SRel .empty .empty
  | unit {a a'} : R a a' → SRel (.unit a) (.unit a')
  | cons {a a' l l'} : R a a' → LRel l l' → SRel (.cons a l) (.cons a' l')
  | lazy {l l'} : LRel l l' → SRel (.lazy l) (.lazy l')
inductive LRel : Lz St K → Lz St K → Prop
  | bind {l l' g g'} : LRel l l' → GRel R B g g' → LRel (.bind l g) (.bind l' g')
  | mplus {l1 l2 l1' l2'} : LRel l1 l1' → LRel l2 l2' → LRel (.mplus l1 l2) (.mplus l1' l2')
  | pause {a a' g g'} : R a a' → GRel R B g g' → LRel (.pause a g) (.pause a' g')
  | delay {s s'} : SRel s s' → LRel (.delay s) (.delay s')
end

variable {R B}

theorem GRel.isSucceed {g g' : Goal St K} (h : GRel R B g g') : g.isSucceed = g'.isSucceed := by
  cases h <;> rfl

theorem GRel.isFail {g g' : Goal St K} (h : GRel R B g g') : g.isFail = g'.isFail := by
  cases h <;> rfl

theorem GRel.left {g g' : Goal St K} (h : GRel R B g g') : PG B g := by
  induction h with
  | succeed => exact .succeed
  | atom _ h1 _ => exact .atom h1
  | conj _ _ i1 i2 => exact .conj i1 i2
  | alt _ _ i1 i2 => exact .alt i1 i2
  | fresh _ i => exact .fresh i

theorem GRel.right {g g' : Goal St K} (h : GRel R B g g') : PG B g' := by
  induction h with
  | succeed => exact .succeed
  | atom _ _ h2 => exact .atom h2
  | conj _ _ i1 i2 => exact .conj i1 i2
  | alt _ _ i1 i2 => exact .alt i1 i2
  | fresh _ i => exact .fresh i

theorem PG.notFail {g : Goal St K} (h : PG B g) : g.isFail = false := by
  cases h <;> rfl

theorem mplus_rel {s s' : Strm St K} {l l' : Lz St K} (hs : SRel R B s s') (hl : LRel R B l l') :
    SRel R B (Strm.mplus s l) (Strm.mplus s' l') := by
  cases hs with
  | empty => exact .lazy hl
  | unit ha => exact .cons ha hl
  | cons ha hl1 => exact .cons ha (.mplus hl hl1)
  | lazy hl1 => exact .lazy (.mplus hl hl1)

theorem bind_rel {s s' : Strm St K} {g g' : Goal St K} (hs : SRel R B s s') (hg : GRel R B g g') :
    SRel R B (Strm.bind s g) (Strm.bind s' g') := by
  unfold Strm.bind
  rw [← hg.isSucceed, ← hg.isFail]
  split
  · exact hs
  · split
    · exact .empty
    · cases hs with
      | empty => exact .empty
      | unit ha => exact .lazy (.pause ha hg)
      | cons ha hl => exact .lazy (.mplus (.pause ha hg) (.bind hl hg))
      | lazy hl => exact .lazy (.bind hl hg)

def optStrm : Option St → Strm St K
  | some b => .unit b
  | none => .empty

theorem start_atom (defs : K → St → St × Goal St K) (top : Goal St K → St → Strm St K) (pf : Nat)
    (f : St → Option St) (a : St) : start defs top pf (.atom f) a = optStrm (f a) := by
  simp only [start, optStrm]
  cases f a <;> rfl

section Engine
variable {top top' : Goal St K → St → Strm St K}

/-- a bad state is among the answers of one of the two streams -/
def BadS (top top' : Goal St K → St → Strm St K) (B : St → Prop) (s s' : Strm St K) : Prop :=
  ∃ p, B p ∧ (MemS top p s ∨ MemS top' p s')

def BadL (top top' : Goal St K → St → Strm St K) (B : St → Prop) (l l' : Lz St K) : Prop :=
  ∃ p, B p ∧ (MemL top p l ∨ MemL top' p l')

theorem BadS.imp {s s' t t' : Strm St K} (h : BadS top top' B s s') (f : ∀ p, MemS top p s → MemS top p t)
    (f' : ∀ p, MemS top' p s' → MemS top' p t') : BadS top top' B t t' :=
  let ⟨p, hp, m⟩ := h
  ⟨p, hp, m.imp (f p) (f' p)⟩

variable (hT : TopOK top) (hT' : TopOK top')
  (hpass : ∀ g, PG B g → ∀ p, B p → MemS top p (top g p))
  (hpass' : ∀ g, PG B g → ∀ p, B p → MemS top' p (top' g p))
  (htop : ∀ g g' a a', GRel R B g g' → R a a' → SRel R B (top g a) (top' g' a') ∨ BadS top top' B (top g a) (top' g' a'))
include hT hT' hpass hpass' htop

theorem step_rel : ∀ (l l' : Lz St K), LRel R B l l' →
    SRel R B (step top l) (step top' l') ∨ BadS top top' B (step top l) (step top' l') := by
  intro l l' h
  fun_induction step top l generalizing l' with
  | case1 l1 l2 ih =>
    cases h with | mplus h1 h2 =>
    rcases ih _ h1 with r | b
    · exact .inl (mplus_rel r h2)
    · exact .inr (b.imp (fun _ m => mem_mplus_iff.2 (.inl m)) (fun _ m => mem_mplus_iff.2 (.inl m)))
  | case2 l g ih =>
    cases h with | bind h1 hg =>
    rcases ih _ h1 with r | ⟨p, hp, m⟩
    · exact .inl (bind_rel r hg)
    · exact .inr ⟨p, hp, m.imp (fun m => (mem_bind_iff hT).2 ⟨p, m, hpass _ hg.left p hp⟩)
        (fun m => (mem_bind_iff hT').2 ⟨p, m, hpass' _ hg.right p hp⟩)⟩
  | case3 a g => cases h with | pause ha hg => exact htop _ _ _ _ hg ha
  | case4 => cases h
  | case5 => cases h
  | case6 s => cases h with | delay hs => exact .inl hs

/-- lists related position by position -/
inductive Pointwise (R : St → St → Prop) : List St → List St → Prop
  | nil : Pointwise R [] []
  | cons {a a' l l'} : R a a' → Pointwise R l l' → Pointwise R (a :: l) (a' :: l')

theorem runF_rel : ∀ (n : Nat) (s s' : Strm St K), SRel R B s s' →
    Pointwise R (runF top n s) (runF top' n s') ∨ BadS top top' B s s'
  | 0, _, _, _ => .inl .nil
  | n + 1, _, _, h => by
    cases h with
    | empty => exact .inl .nil
    | unit ha => exact .inl (.cons ha .nil)
    | cons ha hl =>
      exact (runF_rel n _ _ (.lazy hl)).imp (.cons ha)
        (·.imp (fun _ m => .tail (memS_lazy_iff.1 m)) (fun _ m => .tail (memS_lazy_iff.1 m)))
    | @lazy l l' hl =>
      have back : BadS top top' B (step top l) (step top' l') → BadS top top' B (.lazy l) (.lazy l') :=
        (·.imp (fun _ m => .lazy ((step_mem_iff hT).1 m)) (fun _ m => .lazy ((step_mem_iff hT').1 m)))
      rcases step_rel hT hT' hpass hpass' htop _ _ hl with r | b
      · exact (runF_rel n _ _ r).imp id back
      · exact .inr (back b)

end Engine

end

theorem Pointwise.length {St : Type} {R : St → St → Prop} : ∀ {l l' : List St}, Pointwise R l l' → l.length = l'.length
  | _, _, .nil => rfl
  | _, _, .cons _ h => congrArg Nat.succ (Pointwise.length h)

theorem Pointwise.get {St : Type} {R : St → St → Prop} : ∀ {l l' : List St}, Pointwise R l l' →
    ∀ (i : Nat) (h : i < l.length) (h' : i < l'.length), R l[i] l'[i] := by
  intro l l' hp
  induction hp with
  | nil => intro i h; exact absurd h (Nat.not_lt_zero _)
  | cons r _ ih =>
    intro i h h'
    cases i with
    | zero => exact r
    | succ i => exact ih i (Nat.lt_of_succ_lt_succ h) (Nat.lt_of_succ_lt_succ h')

end Pv
