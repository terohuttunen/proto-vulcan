/-
  `append(l, s, ls)` in functional mode: when the start state fixes the length of `l`, the call has at most one answer.
-/
import PvModel.Proofs.RelCount
namespace Pv
open Strm Goal State Term

section
variable {ord : Order}

/-- the first atoms of the two clauses of `append` -/
abbrev appA1 (l s ls : Term) (n : Nat) : TAtom := .eq (ofList [l, s, ls]) (ofList [.nil, .var (n + 0), .var (n + 0)])
abbrev appA2 (l s ls : Term) (n : Nat) : TAtom :=
  .eq (ofList [l, s, ls]) (ofList [.cons (.var (n + 1)) (.var (n + 2)), .var (n + 4), .cons (.var (n + 1)) (.var (n + 3))])

theorem appA1_below {l s ls : Term} {n : Nat} (bl : Below n l) (bs : Below n s) (bls : Below n ls) :
    (appA1 l s ls n).Below (n + 5) :=
  ⟨below3 (bl.mono (Nat.le_add_right _ _)) (bs.mono (Nat.le_add_right _ _)) (bls.mono (Nat.le_add_right _ _)),
   below3 (below_nil _) (below_fresh n) (below_fresh n)⟩

theorem appA2_below {l s ls : Term} {n : Nat} (bl : Below n l) (bs : Below n s) (bls : Below n ls) :
    (appA2 l s ls n).Below (n + 5) :=
  ⟨below3 (bl.mono (Nat.le_add_right _ _)) (bs.mono (Nat.le_add_right _ _)) (bls.mono (Nat.le_add_right _ _)),
   below3 (below_cons (below_fresh n) (below_fresh n)) (below_fresh n)
     (below_cons (below_fresh n) (below_fresh n))⟩

theorem appA1_sat {l s ls : Term} {n : Nat} {γ : Subst} :
    (appA1 l s ls n).Sat γ ↔ (apply γ l = .nil ∧ apply γ s = γ (n + 0) ∧ apply γ ls = γ (n + 0)) := by
  simp only [TAtom.Sat, ofList, apply, Term.cons.injEq, and_true]

theorem appA2_sat {l s ls : Term} {n : Nat} {γ : Subst} :
    (appA2 l s ls n).Sat γ ↔ (apply γ l = .cons (γ (n + 1)) (γ (n + 2)) ∧ apply γ s = γ (n + 4) ∧ apply γ ls = .cons (γ (n + 1)) (γ (n + 3))) := by
  simp only [TAtom.Sat, ofList, apply, Term.cons.injEq, and_true]

/-- a solution of `append(l, s, ls)` with `l = [x | t]`, extended to the fresh variables of clause 2: it satisfies the
    clause's atom, with `v2 = t`, and the recursive call -/
theorem app_ext {l s ls : Term} {a : State} (bl : Below a.nextVar l) (bs : Below a.nextVar s) (bls : Below a.nextVar ls) (hi : RInv a)
    {γ : Subst} (hγ : StateSem γ a) {x t : Term} (el : apply γ l = .cons x t)
    (happ : AppT (apply γ l) (apply γ s) (apply γ ls)) :
    ∃ γ1, Agree a.nextVar γ γ1 ∧ StateSem γ1 a ∧ (appA2 l s ls a.nextVar).Sat γ1 ∧
      γ1 (a.nextVar + 2) = t ∧ AppT (γ1 (a.nextVar + 2)) (γ1 (a.nextVar + 4)) (γ1 (a.nextVar + 3)) := by
  rw [el] at happ
  obtain ⟨r, els, h'⟩ := appT_cons_inv happ
  let γ1 : Subst := setVs γ a.nextVar [(1, x), (2, t), (3, r), (4, apply γ s)]
  have hag : Agree a.nextVar γ γ1 := agree_setVs γ _ _
  have v1 : γ1 (a.nextVar + 1) = x := setVs_lookup γ _ 1 rfl
  have v2 : γ1 (a.nextVar + 2) = t := setVs_lookup γ _ 2 rfl
  have v3 : γ1 (a.nextVar + 3) = r := setVs_lookup γ _ 3 rfl
  have v4 : γ1 (a.nextVar + 4) = apply γ s := setVs_lookup γ _ 4 rfl
  refine ⟨γ1, hag, hi.2 _ _ hag hγ, ?_, v2, by rw [v2, v4, v3]; exact h'⟩
  rw [appA2_sat, ← apply_of_agree bl hag, ← apply_of_agree bs hag, ← apply_of_agree bls hag, el, els, v1, v2, v3, v4]
  exact ⟨rfl, rfl, rfl⟩

theorem app_clause1 (ho : OrderOK ord) {l s ls : Term} {a : State}
    (bl : Below a.nextVar l) (bs : Below a.nextVar s) (bls : Below a.nextVar ls) (ga : Clean a)
    (hnf : ∀ b, BigChain ord [eqG ord (ofList [l, s, ls]) (ofList [.nil, .var (a.nextVar + 0), .var (a.nextVar + 0)])]
      { a with nextVar := a.nextVar + 5 } b → b.panic.isSome = false) :
    ∃ r1, ChainR (defs ord) [eqG ord (ofList [l, s, ls]) (ofList [.nil, .var (a.nextVar + 0), .var (a.nextVar + 0)])]
      { a with nextVar := a.nextVar + 5 } r1 ∧ AtMostOne a (fun γ => apply γ l = .nil ∧ apply γ ls = apply γ s) r1 := by
  obtain ⟨r, C, h⟩ := chain_last ho (appA1 l s ls a.nextVar) (appA1_below bl bs bls) (ga.bump 5) hnf
  refine ⟨r, C, h.transport (Nat.le_add_right _ _) (fun γ hγ hs => ?_) fun γ hγ ⟨el, els⟩ => ?_⟩
  · obtain ⟨a1, a2, a3⟩ := appA1_sat.1 hs
    exact ⟨hγ, a1, a3.trans a2.symm⟩
  · have hag : Agree a.nextVar γ (setV γ (a.nextVar + 0) (apply γ s)) := agree_setV γ _ (Nat.le_refl _)
    refine ⟨_, hag, ga.inv.2 _ _ hag hγ, appA1_sat.2 ?_⟩
    rw [← apply_of_agree bl hag, ← apply_of_agree bs hag, ← apply_of_agree bls hag, setV_self]
    exact ⟨el, rfl, els⟩

/-- `append(l, s, ls)` with a first argument of known length is a function: the reference answer list has at most one
    state; that state describes exactly the valuations of the start state with `ls = l ++ s`; and there is none only
    when no described valuation has `ls = l ++ s` -/
theorem append_count (ho : OrderOK ord) (d : Bool) : ∀ (n : Nat) (l s ls : Term) (a : State),
    Below a.nextVar l → Below a.nextVar s → Below a.nextVar ls → Clean a → ListLen n l a →
    (∀ b, Big (defs ord) (.call ⟨.append, [l, s, ls], d⟩) a b → b.panic.isSome = false) →
    ∃ ys, EvalR (defs ord) (.call ⟨.append, [l, s, ls], d⟩) a ys ∧
      AtMostOne a (fun γ => AppT (apply γ l) (apply γ s) (apply γ ls)) ys := by
  intro n
  induction n with
  | zero =>
    intro l s ls a bl bs bls ga hlen hnf
    -- clause 2 asks for `l` to be a cons
    have un2 : ∀ γ, StateSem γ a → ¬ (appA2 l s ls a.nextVar).Sat γ := fun γ hγ hs => by
      have e := (appA2_sat.1 hs).1
      rw [hlen.nil hγ] at e
      cases e
    obtain ⟨r1, _, E, A1, rfl⟩ := call_two (body_append (ord := ord) l s ls d a.nextVar) hnf (Q2 := (· = []))
      (app_clause1 ho bl bs bls ga) fun nf => ⟨[], chain_nil_of_unsat ho (appA2 l s ls a.nextVar)
        [.call ⟨.append, [.var (a.nextVar + 2), .var (a.nextVar + 4), .var (a.nextVar + 3)], d⟩]
        (appA2_below bl bs bls) (ga.bump 5) (Flows.cons (flow_append _ _ _ d) Flows.nil) nf un2, rfl⟩
    refine ⟨r1 ++ [], E, ?_⟩
    rw [List.append_nil]
    refine A1.transport (Nat.le_refl _) (fun γ hγ ⟨e1, e2⟩ => ⟨hγ, by rw [e1, e2]; exact .nil _⟩) fun γ hγ happ => ?_
    have e1 := hlen.nil hγ
    rw [e1] at happ
    exact ⟨γ, .refl _ _, hγ, e1, appT_nil_inv happ⟩
  | succ n ih =>
    intro l s ls a bl bs bls ga hlen hnf
    -- clause 1 asks for `l` to be empty
    have un1 : ∀ γ, StateSem γ a → ¬ (appA1 l s ls a.nextVar).Sat γ := fun γ hγ hs => by
      obtain ⟨y, ys, _, el⟩ := hlen.cons hγ
      have e := (appA1_sat.1 hs).1
      rw [el] at e
      cases e
    have key := call_two (body_append (ord := ord) l s ls d a.nextVar) hnf (Q1 := (· = []))
      (Q2 := AtMostOne a fun γ => AppT (apply γ l) (apply γ s) (apply γ ls))
      (fun nf => ⟨[], chain_nil_of_unsat ho (appA1 l s ls a.nextVar) [] (appA1_below bl bs bls) (ga.bump 5) Flows.nil nf un1, rfl⟩)
      fun nf2 => ?_
    · obtain ⟨_, ys, E, rfl, H⟩ := key
      exact ⟨ys, E, H⟩
    -- from a solution of the call to a solution of clause 2's atom and of the recursive call
    have up : ∀ γ, StateSem γ a → AppT (apply γ l) (apply γ s) (apply γ ls) →
        ∃ γ1, Agree a.nextVar γ γ1 ∧ StateSem γ1 a ∧ (appA2 l s ls a.nextVar).Sat γ1 ∧
          AppT (γ1 (a.nextVar + 2)) (γ1 (a.nextVar + 4)) (γ1 (a.nextVar + 3)) := by
      intro γ hγ happ
      obtain ⟨x, ts, _, ec⟩ := hlen.cons hγ
      obtain ⟨γ1, hag, h1, hs, _, h'⟩ := app_ext bl bs bls ga.inv hγ ec happ
      exact ⟨γ1, hag, h1, hs, h'⟩
    rcases guard ho (appA2 l s ls a.nextVar) [.call ⟨.append, [.var (a.nextVar + 2), .var (a.nextVar + 4), .var (a.nextVar + 3)], d⟩]
      (appA2_below bl bs bls) (ga.bump 5) (Flows.cons (flow_append _ _ _ d) Flows.nil) nf2 with ⟨nos, C2⟩ | ⟨c, gc, nvc, sem, ch, bg⟩
    · refine ⟨[], C2, AtMostOne.none fun γ hγ happ => ?_⟩
      obtain ⟨γ1, _, h1, hs, _⟩ := up γ hγ happ
      exact nos γ1 h1 hs
    · have nvc' : c.nextVar = a.nextVar + 5 := nvc
      have lenc : ListLen n (.var (a.nextVar + 2)) c := by
        intro γ hγ
        obtain ⟨ha, hs⟩ := (sem γ).1 hγ
        obtain ⟨y, ts, hl, el⟩ := hlen.cons ha
        exact ⟨ts, hl, (ofList_cons_inj (el.symm.trans (appA2_sat.1 hs).1)).2.symm⟩
      obtain ⟨ys, E, H⟩ := ih (.var (a.nextVar + 2)) (.var (a.nextVar + 4)) (.var (a.nextVar + 3)) c
        (nvc' ▸ below_fresh a.nextVar) (nvc' ▸ below_fresh a.nextVar) (nvc' ▸ below_fresh a.nextVar) gc lenc
        fun b h => nf2 b (bg b ⟨b, h, rfl⟩)
      refine ⟨ys, ch ys (chain_one E), AtMostOne.transport H (Nat.le.intro nvc'.symm) (fun γ hγ happ => ?_) fun γ hγ happ => ?_⟩
      · obtain ⟨ha, hs⟩ := (sem γ).1 hγ
        obtain ⟨a1, a2, a3⟩ := appA2_sat.1 hs
        refine ⟨ha, ?_⟩
        rw [a1, a2, a3]
        exact .cons happ
      · obtain ⟨γ1, hag, h1, hs, happ1⟩ := up γ hγ happ
        exact ⟨γ1, hag, (sem γ1).2 ⟨h1, hs⟩, happ1⟩

end
end Pv
