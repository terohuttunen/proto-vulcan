/-
  Liveness of the constraint store: after `run_constraints` (hence after every `==`, and after every
  operation performed on a live state) no stored propagator has all its operands ground — a constraint
  whose operands have all become numbers has been re-run (and so checked and discharged, or refuted).
  This is D11 ("a propagator that binds its own operand is re-checked") as an invariant through the re-entrant
  loop.  Strict mode only (`Mode.strict` below): `distinctfd` is not among the constraints.
-/
import PvModel.Proofs.FDExact
namespace Pv
open State Term FD
attribute [local instance] Mode.strict

/-- some operand of the constraint is not (yet) a number -/
def NotGround (σ : Subst) (c : Cst) : Prop := ∃ t ∈ operandsOf c, (walk σ t).isNum = false

/-- every stored propagator whose identity is not in `R` (the part of a `run_constraints` snapshot that is
    still to be re-run) has an operand that is not a number -/
def LiveX (R : Nat → Prop) (st : State) : Prop :=
  ∀ p ∈ st.store, p.2.isDiseq = false → R p.1 ∨ NotGround st.σ p.2

abbrev Live (st : State) : Prop := LiveX (fun _ => False) st

theorem Live.toX {R : Nat → Prop} {st : State} (h : Live st) : LiveX R st :=
  fun p hp hd => (h p hp hd).elim (fun f => f.elim) .inr

/-- either the nested `run_constraints` has just made everything live, or substitution and store are untouched -/
def LiveOrSame (st st' : State) : Prop := Live st' ∨ (st'.σ = st.σ ∧ st'.store = st.store)

theorem LiveOrSame.refl (st : State) : LiveOrSame st st := .inr ⟨rfl, rfl⟩

theorem LiveOrSame.trans {st s1 s2 : State} (h1 : LiveOrSame st s1) (h2 : LiveOrSame s1 s2) : LiveOrSame st s2 := by
  rcases h2 with a | ⟨a, b⟩
  · exact .inl a
  · rcases h1 with c | ⟨c, d⟩
    · exact .inl fun p hp hd => by rw [b] at hp; rw [a]; exact c p hp hd
    · exact .inr ⟨a.trans c, b.trans d⟩

theorem LiveX.keep {R : Nat → Prop} {st st' : State} (h : LiveX R st) (q : LiveOrSame st st') : LiveX R st' := by
  rcases q with a | ⟨a, b⟩
  · exact a.toX
  · exact fun p hp hd => by rw [b] at hp; rw [a]; exact h p hp hd

/-- the nested `run_constraints` leaves a live state, whatever (well-formed) state it starts from -/
def RcLive (rc : State → Res State) : Prop := ∀ st st', WFS st → Inv st → rc st = .ok st' → Live st'

theorem bindNum_ok {st : State} (w : WFS st) (hi : Inv st) {x : Nat} (hx : st.σ x = .var x) (n : Int) :
    WFS { st with σ := bindS x (Term.num n) st.σ } ∧ Inv { st with σ := bindS x (Term.num n) st.σ } ∧
    WFS ({ st with σ := bindS x (Term.num n) st.σ }.dremove x) ∧
    Inv ({ st with σ := bindS x (Term.num n) st.σ }.dremove x) :=
  ⟨w.bindNum hx n, hi.of_σ _, (w.bindNum hx n).dremove x, (hi.of_σ _).dremove x⟩

section WithRC
variable {rc : State → Res State} (hrl : RcLive rc)
include hrl

theorem processDomain_liveOrSame {st st' : State} {x : Term} {d : FD} (w : WFS st) (hi : Inv st)
    (h : processDomain rc st x d = .ok st') : LiveOrSame st st' := by
  rcases processDomain_ok h with ⟨_, _, _, rfl⟩ | ⟨y, i, hy, _, ⟨_, rfl⟩ | ⟨n, _, hr⟩⟩
  · exact LiveOrSame.refl _
  · exact .inr ⟨rfl, rfl⟩
  · obtain ⟨_, _, w0, i0⟩ := bindNum_ok w hi (walk_normal w.solved x y hy) n
    exact .inl (hrl _ _ w0 i0 hr)

end WithRC

theorem with_live (ord : Order) {R : Nat → Prop} {st : State} {i : Nat} {c : Cst} (h : LiveX R st)
    (hd : c.isDiseq = false) (hn : NotGround st.σ c) : LiveX R (st.withConstraint ord i c) := by
  rw [withConstraint_other ord st i hd]
  intro p hp hpd
  rcases List.mem_append.1 hp with hp | hp
  · exact h p (List.mem_filter.1 hp).1 hpd
  · simp only [List.mem_singleton] at hp; subst hp; exact .inr hn

theorem with_live_diseq (ord : Order) {R : Nat → Prop} {st : State} {i : Nat} {ps : Ext1} (h : LiveX R st) :
    LiveX R (st.withConstraint ord i (.diseq ps)) := by
  rw [withConstraint_diseq_eq]
  split
  · exact h
  · generalize hL : (ord.cs st.store).filter (subOf ord ps) = L
    obtain ⟨t1, _, _, t4, _⟩ := takes_fields L st
    intro p hp hpd
    simp only at hp
    rcases List.mem_append.1 hp with hp | hp
    · have := h p (t4.subset hp) hpd
      simpa only [t1] using this
    · simp only [List.mem_singleton] at hp; subst hp; cases hpd

theorem withNew_live_diseq (ord : Order) {R : Nat → Prop} {st : State} {ps : Ext1} (h : LiveX R st) :
    LiveX R (st.withNewConstraint ord (.diseq ps)) := by
  unfold State.withNewConstraint
  exact with_live_diseq ord (st := { st with nextId := st.nextId + 1 }) h

theorem runDiseq_live (ord : Order) {R : Nat → Prop} {st st' : State} {ps : Ext1} (h : LiveX R st)
    (e : runDiseq ord st ps = .ok st') : LiveX R st' := by
  rcases runDiseq_ok e with rfl | ⟨e, rfl⟩
  · exact h
  · exact withNew_live_diseq ord h

theorem walk_keep_var {st s : State} (k : Keeps st s) {t : Term} {x : Nat} (hw : walk st.σ t = .var x)
    (hx : s.σ x = .var x) : walk s.σ t = .var x := by
  cases t with
  | var y =>
    simp only [walk] at hw ⊢
    have := k.ext (.var y)
    simp only [apply] at this
    rw [hw] at this
    simp only [apply] at this
    rw [← this, hx]
  | _ => simp [walk] at hw

theorem not_operandBound {s : State} {ws : List Term} (h : ¬ operandBound s ws = true) {x : Nat}
    (hm : Term.var x ∈ ws) : s.σ x = .var x := by
  unfold operandBound at h
  rw [List.any_eq_true] at h
  apply Classical.byContradiction
  intro hne
  exact h ⟨.var x, hm, by simpa using hne⟩

theorem opDomain_shape {st : State} {t : Term} {d : FD} (h : opDomain st t = some d) :
    (∃ x, t = .var x) ∨ (∃ n, t = .val (.num n)) := by
  cases t with
  | var x => exact .inl ⟨x, rfl⟩
  | val c =>
    cases c with
    | num n => exact .inr ⟨n, rfl⟩
    | _ => simp [opDomain] at h
  | _ => simp [opDomain] at h

theorem isNum_var (x : Nat) : (Term.var x).isNum = false := rfl

theorem HasDomIf.walk_eq {st : State} {t : Term} (h : HasDomIf st t) : walk st.σ t = t := by
  cases t with
  | var y => simp only [walk]; exact (h y rfl).1
  | _ => rfl

theorem HasDomIf.dom {st : State} {t : Term} (h : HasDomIf st t) : ∀ y, walk st.σ t = .var y → (st.dget y).isSome :=
  fun y hy => by rw [h.walk_eq] at hy; exact (h y hy).2

/-- a re-run one level down keeps liveness -/
def SelfLive (self : Nat → Cst → State → Res State) : Prop :=
  ∀ (R : Nat → Prop) i c st st', WFS st → Fr i st → c.isDistinct = false →
    LiveX R st → self i c st = .ok st' → LiveX R st'

theorem selfLive_fuel : SelfLive (fun _ _ _ => .fuel) := fun _ _ _ _ _ _ _ _ _ h => by cases h

theorem exists_var3 {st : State} {a b c : Term} {da db dc : FD}
    (ha : opDomain st a = some da) (hb : opDomain st b = some db) (hc : opDomain st c = some dc)
    (hnn : ∀ x y z, a = .val (.num x) → b = .val (.num y) → c = .val (.num z) → False) :
    (∃ x, a = .var x) ∨ (∃ x, b = .var x) ∨ (∃ x, c = .var x) := by
  rcases opDomain_shape ha with h1 | ⟨x, h1⟩
  · exact .inl h1
  rcases opDomain_shape hb with h2 | ⟨y, h2⟩
  · exact .inr (.inl h2)
  rcases opDomain_shape hc with h3 | ⟨z, h3⟩
  · exact .inr (.inr h3)
  exact (hnn x y z h1 h2 h3).elim

theorem notGround2 {σ : Subst} {c : Cst} {u v : Term} (hops : operandsOf c = [u, v])
    (h : (walk σ u).isNum = false ∨ (walk σ v).isNum = false) : NotGround σ c := by
  unfold NotGround
  rw [hops]
  exact h.elim (fun a => ⟨u, .head _, a⟩) (fun a => ⟨v, .tail _ (.head _), a⟩)

theorem notGround3_of_nodom {st : State} {a b c : Term}
    (h : ∀ da db dc, opDomain st a = some da → opDomain st b = some db → opDomain st c = some dc → False) :
    a.isNum = false ∨ b.isNum = false ∨ c.isNum = false := by
  cases ha : a.isNum with
  | false => exact .inl rfl
  | true =>
    cases hb : b.isNum with
    | false => exact .inr (.inl rfl)
    | true =>
      cases hc : c.isNum with
      | false => exact .inr (.inr rfl)
      | true =>
        obtain ⟨x, rfl⟩ := isNum_iff.1 ha
        obtain ⟨y, rfl⟩ := isNum_iff.1 hb
        obtain ⟨z, rfl⟩ := isNum_iff.1 hc
        exact (h _ _ _ rfl rfl rfl).elim

section WithRC
variable {rc : State → Res State} (hrc : RcOK rc) (hrs : RcSem rc) (hrl : RcLive rc) (ord : Order)
include hrc hrs hrl

theorem processDomain_all {st st' : State} {x : Term} {d : FD} {i : Nat} (w : WFS st) (f : Fr i st)
    (hd : WFI d) (hdv : WF d ∨ ∀ y, walk st.σ x = .var y → (st.dget y).isSome)
    (h : processDomain rc st x d = .ok st') : WFS st' ∧ Fr i st' ∧ Keeps st st' ∧ LiveOrSame st st' := by
  have r := processDomain_sem (I := fun _ => False) hrs (fun _ h => h) w f.inv (x := x) hd hdv
  rw [h] at r
  exact ⟨r.1, f.step (processDomain_step hrc f.inv h), r.2.1, processDomain_liveOrSame hrl w f.inv h⟩

omit hrc hrs hrl in
/-- re-run or re-add after nested propagation: the constraint is re-added only while one of its operands,
    a variable when the run started, is still unbound -/
theorem tail_live {self : Nat → Cst → State → Res State} (hsl : SelfLive self) {R : Nat → Prop} {i : Nat} {c : Cst}
    {s s' : State} {ws : List Term} (w : WFS s) (f : Fr i s) (hd : c.isDiseq = false) (hnd : c.isDistinct = false)
    (hl : LiveX R s) (hng : ¬ operandBound s ws = true → NotGround s.σ c)
    (h : (if operandBound s ws then self i c s else .ok (s.withConstraint ord i c)) = .ok s') : LiveX R s' := by
  split at h
  · exact hsl R i c s s' w f hnd hl h
  · rename_i hb
    cases h
    exact with_live ord hl hd (hng hb)

theorem narrow3_live {self : Nat → Cst → State → Res State} (hsl : SelfLive self) {R : Nat → Prop} {i : Nat} {c : Cst}
    {u v w : Term} {wi ui vi : FD} {st st' : State} (ws : WFS st) (f : Fr i st) (hd : c.isDiseq = false)
    (hnd : c.isDistinct = false) (hwi : WFI wi) (hui : WFI ui) (hvi : WFI vi)
    (hu : HasDomIf st (walk st.σ u)) (hv : HasDomIf st (walk st.σ v)) (hw : HasDomIf st (walk st.σ w))
    (hl : LiveX R st)
    -- one of the operands is a variable when the run starts
    (hvar : ∃ t ∈ operandsOf c, ∃ x, walk st.σ t = .var x ∧ Term.var x ∈ [walk st.σ u, walk st.σ v, walk st.σ w])
    (h : narrow3 rc ord self i c (walk st.σ u) (walk st.σ v) (walk st.σ w) wi ui vi st = .ok st') :
    LiveX R st' := by
  unfold narrow3 at h
  obtain ⟨s1, e1, h⟩ := Res.bind_ok h
  obtain ⟨s2, e2, h⟩ := Res.bind_ok h
  obtain ⟨s3, e3, h⟩ := Res.bind_ok h
  obtain ⟨w1, f1, k1, q1⟩ := processDomain_all hrc hrs hrl ws f hwi (.inr hw.dom) e1
  obtain ⟨w2, f2, k2, q2⟩ := processDomain_all hrc hrs hrl w1 f1 hui (.inr (hu.keep k1)) e2
  obtain ⟨w3, f3, k3, q3⟩ := processDomain_all hrc hrs hrl w2 f2 hvi (.inr (hv.keep (k1.trans k2))) e3
  have k := (k1.trans k2).trans k3
  refine tail_live ord hsl w3 f3 hd hnd (hl.keep ((q1.trans q2).trans q3)) (fun hb => ?_) h
  obtain ⟨t, ht, x, hx, hm⟩ := hvar
  exact ⟨t, ht, by rw [walk_keep_var k hx (not_operandBound hb hm)]; rfl⟩

theorem ran3_live {self : Nat → Cst → State → Res State} (hsl : SelfLive self) {R : Nat → Prop} {i : Nat} {c : Cst}
    {u v w : Term} {st st' : State} (ws : WFS st) (f : Fr i st) (hd : c.isDiseq = false) (hnd : c.isDistinct = false)
    (hops : operandsOf c = [u, v, w]) (hl : LiveX R st) (r : Ran3 rc ord self i c u v w st st') : LiveX R st' := by
  match r with
  | .ground (e := e) .. => subst e; exact hl
  | .readd hno e =>
    subst e
    refine with_live ord hl hd ?_
    unfold NotGround
    rw [hops]
    rcases notGround3_of_nodom hno with a | a | a
    · exact ⟨u, .head _, a⟩
    · exact ⟨v, .tail _ (.head _), a⟩
    · exact ⟨w, .tail _ (.tail _ (.head _)), a⟩
  | .narrow (hnn := hnn) (hu := hud) (hv := hvd) (hw := hwd) (h := h) .. =>
    refine narrow3_live hrc hrs hrl ord hsl ws f hd hnd (interval_wfi _ _) (interval_wfi _ _) (interval_wfi _ _)
      (hasDomIf_walk ws u hud) (hasDomIf_walk ws v hvd) (hasDomIf_walk ws w hwd) hl ?_ h
    rw [hops]
    rcases exists_var3 hud hvd hwd hnn with ⟨x, hx⟩ | ⟨x, hx⟩ | ⟨x, hx⟩
    · exact ⟨u, .head _, x, hx, hx ▸ .head _⟩
    · exact ⟨v, .tail _ (.head _), x, hx, hx ▸ .tail _ (.head _)⟩
    · exact ⟨w, .tail _ (.tail _ (.head _)), x, hx, hx ▸ .tail _ (.tail _ (.head _))⟩

theorem ranLte_live {self : Nat → Cst → State → Res State} (hsl : SelfLive self) {R : Nat → Prop} {i : Nat}
    {u v : Term} {st st' : State} (ws : WFS st) (f : Fr i st) (hl : LiveX R st)
    (r : RanLte rc ord self i u v st st') : LiveX R st' := by
  cases r with
  | both x y udom vdom ud' vd' _ _ s1 s2 hux hxd hvy hyd hcb e1 hdb e2 h =>
    have hud' := (copyBefore_spec udom (ws.dwf _ (dget_mem hxd)) _).1 ud' hcb
    have hvd' := (dropBefore_spec vdom (ws.dwf _ (dget_mem hyd)) _).1 vd' hdb
    obtain ⟨w1, f1, k1, q1⟩ := processDomain_all hrc hrs hrl ws f (WFI.of_wf hud'.1) (.inl hud'.1) e1
    obtain ⟨w2, f2, k2, q2⟩ := processDomain_all hrc hrs hrl w1 f1 (WFI.of_wf hvd'.1) (.inl hvd'.1) e2
    refine tail_live ord hsl w2 f2 rfl rfl (hl.keep (q1.trans q2)) (fun hb => ?_) h
    exact ⟨u, .head _, by
      rw [walk_keep_var (k1.trans k2) hux (not_operandBound hb (hux ▸ .head _))]; rfl⟩
  | left x udom ud' _ hux hxd hcb h =>
    have hud' := (copyBefore_spec udom (ws.dwf _ (dget_mem hxd)) _).1 ud' hcb
    exact hl.keep (processDomain_all hrc hrs hrl ws f (WFI.of_wf hud'.1) (.inl hud'.1) h).2.2.2
  | right y vdom vd' _ hvy hyd hdb h =>
    have hvd' := (dropBefore_spec vdom (ws.dwf _ (dget_mem hyd)) _).1 vd' hdb
    exact hl.keep (processDomain_all hrc hrs hrl ws f (WFI.of_wf hvd'.1) (.inl hvd'.1) h).2.2.2
  | ground e => subst e; exact hl
  | readd hng e =>
    subst e
    exact with_live ord hl rfl (notGround2 rfl hng)

omit hrc hrs in
theorem ranDiseqFd_live {R : Nat → Prop} {i : Nat} {u v : Term} {st st' : State} (ws : WFS st) (f : Fr i st)
    (hl : LiveX R st) (r : RanDiseqFd rc ord i u v st st') : LiveX R st' := by
  cases r with
  | same e => subst e; exact hl
  | readd hng e => subst e; exact with_live ord hl rfl (notGround2 rfl hng)
  | narrow hng t _ _ _ h =>
    have w1 : WFS (st.withConstraint ord i (.diseqfd u v)) :=
      (with_sem (I := fun _ => False) ord ws f (c := .diseqfd u v) rfl rfl).1
    have i1 : Inv (st.withConstraint ord i (.diseqfd u v)) :=
      (f.readd ord _).inv
    exact (with_live ord (i := i) hl rfl (notGround2 rfl hng)).keep (processDomain_liveOrSame hrl w1 i1 h)

omit hrc hrs in
theorem ranZ_live {R : Nat → Prop} {i : Nat} {c : Cst} {u v w : Term} {st st' : State} (ws : WFS st) (hi : Inv st)
    (hd : c.isDiseq = false) (hops : operandsOf c = [u, v, w]) (hl : LiveX R st)
    (r : RanZ rc ord i c u v w st st') : LiveX R st' := by
  cases r with
  | ground e => subst e; exact hl
  | bound t _ x n hx h =>
    obtain ⟨w0, i0, _, _⟩ := bindNum_ok ws hi (walk_normal ws.solved t x hx) n
    exact (hrl _ _ w0 i0 h).toX
  | readd t ht x hx e =>
    subst e
    exact with_live ord hl hd ⟨t, by rw [hops]; exact ht, by rw [hx]; rfl⟩

theorem runCstBody_live {self : Nat → Cst → State → Res State} (hsl : SelfLive self) {R : Nat → Prop} {i : Nat}
    {c : Cst} {st st' : State} (ws : WFS st) (f : Fr i st) (hnd : c.isDistinct = false) (hl : LiveX R st)
    (h : runCstBody rc ord self i c st = .ok st') : LiveX R st' := by
  cases c with
  | diseq ps => exact runDiseq_live ord hl h
  | plusz u v w => exact ranZ_live hrl ord ws f.inv rfl rfl hl (runPlusZ_ok h)
  | timesz u v w => exact ranZ_live hrl ord ws f.inv rfl rfl hl (runTimesZ_ok h)
  | ltefd u v => exact ranLte_live hrc hrs hrl ord hsl ws f hl (runLteFd_ok h)
  | plusfd u v w => exact ran3_live hrc hrs hrl ord hsl ws f rfl rfl rfl hl (runPlusFd_ok h)
  | minusfd u v w => exact ran3_live hrc hrs hrl ord hsl ws f rfl rfl rfl hl (runMinusFd_ok h)
  | timesfd u v w => exact ran3_live hrc hrs hrl ord hsl ws f rfl rfl rfl hl (runTimesFd_ok h)
  | diseqfd u v => exact ranDiseqFd_live hrl ord ws f hl (runDiseqFd_ok h)
  | distinctfd u => cases hnd
  | distinctfd2 u y n => cases hnd

theorem runCst_selfLive : ∀ k, SelfLive (runCst rc ord k)
  | 0 => fun _ _ _ _ _ w f hnd hl h => runCstBody_live hrc hrs hrl ord selfLive_fuel w f hnd hl h
  | k + 1 => fun _ _ _ _ _ w f hnd hl h => runCstBody_live hrc hrs hrl ord (runCst_selfLive k) w f hnd hl h

end WithRC

section Loop
variable {rc : State → Res State} (hrc : RcOK rc) (hrs : RcSem rc) {ord : Order} (ho : OrderOK ord)
include hrc hrs ho

theorem snapStep_ok {cur s1 : State} {p : Nat × Cst} (w : WFS cur) (hi : Inv cur) (h : snapStep rc ord cur p = .ok s1) :
    (s1 = cur ∧ ∀ q ∈ cur.store, q.1 ≠ p.1) ∨
    ∃ c st1, (p.1, c) ∈ cur.store ∧ c.isDistinct = false ∧
      st1 = { cur with store := cur.store.filter (fun q => q.1 != p.1), takes := cur.takes + 1 } ∧
      WFS st1 ∧ Fr p.1 st1 ∧ runCst rc ord 4 p.1 c st1 = .ok s1 ∧ WFS s1 ∧ Inv s1 := by
  unfold snapStep at h
  split at h
  · rename_i st1 c e
    have fr := take_fr hi e
    obtain ⟨hm, e1⟩ := take_some_ok e
    have w1 : WFS st1 := by subst e1; exact w.same rfl rfl fun q hq => .inl (List.mem_filter.1 hq).1
    have hnd : c.isDistinct = false := CstOK.strict (w.nodist _ hm)
    have body := runCstBody_sem hrc hrs ho (runCst_selfSem hrc hrs ho 3) (I := fun _ => False) (fun _ h => h) w1 fr
      (CstOK.of_not_distinct hnd)
    have h' : runCst rc ord 4 p.1 c st1 = .ok s1 := h
    rw [← runCst_succ, h'] at body
    exact .inr ⟨c, st1, hm, hnd, e1, w1, fr, h', body.1, (runCst_selfOK hrc ord 4 _ _ _ _ fr h').inv⟩
  · rename_i st1 e
    cases h
    exact .inl (take_none_ok e)

theorem snapshot_live (hrl : RcLive rc) {st st' : State} {snap : List (Nat × Cst)} (w : WFS st) (hi : Inv st)
    (hl : LiveX (fun i => i ∈ snap.map (·.1)) st) (h : runSnapshot rc ord st snap = .ok st') : Live st' := by
  obtain ⟨s0, e0, p⟩ := foldl_bind_ok
    (fun l cur => WFS cur ∧ Inv cur ∧ LiveX (fun i => i ∈ l.map (·.1)) cur) (snapStep rc ord)
    (by
      rintro p ps cur s1 ⟨w, hi, hl⟩ hs
      rcases snapStep_ok hrc hrs ho w hi hs with ⟨rfl, hne⟩ | ⟨c, st1, hm, hnd, e1, w1, fr, hb, w', i'⟩
      · refine ⟨w, hi, fun q hq hqd => (hl q hq hqd).imp_left fun m => ?_⟩
        simp only [List.map_cons, List.mem_cons] at m
        exact m.resolve_left (hne q hq)
      · refine ⟨w', i', runCst_selfLive hrc hrs hrl ord 4 _ _ _ _ _ w1 fr hnd ?_ hb⟩
        subst e1
        intro q hq hqd
        obtain ⟨hqc, hqn⟩ := List.mem_filter.1 hq
        refine (hl q hqc hqd).imp_left fun m => ?_
        simp only [List.map_cons, List.mem_cons] at m
        exact m.resolve_left (by simpa using hqn)) snap (.ok st) st' h
  cases e0
  exact fun q hq hd => ((p ⟨w, hi, hl⟩).2.2 q hq hd).elim (fun m => by simp at m) .inr

end Loop

theorem runConstraintsF_live {ord : Order} (ho : OrderOK ord) : ∀ n, RcLive (runConstraintsF ord n)
  | 0 => fun _ _ _ _ h => by cases h
  | n + 1 => fun st st' w hi h => by
    refine snapshot_live (runConstraintsF_ok ord n) (runConstraintsF_sem ho n) ho (runConstraintsF_live ho n) w hi ?_ h
    intro p hp _
    exact .inl (List.mem_map_of_mem (f := (·.1)) ((ho.1 st.store).mem_iff.2 hp))

theorem dremove_ok {s : State} (w : WFS s) (hi : Inv s) (x : Nat) : WFS (s.dremove x) ∧ Inv (s.dremove x) :=
  ⟨w.dremove x, hi.dremove x⟩

section Top
variable {ord : Order} (ho : OrderOK ord)
include ho

theorem extStep_ok {snap cur s3 : State} (hsn : ∀ x d, snap.dget x = some d → WF d) (w : WFS cur) (hi : Inv cur)
    {p : Nat × Term} (h : extStep ord snap cur p = .ok s3) :
    (snap.dget p.1 = none ∧ s3 = cur) ∨
    ∃ d s2, snap.dget p.1 = some d ∧ processDomain (runConstraintsF ord rcFuel) cur p.2 d = .ok s2 ∧
      WFS s2 ∧ Inv s2 ∧ Keeps cur s2 ∧ WFS (s2.dremove p.1) ∧ Inv (s2.dremove p.1) ∧
      runConstraintsF ord (rcFuel + 1) (s2.dremove p.1) = .ok s3 ∧ WFS s3 ∧ Inv s3 ∧ Keeps (s2.dremove p.1) s3 := by
  unfold extStep at h
  split at h
  · rename_i d hd
    have hwd := hsn _ _ hd
    obtain ⟨s2, e2, h⟩ := Res.bind_ok h
    have r := processDomain_sem (I := fun _ => False) (runConstraintsF_sem ho rcFuel) (fun _ h => h) w hi
      (x := p.2) (WFI.of_wf hwd) (.inl hwd)
    rw [e2] at r
    have i2 : Inv s2 := (processDomain_step (runConstraintsF_ok ord rcFuel) hi e2).inv
    split at h
    · obtain ⟨w2', i2'⟩ := dremove_ok r.1 i2 p.1
      have r3 := runConstraintsF_sem ho (rcFuel + 1) (fun _ => False) _ (fun _ h => h) w2' i2'
      rw [h] at r3
      exact .inr ⟨d, s2, hd, e2, r.1, i2, r.2.1, w2', i2', h, r3.1, (runConstraintsF_ok ord (rcFuel + 1) _ _ i2' h).inv,
        r3.2.1⟩
    · cases h
  · rename_i hn; cases h; exact .inl ⟨hn, rfl⟩

theorem extStep_live {snap cur s3 : State} (hsn : ∀ x d, snap.dget x = some d → WF d) (w : WFS cur) (hi : Inv cur)
    (hl : Live cur) (p : Nat × Term) (h : extStep ord snap cur p = .ok s3) : WFS s3 ∧ Inv s3 ∧ Live s3 := by
  rcases extStep_ok ho hsn w hi h with ⟨_, rfl⟩ | ⟨_, _, _, _, _, _, _, w2', i2', h3, w3, i3, _⟩
  · exact ⟨w, hi, hl⟩
  · exact ⟨w3, i3, runConstraintsF_live ho (rcFuel + 1) _ _ w2' i2' h3⟩

theorem extFold_live (snap : State) (hsn : ∀ x d, snap.dget x = some d → WF d) {ps : Ext1} {cur s' : State}
    (w : WFS cur) (hi : Inv cur) (hl : Live cur)
    (h : ps.foldl (fun (r : Res State) p => r.bind fun cur => extStep ord snap cur p) (.ok cur) = .ok s') :
    WFS s' ∧ Inv s' ∧ Live s' := by
  obtain ⟨s0, e0, p⟩ := foldl_bind_ok (fun _ s => WFS s ∧ Inv s ∧ Live s) (extStep ord snap)
    (fun p _ _ _ ⟨w, hi, hl⟩ hs => extStep_live ho hsn w hi hl p hs) ps _ s' h
  cases e0
  exact p ⟨w, hi, hl⟩

theorem unify_live {st st' : State} (w : WFS st) (hi : Inv st) {u v : Term} (h : unify ord st u v = .ok st') :
    Live st' := by
  obtain ⟨σ', e, s1, s2, hu, e1, e2, rfl⟩ := unify_ok h
  obtain ⟨s', _, _⟩ := unifyF_sound _ _ _ _ _ _ _ w.solved hu
  have w0 : WFS { st with σ := σ' } := ⟨s', w.dnodup, w.dwf, w.nodist⟩
  have i0 : Inv { st with σ := σ' } := hi.of_σ σ'
  have l1 := runConstraintsF_live ho (rcFuel + 1) _ _ w0 i0 e1
  have r1 := runConstraintsF_sem ho (rcFuel + 1) (fun _ => False) _ (fun _ h => h) w0 i0
  rw [e1] at r1
  have i1 := (runConstraintsF_ok ord (rcFuel + 1) _ _ i0 e1).inv
  rw [processExtensionFd_eq] at e2
  obtain ⟨_, _, l2⟩ := extFold_live ho s1 (fun x d hd => r1.1.dwf _ (dget_mem hd)) r1.1 i1 l1 e2
  exact fun p hp hd => l2 p hp hd

theorem postF_live {st st' : State} (w : WFS st) (hi : Inv st) (hl : Live st) (a : FAtom) (hok : a.OK)
    (h : postF ord st a = .ok st') : Live st' := by
  cases a with
  | eq u v => exact unify_live ho w hi h
  | neq u v =>
    rcases disunify_ok (show disunify ord st u v = .ok st' from h) with rfl | ⟨e, rfl⟩
    · exact hl
    · exact withNew_live_diseq ord hl
  | cst c =>
    simp only [postF] at h
    unfold postCst at h
    have fr : Fr st.nextId { st with nextId := st.nextId + 1 } := fresh_fr hi
    have w0 : WFS { st with nextId := st.nextId + 1 } := w.same rfl rfl fun p hp => .inl hp
    exact runCst_selfLive (runConstraintsF_ok ord rcFuel) (runConstraintsF_sem ho rcFuel) (runConstraintsF_live ho rcFuel)
      ord 4 _ _ _ _ _ w0 fr (CstOK.strict hok) (fun p hp hd => hl p hp hd) h
  | dom x d =>
    simp only [postF] at h
    unfold domFd at h
    exact hl.keep (processDomain_liveOrSame (runConstraintsF_live ho rcFuel) w hi h)

/-- every state reached by posting atoms from a live state (the empty state is one) is live -/
theorem postAllF_live : ∀ (as : List FAtom) (st st' : State), WFS st → Inv st → Live st → (∀ a ∈ as, a.OK) →
    postAllF ord st as = .ok st' → Live st' :=
  fun as st st' w hi hl hok h =>
    (postAllF_induct (fun s => WFS s ∧ Inv s ∧ Live s) FAtom.OK
      (fun s s' a ⟨w, hi, hl⟩ ha e => by
        have r := postF_sem ho w hi a ha
        rw [e] at r
        exact ⟨r.1, r.2.1, postF_live ho w hi hl a ha e⟩) as st st' ⟨w, hi, hl⟩ hok h).2.2

theorem fd_live (n : Nat) (as : List FAtom) (hok : ∀ a ∈ as, a.OK) (st' : State)
    (h : postAllF ord (State.empty n) as = .ok st') : Live st' :=
  postAllF_live ho as (State.empty n) st' (wfs_empty n) (inv_empty n) (fun p hp => by simp [State.empty] at hp) hok h

end Top

/-- a live state all of whose propagators' operands are ground holds no propagator at all: every constraint
    has been checked and discharged (only disequalities may remain) -/
theorem live_ground_closed {st : State} (hl : Live st)
    (hg : ∀ p ∈ st.store, p.2.isDiseq = false → ∀ t ∈ operandsOf p.2, (walk st.σ t).isNum = true) :
    ∀ p ∈ st.store, p.2.isDiseq = true := by
  intro p hp
  cases hd : p.2.isDiseq with
  | true => rfl
  | false =>
    rcases hl p hp hd with f | ⟨t, ht, hn⟩
    · exact f.elim
    · rw [hg p hp hd t ht] at hn; cases hn

end Pv
