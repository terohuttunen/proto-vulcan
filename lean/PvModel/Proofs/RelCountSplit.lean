/-
  `append(l, s, ls)` in enumerating mode: when the start state fixes the length `n` of the third argument, the call
  yields one answer per split position `i ≤ n` that some described valuation realises (`l` the first `i` elements),
  in increasing order of `i` in the reference (Prolog) order, and the state for position `i` describes exactly the
  valuations of the start state that split `ls` at `i`.  With `l`, `s` fresh this is the familiar "n + 1 answers,
  every split exactly once".
-/
import PvModel.Proofs.RelCountApp
namespace Pv
open Strm Goal State Term

/-- `γ` makes `ls = l ++ s` with `l` a proper list of `i` elements -/
def SplitAt (l s ls : Term) (i : Nat) (γ : Subst) : Prop :=
  AppT (apply γ l) (apply γ s) (apply γ ls) ∧ ∃ xs : List Term, xs.length = i ∧ apply γ l = ofList xs

theorem splitAt_unique {l s ls : Term} {i j : Nat} {γ : Subst} (hi : SplitAt l s ls i γ) (hj : SplitAt l s ls j γ) : i = j := by
  obtain ⟨_, xs, rfl, e1⟩ := hi
  obtain ⟨_, ys, rfl, e2⟩ := hj
  rw [e1] at e2
  rw [ofList_inj e2]

section
variable {ord : Order}

theorem split_clause1 (ho : OrderOK ord) {l s ls : Term} {a : State}
    (bl : Below a.nextVar l) (bs : Below a.nextVar s) (bls : Below a.nextVar ls) (ga : Clean a)
    (hnf : ∀ b, BigChain ord [eqG ord (ofList [l, s, ls]) (ofList [.nil, .var (a.nextVar + 0), .var (a.nextVar + 0)])]
      { a with nextVar := a.nextVar + 5 } b → b.panic.isSome = false) :
    ∃ r1, ChainR (defs ord) [eqG ord (ofList [l, s, ls]) (ofList [.nil, .var (a.nextVar + 0), .var (a.nextVar + 0)])]
      { a with nextVar := a.nextVar + 5 } r1 ∧ AtMostOne a (SplitAt l s ls 0) r1 := by
  obtain ⟨r1, C1, A1⟩ := app_clause1 ho bl bs bls ga hnf
  refine ⟨r1, C1, A1.transport (Nat.le_refl _) (fun γ hγ ⟨e1, e2⟩ => ⟨hγ, by rw [e1, e2]; exact .nil _, [], rfl, e1⟩)
    fun γ hγ ⟨happ, xs, hxs, el⟩ => ?_⟩
  have e1 : apply γ l = .nil := by rw [el, List.eq_nil_of_length_eq_zero hxs]; rfl
  rw [e1] at happ
  exact ⟨γ, .refl _ _, hγ, e1, appT_nil_inv happ⟩

theorem append_split_count (ho : OrderOK ord) (d : Bool) : ∀ (n : Nat) (l s ls : Term) (a : State),
    Below a.nextVar l → Below a.nextVar s → Below a.nextVar ls → a.panic.isSome = false → RInv a → DNF a → ListLen n ls a →
    (∀ b, Big (defs ord) (.call ⟨.append, [l, s, ls], d⟩) a b → b.panic.isSome = false) →
    ∃ (ys : List State) (ps : List Nat), EvalR (defs ord) (.call ⟨.append, [l, s, ls], d⟩) a ys ∧ ps.Pairwise (· < ·) ∧
      (∀ i, i ∈ ps ↔ (i ≤ n ∧ ∃ γ, StateSem γ a ∧ SplitAt l s ls i γ)) ∧
      Zip2 (fun b i => Describes a (SplitAt l s ls i) b) ys ps := by
  intro n
  induction n with
  | zero =>
    intro l s ls a bl bs bls hp hi hd hlen hnf
    have ga : Clean a := ⟨hp, hi, hd⟩
    -- clause 2 asks for `ls` to be a cons
    have un2 : ∀ γ, StateSem γ a → ¬ (appA2 l s ls a.nextVar).Sat γ := fun γ hγ hs => by
      have e := (appA2_sat.1 hs).2.2
      rw [hlen.nil hγ] at e
      cases e
    exact call_counts (B := (· ≤ 0)) (P := SplitAt l s ls) (body_append (ord := ord) l s ls d a.nextVar) hnf (Nat.le_refl 0)
      (split_clause1 ho bl bs bls ga) fun nf => ⟨[], chain_nil_of_unsat ho (appA2 l s ls a.nextVar)
        [.call ⟨.append, [.var (a.nextVar + 2), .var (a.nextVar + 4), .var (a.nextVar + 3)], d⟩]
        (appA2_below bl bs bls) (ga.bump 5) (Flows.cons (flow_append _ _ _ d) Flows.nil) nf un2,
        [], Counts.nil fun k _ hk => absurd hk (Nat.not_succ_le_zero k)⟩
  | succ n ih =>
    intro l s ls a bl bs bls hp hi hd hlen hnf
    have ga : Clean a := ⟨hp, hi, hd⟩
    refine call_counts (B := (· ≤ n + 1)) (P := SplitAt l s ls) (body_append (ord := ord) l s ls d a.nextVar) hnf (Nat.zero_le _)
      (split_clause1 ho bl bs bls ga) fun nf2 => ?_
    -- clause 2, `[l, s, ls] == [[v1 | v2], v4, [v1 | v3]], append(v2, v4, v3)`: a split of the tail `v3` at `k` is a split of
    -- `ls` at `k + 1`
    have up : ∀ k γ, StateSem γ a → SplitAt l s ls (k + 1) γ →
        ∃ γ1, Agree a.nextVar γ γ1 ∧ StateSem γ1 a ∧ (appA2 l s ls a.nextVar).Sat γ1 ∧
          SplitAt (.var (a.nextVar + 2)) (.var (a.nextVar + 4)) (.var (a.nextVar + 3)) k γ1 := by
      intro k γ hγ ⟨happ, xs, hxs, el⟩
      cases xs with
      | nil => cases hxs
      | cons x xs =>
        obtain ⟨γ1, hag, h1, hs, w2, h'⟩ := app_ext bl bs bls hi hγ el happ
        exact ⟨γ1, hag, h1, hs, h', xs, Nat.succ.inj hxs, w2⟩
    rcases guard ho (appA2 l s ls a.nextVar) [.call ⟨.append, [.var (a.nextVar + 2), .var (a.nextVar + 4), .var (a.nextVar + 3)], d⟩]
      (appA2_below bl bs bls) (ga.bump 5) (Flows.cons (flow_append _ _ _ d) Flows.nil) nf2 with ⟨nos, C2⟩ | ⟨c, gc, nvc, sem, ch, bg⟩
    · refine ⟨[], C2, [], Counts.nil fun k γ _ hγ hsp => ?_⟩
      obtain ⟨γ1, _, h1, hs, _⟩ := up k γ hγ hsp
      exact nos γ1 h1 hs
    · have nvc' : c.nextVar = a.nextVar + 5 := nvc
      have lenc : ListLen n (.var (a.nextVar + 3)) c := by
        intro γ hγ
        obtain ⟨ha, hs⟩ := (sem γ).1 hγ
        obtain ⟨y, ts, hl, el⟩ := hlen.cons ha
        exact ⟨ts, hl, (ofList_cons_inj (el.symm.trans (appA2_sat.1 hs).2.2)).2.symm⟩
      obtain ⟨ys, ps, E, H⟩ := ih (.var (a.nextVar + 2)) (.var (a.nextVar + 4)) (.var (a.nextVar + 3)) c
        (nvc' ▸ below_fresh a.nextVar) (nvc' ▸ below_fresh a.nextVar) (nvc' ▸ below_fresh a.nextVar) gc.unp gc.inv gc.dnf lenc
        fun b h => nf2 b (bg b ⟨b, h, rfl⟩)
      refine ⟨ys, ch ys (chain_one E), ps, Counts.transport (B' := (· ≤ n))
        (Q := SplitAt (.var (a.nextVar + 2)) (.var (a.nextVar + 4)) (.var (a.nextVar + 3))) H (Nat.le.intro nvc'.symm)
        (fun k => Nat.succ_le_succ_iff.symm) (fun k γ hγ ⟨happ, xs, hxs, el⟩ => ?_) fun k γ hγ hsp => ?_⟩
      · obtain ⟨ha, hs⟩ := (sem γ).1 hγ
        obtain ⟨a1, a2, a3⟩ := appA2_sat.1 hs
        simp only [apply] at happ el
        refine ⟨ha, by rw [a1, a2, a3]; exact .cons happ, γ (a.nextVar + 1) :: xs, congrArg Nat.succ hxs, ?_⟩
        rw [a1, el]
        rfl
      · obtain ⟨γ1, hag, h1, hs, hsp1⟩ := up k γ hγ hsp
        exact ⟨γ1, hag, (sem γ1).2 ⟨h1, hs⟩, hsp1⟩

end
end Pv
