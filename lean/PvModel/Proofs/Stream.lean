/-
  Main results about the search engine model (Model/Stream.lean) against the reference notions of
  Spec/Stream.lean.  Everything is generic in the state type and in `top` (the solver used for paused
  goals) unless a hypothesis says otherwise.
-/
import PvModel.Proofs.StreamAux
namespace Pv
open Strm Goal

variable {St K : Type}

section Generic
variable (top : Goal St K → St → Strm St K)

theorem step_perm (hT : TopOK top) {l : Lz St K} {xs : List St} (h : AnsL top l xs) :
    ∃ ys, AnsS top (step top l) ys ∧ xs.Perm ys :=
  let ⟨_, hc⟩ := h.toC
  let ⟨_, ys, _, hy, py⟩ := step_cost hT hc
  ⟨ys, hy.ofC, py⟩

/-- no invention: whatever `next` delivers within `n` steps is an answer of the stream -/
theorem runF_sound (hT : TopOK top) (n : Nat) (s : Strm St K) (a : St) (h : a ∈ runF top n s) :
    MemS top a s := by
  fun_induction runF top n s with
  | case1 => cases h
  | case2 => cases h
  | case3 n b => cases List.mem_singleton.1 h; exact .unit _
  | case4 n b l ih =>
    rcases List.mem_cons.1 h with rfl | h
    · exact .head _ _
    · exact .tail (memS_lazy_iff.1 (ih h))
  | case5 n l ih => exact .lazy ((step_mem_iff hT).1 (ih h))

/-- `next` returns an answer of the stream and leaves a stream whose answers are answers of the original -/
theorem nextF_sound (hT : TopOK top) (n : Nat) (s s' : Strm St K) (a : St)
    (h : nextF top n s = some (some (a, s'))) :
    MemS top a s ∧ ∀ b, MemS top b s' → MemS top b s := by
  fun_induction nextF top n s with
  | case1 => cases h
  | case2 => cases h; exact ⟨.unit _, fun b hb => absurd hb memS_empty⟩
  | case3 => cases h; exact ⟨.head _ _, fun b hb => .tail (memS_lazy_iff.1 hb)⟩
  | case4 => cases h
  | case5 n l ih =>
    obtain ⟨h1, h2⟩ := ih h
    exact ⟨.lazy ((step_mem_iff hT).1 h1), fun b hb => .lazy ((step_mem_iff hT).1 (h2 b hb))⟩

set_option linter.unusedVariables false in
/-- fused: `next` on the empty stream reports exhaustion, whatever the fuel -/
theorem nextF_fused (n : Nat) (s : Strm St K) (h : nextF top n s = some none) :
    ∀ m, nextF top (m + 1) (.empty : Strm St K) = some none := fun _ => rfl

/-- lazy: more fuel never changes an outcome already reached -/
theorem nextF_fuel_mono (n k : Nat) (s : Strm St K) (r) (h : nextF top n s = some r) :
    nextF top (n + k) s = some r := by
  fun_induction nextF top n s with
  | case1 => simpa only [nextF] using h
  | case2 => simpa only [nextF] using h
  | case3 => simpa only [nextF] using h
  | case4 => cases h
  | case5 n l ih => rw [Nat.succ_add]; exact ih h

theorem runF_mono (n k : Nat) (s : Strm St K) : (runF top n s).IsPrefix (runF top (n + k) s) := by
  fun_induction runF top n s with
  | case1 => exact List.nil_prefix
  | case2 => exact List.nil_prefix
  | case3 n b => rw [Nat.succ_add]; exact List.prefix_rfl
  | case4 n b l ih => rw [Nat.succ_add]; exact (List.prefix_cons_inj b).2 ih
  | case5 n l ih => rw [Nat.succ_add]; exact ih

/-- finite search: the whole stream is drained after finitely many steps and the answers delivered
    are a permutation of the reference list (nothing lost, nothing duplicated) -/
theorem drain_perm (hT : TopOK top) {s : Strm St K} {xs : List St} (h : AnsS top s xs) :
    ∃ n ys, drainF top n s = some ys ∧ xs.Perm ys := by
  obtain ⟨c, hc⟩ := h.toC
  obtain ⟨ys, hy, py⟩ := drain_cost hT (c + 1) hc (Nat.lt_succ_self _)
  exact ⟨_, ys, hy, py⟩

theorem drain_run (n : Nat) (s : Strm St K) (ys : List St) (h : drainF top n s = some ys) :
    runF top n s = ys := by
  fun_induction drainF top n s generalizing ys with
  | case1 => cases h
  | case2 => cases h; rfl
  | case3 => cases h; rfl
  | case4 n a l ih =>
    obtain ⟨zs, hz, rfl⟩ := Option.map_eq_some_iff.1 h
    exact congrArg (a :: ·) (ih zs hz)
  | case5 n l ih => exact ih ys h

/-- `peek` only steps: what `next` does after it is what `next` would have done without it -/
theorem peekF_next (n m : Nat) (s s' : Strm St K) (r) (h : peekF top n s = some s')
    (h' : nextF top m s' = some r) : nextF top (n + m) s = some r := by
  fun_induction peekF top n s with
  | case1 => cases h; rw [Nat.add_comm]; exact nextF_fuel_mono top _ _ _ _ h'
  | case2 => cases h; rw [Nat.add_comm]; exact nextF_fuel_mono top _ _ _ _ h'
  | case3 => cases h; rw [Nat.add_comm]; exact nextF_fuel_mono top _ _ _ _ h'
  | case4 => cases h
  | case5 n l ih => rw [Nat.succ_add]; exact ih h

theorem peekF_mature (n : Nat) (s s' : Strm St K) (h : peekF top n s = some s') : s'.isMature = true :=
  (peekF_inv (P := fun _ => True) (fun _ _ => trivial) h trivial).2

theorem peekF_perm (hT : TopOK top) {n : Nat} {s s' : Strm St K} {xs : List St}
    (h : peekF top n s = some s') (hs : AnsS top s xs) :
    (∃ ys, AnsS top s' ys ∧ xs.Perm ys) ∧ s'.isMature = true := by
  refine peekF_inv (P := fun s => ∃ ys, AnsS top s ys ∧ xs.Perm ys) (fun l ⟨ys, hy, py⟩ => ?_) h ⟨xs, hs, .refl _⟩
  cases hy with | lazy hl =>
  obtain ⟨zs, hz, pz⟩ := step_perm top hT hl
  exact ⟨zs, hz, py.trans pz⟩

theorem truncF_first (n : Nat) (s : Strm St K) (a : St) (h : truncF top n s = some (some a)) :
    ∃ m s', nextF top m s = some (some (a, s')) := by
  fun_induction truncF top n s with
  | case1 => cases h
  | case2 => cases h; exact ⟨0, .empty, rfl⟩
  | case3 n b l => cases h; exact ⟨0, .lazy l, rfl⟩
  | case4 => cases h
  | case5 n l ih =>
    obtain ⟨m, s', hm⟩ := ih h
    exact ⟨m + 1, s', hm⟩

theorem truncF_none (n : Nat) (s : Strm St K) (h : truncF top n s = some none) :
    ∃ m, nextF top m s = some none := by
  fun_induction truncF top n s with
  | case1 => exact ⟨0, rfl⟩
  | case2 => cases h
  | case3 => cases h
  | case4 => cases h
  | case5 n l ih =>
    obtain ⟨m, hm⟩ := ih h
    exact ⟨m + 1, hm⟩

theorem peekF_ans (hT : TopOK top) {s : Strm St K} {xs : List St} (h : AnsS top s xs) :
    ∃ n s' ys, peekF top n s = some s' ∧ AnsS top s' ys ∧ xs.Perm ys ∧ (s'.head?.isSome = !xs.isEmpty) := by
  obtain ⟨n, _, hd, _⟩ := drain_perm top hT h
  obtain ⟨s', hp⟩ := peekF_of_drainF hd
  obtain ⟨⟨ys, hy, py⟩, hm⟩ := peekF_perm top hT hp h
  refine ⟨_, s', ys, hp, hy, py, ?_⟩
  rw [head_of_mature hm hy]
  have := py.length_eq
  cases xs <;> cases ys <;> simp_all

end Generic

section Drain
variable {top : Goal St K → St → Strm St K}

theorem drain_mono : ∀ (n k : Nat) (s : Strm St K) (ys : List St), drainF top n s = some ys →
    drainF top (n + k) s = some ys := by
  intro n k s ys h
  fun_induction drainF top n s generalizing ys with
  | case1 => cases h
  | case2 => rw [Nat.succ_add]; exact h
  | case3 => rw [Nat.succ_add]; exact h
  | case4 n a l ih =>
    obtain ⟨zs, hz, rfl⟩ := Option.map_eq_some_iff.1 h
    rw [Nat.succ_add]
    exact Option.map_eq_some_iff.2 ⟨zs, ih zs hz, rfl⟩
  | case5 n l ih => rw [Nat.succ_add]; exact ih ys h

theorem drain_complete (hT : TopOK top) (n : Nat) (s : Strm St K) (ys : List St) (h : drainF top n s = some ys)
    (a : St) (ha : MemS top a s) : a ∈ ys := by
  fun_induction drainF top n s generalizing ys with
  | case1 => cases h
  | case2 => exact (memS_empty ha).elim
  | case3 => cases h; exact List.mem_singleton.2 (memS_unit_iff.1 ha)
  | case4 n b l ih =>
    obtain ⟨zs, hz, rfl⟩ := Option.map_eq_some_iff.1 h
    rcases memS_cons_iff.1 ha with rfl | m
    · exact List.mem_cons_self
    · exact List.mem_cons_of_mem _ (ih zs hz (memS_lazy_iff.2 m))
  | case5 n l ih => exact ih ys h ((step_mem_iff hT).2 (memS_lazy_iff.1 ha))

end Drain

/-- the stream that remains after `n` fuel units (as counted by `runF`) -/
def afterF (top : Goal St K → St → Strm St K) : Nat → Strm St K → Strm St K
  | 0, s => s
  | _ + 1, .empty => .empty
  | _ + 1, .unit _ => .empty
  | n + 1, .cons _ l => afterF top n (.lazy l)
  | n + 1, .lazy l => afterF top n (step top l)

theorem runF_empty (top : Goal St K → St → Strm St K) (m : Nat) : runF top m (.empty : Strm St K) = [] := by
  cases m <;> simp [runF]

theorem afterF_empty (top : Goal St K → St → Strm St K) (m : Nat) : afterF top m (.empty : Strm St K) = .empty := by
  cases m <;> simp [afterF]

theorem runF_add (top : Goal St K → St → Strm St K) (n m : Nat) (s : Strm St K) :
    runF top (n + m) s = runF top n s ++ runF top m (afterF top n s) := by
  fun_induction afterF top n s with
  | case1 s => rw [Nat.zero_add]; rfl
  | case2 => simp only [runF_empty, List.append_nil]
  | case3 => rw [Nat.succ_add, runF_empty]; rfl
  | case4 n a l ih => rw [Nat.succ_add]; exact congrArg (a :: ·) ih
  | case5 n l ih => rw [Nat.succ_add]; exact ih

theorem afterF_add (top : Goal St K → St → Strm St K) (n m : Nat) (s : Strm St K) :
    afterF top (n + m) s = afterF top m (afterF top n s) := by
  fun_induction afterF top n s with
  | case1 s => rw [Nat.zero_add]
  | case2 => simp only [afterF_empty]
  | case3 => rw [Nat.succ_add, afterF_empty]; rfl
  | case4 n a l ih => rw [Nat.succ_add]; exact ih
  | case5 n l ih => rw [Nat.succ_add]; exact ih

section Search
variable (defs : K → St → St × Goal St K) (top : Goal St K → St → Strm St K)

/-- depth-first streams are drained in exactly the reference order -/
theorem drain_dfs (hT : TopOK top) (hTop : DfsTop defs top) {s : Strm St K}
    {xs : List St} (hs : DfsS defs s) (h : AnsS top s xs) :
    ∃ n, drainF top n s = some xs := by
  obtain ⟨n, ys, hy, _⟩ := drain_perm top hT h
  exact ⟨n, by rw [hy, drain_dfs_exact hT hTop n hs h hy]⟩

theorem start_dfs (hD : DfsDefs defs) (pf : Nat) (hTop : DfsTop defs top) (g : Goal St K) (a : St)
    (hg : DfsG defs g) : DfsS defs (start defs top pf g a) := by
  induction hg generalizing a with
  | succeed => exact .unit _
  | fail => exact .empty
  | atom f => simp only [start]; split <;> constructor
  | dyn h ih => exact ih _ _
  | conjD h1 h2 ih1 ih2 => exact lazyBindD_dfs (.pause h1) h2
  | disjD h1 h2 => exact .lazy (.mplusD (.pause h1) (.pause h2))
  | altD h1 h2 ih1 ih2 => exact mplusD_dfs (ih1 a) (.delay (ih2 a))
  | fresh h => exact .lazy (.pause h)
  | call => exact hTop _ _ (hD _ _)

theorem solveAt_dfs (hD : DfsDefs defs) (pf n : Nat) : DfsTop defs (solveAt defs pf n) := by
  induction n with
  | zero => exact fun g a hg => .lazy (.pause hg)
  | succ n ih => exact start_dfs defs _ hD pf ih

theorem start_bfs (hD : BfsDefs defs) (pf : Nat) (hTop : BfsTop defs top) (g : Goal St K) (a : St)
    (hg : BfsG defs g) : BfsS defs (start defs top pf g a) := by
  induction hg generalizing a with
  | succeed => exact .unit _
  | fail => exact .empty
  | atom f => simp only [start]; split <;> constructor
  | dyn h ih => exact ih _ _
  | conj h1 h2 ih1 ih2 => exact lazyBind_bfs (.pause h1) h2
  | disj h1 h2 => exact .lazy (.mplus (.pause h1) (.pause h2))
  | alt h1 h2 ih1 ih2 => exact mplus_bfs (ih1 a) (.delay (ih2 a))
  | fresh h => exact .lazy (.pause h)
  | anyo h =>
    have mk : ∀ {g : Goal St K}, BfsG defs g → BfsG defs (mkConj g .succeed) := fun hg =>
      mkConj_closed .succeed .fail .conj hg .succeed
    rw [start_anyo]
    exact mplus_bfs (bind_bfs (.unit a) h) (.delay (mplus_bfs (.lazy (.pause (.anyo (mk (mk h))))) (.delay .empty)))
  | call => exact hTop _ _ (hD _ _)

theorem solveAt_bfs (hD : BfsDefs defs) (pf n : Nat) : BfsTop defs (solveAt defs pf n) := by
  induction n with
  | zero => exact fun g a hg => .lazy (.pause hg)
  | succ n ih => exact start_bfs defs _ hD pf ih

/-- Fairness of interleaving search: every answer of an interleaving stream — however many other
    branches produce infinitely many answers or diverge silently — is delivered after finitely many steps -/
-- Without `hT` the claim fails: `St = Nat`, `top = fun _ b => .unit (b + 1)`
-- (satisfies `hTop`), `s = lazy (bind (delay (unit 0)) succeed)`: `1` is a member of `s` (through
-- `top succeed 0 = unit 1`), but `bind`'s `succeed` short-cut makes the stream deliver exactly `[0]`.
theorem fair (hT : TopOK top) (hTop : BfsTop defs top) {s : Strm St K} {a : St}
    (hs : BfsS defs s) (h : MemS top a s) : ∃ n, a ∈ runF top n s := by
  obtain ⟨r, hr⟩ := h.toC
  clear h
  -- the rank of `a` bounds the number of steps: each step lowers it (`step_rank`)
  induction r using Nat.strongRecOn generalizing s with
  | _ r ih =>
    cases hr with
    | unit a => exact ⟨1, List.mem_singleton.2 rfl⟩
    | head a l => exact ⟨1, List.mem_cons_self⟩
    | tail h h' =>
      cases hs with | cons hl =>
      obtain ⟨r', hr', hm⟩ := step_rank hT hl h
      obtain ⟨n, hn⟩ := ih r' (by omega) (step_bfs hTop hl) hm
      exact ⟨n + 2, List.mem_cons_of_mem _ hn⟩
    | lazy h h' =>
      cases hs with | lazy hl =>
      obtain ⟨r', hr', hm⟩ := step_rank hT hl h
      obtain ⟨n, hn⟩ := ih r' (by omega) (step_bfs hTop hl) hm
      exact ⟨n + 1, hn⟩

end Search

section Ref
variable (defs : K → St → St × Goal St K) (pf M : Nat)

/-- Reference semantics, depth-first goals: whenever the textbook evaluation terminates with `xs`, the
    stream the engine starts from has exactly the answer list `xs` (Prolog order), at every level. -/
theorem ref_dfs (hD : DfsDefs defs) (n : Nat) (g : Goal St K) (a : St) (xs : List St) (hg : DfsG defs g)
    (h : evalRef defs n g a = some xs) (m : Nat) :
    AnsS (solveAt defs pf (M + 1)) (solveAt defs pf (m + 1) g a) xs := by
  have hT : TopOK (solveAt defs pf (M + 1)) := topOK_solveAt defs pf M
  induction n generalizing g a xs m with
  | zero => cases h
  | succ n ih =>
    cases hg with
    | succeed => cases h; exact .unit a
    | fail => cases h; exact .empty
    | atom f =>
      cases h
      simp only [solveAt, start]
      cases f a with
      | none => exact .empty
      | some b => exact .unit b
    | dyn hd => exact ih _ _ _ (hd a) h m
    | conjD h1 h2 =>
      obtain ⟨xs1, e1, e2⟩ := evalRef_conj_iff.1 h
      exact lazyBindD_ans hT (.pause (ih _ _ _ h1 e1 M)) (flatMapM_ansB (fun x ys e => ih _ _ _ h2 e M) e2)
    | disjD h1 h2 =>
      obtain ⟨xs1, ys1, e1, e2, rfl⟩ := evalRef_alt_iff.1 h
      exact .lazy (.mplusD (.pause (ih _ _ _ h1 e1 M)) (.pause (ih _ _ _ h2 e2 M)))
    | altD h1 h2 =>
      obtain ⟨xs1, ys1, e1, e2, rfl⟩ := evalRef_alt_iff.1 h
      exact mplusD_ans (ih _ _ _ h1 e1 m) (.delay (ih _ _ _ h2 e2 m))
    | fresh h1 => exact .lazy (.pause (ih _ _ _ h1 h M))
    | call =>
      cases m with
      | zero => exact .lazy (.pause (ih _ _ _ (hD _ a) h M))
      | succ m => exact ih _ _ _ (hD _ a) h m

theorem ref_dfs_drain (hD : DfsDefs defs) (n : Nat) (g : Goal St K) (a : St) (xs : List St) (hg : DfsG defs g)
    (h : evalRef defs n g a = some xs) :
    ∃ k, drainF (solveAt defs pf (M + 1)) k (solveAt defs pf (M + 1) g a) = some xs :=
  drain_dfs defs _ (topOK_solveAt defs pf M) (solveAt_dfs defs hD pf (M + 1))
    (solveAt_dfs defs hD pf (M + 1) g a hg) (ref_dfs defs pf M hD n g a xs hg h M)

/-- Reference semantics, pure goals of either kind: the answer list is a permutation of the textbook one. -/
theorem ref_perm (n : Nat) (g : Goal St K) (a : St) (xs : List St)
    (h : evalRef defs n g a = some xs) (m : Nat) :
    ∃ ys, AnsS (solveAt defs pf (M + 1)) (solveAt defs pf (m + 1) g a) ys ∧ xs.Perm ys := by
  have hT : TopOK (solveAt defs pf (M + 1)) := topOK_solveAt defs pf M
  induction n generalizing g a xs m with
  | zero => cases h
  | succ n ih =>
    cases g with
    | succeed => cases h; exact ⟨_, .unit a, .refl _⟩
    | fail => cases h; exact ⟨_, .empty, .refl _⟩
    | atom f =>
      cases h
      simp only [solveAt, start]
      cases f a with
      | none => exact ⟨_, .empty, .refl _⟩
      | some b => exact ⟨_, .unit b, .refl _⟩
    | dyn fs fg => exact ih _ _ _ h m
    | conj g1 g2 =>
      obtain ⟨xs1, e1, e2⟩ := (evalRef_conj_iff (g1 := g1) (g2 := g2)).1 h
      obtain ⟨ys1, hy1, py1⟩ := ih _ _ _ e1 M
      obtain ⟨zs1, hz1, pz1⟩ := flatMapM_ansB_perm (g := g2) (fun x ys e => ih _ _ _ e M) e2
      obtain ⟨zs2, hz2, pz2⟩ := ansB_perm py1 hz1
      exact ⟨zs2, lazyBind_ans hT (.pause hy1) hz2, pz1.trans pz2⟩
    | conjD g1 g2 =>
      obtain ⟨xs1, e1, e2⟩ := (evalRef_conj_iff (g1 := g1) (g2 := g2)).1 h
      obtain ⟨ys1, hy1, py1⟩ := ih _ _ _ e1 M
      obtain ⟨zs1, hz1, pz1⟩ := flatMapM_ansB_perm (g := g2) (fun x ys e => ih _ _ _ e M) e2
      obtain ⟨zs2, hz2, pz2⟩ := ansB_perm py1 hz1
      exact ⟨zs2, lazyBindD_ans hT (.pause hy1) hz2, pz1.trans pz2⟩
    | disj g1 g2 =>
      obtain ⟨xs1, ys1, e1, e2, rfl⟩ := (evalRef_alt_iff (g1 := g1) (g2 := g2)).1 h
      obtain ⟨xs2, hx, px⟩ := ih _ _ _ e1 M
      obtain ⟨ys2, hy, py⟩ := ih _ _ _ e2 M
      exact ⟨_, .lazy (.mplus (.pause hx) (.pause hy)), List.Perm.append px py⟩
    | disjD g1 g2 =>
      obtain ⟨xs1, ys1, e1, e2, rfl⟩ := (evalRef_alt_iff (g1 := g1) (g2 := g2)).1 h
      obtain ⟨xs2, hx, px⟩ := ih _ _ _ e1 M
      obtain ⟨ys2, hy, py⟩ := ih _ _ _ e2 M
      exact ⟨_, .lazy (.mplusD (.pause hx) (.pause hy)), List.Perm.append px py⟩
    | alt g1 g2 =>
      obtain ⟨xs1, ys1, e1, e2, rfl⟩ := (evalRef_alt_iff (g1 := g1) (g2 := g2)).1 h
      obtain ⟨xs2, hx, px⟩ := ih _ _ _ e1 m
      obtain ⟨ys2, hy, py⟩ := ih _ _ _ e2 m
      obtain ⟨zs, hz, pz⟩ := mplus_ans hx (.delay hy)
      exact ⟨zs, hz, (List.Perm.append px py).trans pz⟩
    | altD g1 g2 =>
      obtain ⟨xs1, ys1, e1, e2, rfl⟩ := (evalRef_alt_iff (g1 := g1) (g2 := g2)).1 h
      obtain ⟨xs2, hx, px⟩ := ih _ _ _ e1 m
      obtain ⟨ys2, hy, py⟩ := ih _ _ _ e2 m
      exact ⟨_, mplusD_ans hx (.delay hy), List.Perm.append px py⟩
    | fresh g1 =>
      obtain ⟨ys, hy, py⟩ := ih _ _ _ h M
      exact ⟨ys, .lazy (.pause hy), py⟩
    | conda f r nx => cases h
    | condu f r nx => cases h
    | anyo g1 => cases h
    | call k =>
      cases m with
      | zero =>
        obtain ⟨ys, hy, py⟩ := ih _ _ _ h M
        exact ⟨ys, .lazy (.pause hy), py⟩
      | succ m => exact ih _ _ _ h m

end Ref

section Disj
variable (defs : K → St → St × Goal St K) (top : Goal St K → St → Strm St K) (pf : Nat)

/-- branches are independent: the answers of `conde {A, B}` from a state are those of A from that
    state together with those of B from that state (the clauses see the same, unshared, state value) -/
theorem alt_union (A B : Goal St K) (a : St) (xs ys : List St)
    (hA : AnsS top (start defs top pf A a) xs) (hB : AnsS top (start defs top pf B a) ys) :
    ∃ zs, AnsS top (start defs top pf (.alt A B) a) zs ∧ (xs ++ ys).Perm zs := by
  simp only [start]; exact mplus_ans hA (.delay hB)

theorem alt_inv (A B : Goal St K) (a : St) (zs : List St)
    (h : AnsS top (start defs top pf (.alt A B) a) zs) :
    ∃ xs ys, AnsS top (start defs top pf A a) xs ∧ AnsS top (start defs top pf B a) ys ∧ (xs ++ ys).Perm zs := by
  simp only [start] at h
  obtain ⟨xs, ys, h1, h2, hp⟩ := mplus_ans_inv h
  cases h2 with | delay h2 => exact ⟨xs, ys, h1, h2, hp⟩

theorem altD_union (A B : Goal St K) (a : St) (xs ys : List St)
    (hA : AnsS top (start defs top pf A a) xs) (hB : AnsS top (start defs top pf B a) ys) :
    AnsS top (start defs top pf (.altD A B) a) (xs ++ ys) := by
  simp only [start]; exact mplusD_ans hA (.delay hB)

/-- committed choice, `conda`: with a head that has answers, all head answers are kept (each once) and
    continued with the rest; later clauses contribute nothing -/
-- Without `hT` the claim fails: `top = fun _ _ => .empty`, `f = succeed`,
-- `r = succeed`, `hs = [a]`: `AnsB top succeed [a] []` holds, but `start (conda f r nx) a = unit a`.
theorem conda_commit_ans (hT : TopOK top) (f r nx : Goal St K) (a : St) (hs : List St) (hne : hs ≠ [])
    (hf : AnsS top (start defs top pf f a) hs) (hpf : peekF top pf (start defs top pf f a) ≠ none) :
    ∃ hs', hs.Perm hs' ∧ ∀ zs, AnsB top r hs' zs → AnsS top (start defs top pf (.conda f r nx) a) zs := by
  cases hp : peekF top pf (start defs top pf f a) with
  | none => exact absurd hp hpf
  | some s' =>
    obtain ⟨⟨ys, hy, py⟩, hm⟩ := peekF_perm top hT hp hf
    have hh := head_of_mature hm hy
    have hne' : ys ≠ [] := fun e => hne (by subst e; exact py.eq_nil)
    have hh' : s'.head?.isSome = true := by
      rw [hh]; cases ys with
      | nil => exact absurd rfl hne'
      | cons => rfl
    refine ⟨ys, py, fun zs hz => ?_⟩
    simp only [start, hp, hh', if_true]
    exact bind_ans hT hy hz

theorem conda_commit (hT : TopOK top) (f r nx : Goal St K) (a : St) (hs : List St) (hne : hs ≠ [])
    (hf : AnsS top (start defs top pf f a) hs) (hpf : peekF top pf (start defs top pf f a) ≠ none) :
    ∃ hs', hs.Perm hs' ∧
      ∀ zs, AnsB top r hs' zs → ∃ ws, AnsS top (start defs top pf (.conda f r nx) a) ws ∧ zs.Perm ws :=
  let ⟨hs', p, h⟩ := conda_commit_ans defs top pf hT f r nx a hs hne hf hpf
  ⟨hs', p, fun zs hz => ⟨zs, h zs hz, .refl _⟩⟩

/-- `conda`: a head without answers passes to the next clause -/
-- Without `hT` the claim fails: `f = call k`, `top` such that
-- `top (defs k a).2 (defs k a).1 = lazy (bind (delay (unit a)) succeed)` and `top succeed _ = empty`:
-- the head has the reference list `[]` but peeks to `unit a`, so `conda` commits to the first clause.
theorem conda_skip (hT : TopOK top) (f r nx : Goal St K) (a : St)
    (hf : AnsS top (start defs top pf f a) []) (hpf : peekF top pf (start defs top pf f a) ≠ none) :
    start defs top pf (.conda f r nx) a = start defs top pf nx a := by
  simp only [start]
  cases hp : peekF top pf (start defs top pf f a) with
  | none => exact absurd hp hpf
  | some s' =>
    obtain ⟨⟨ys, hy, py⟩, hm⟩ := peekF_perm top hT hp hf
    have hh := head_of_mature hm hy
    have : ys = [] := List.Perm.nil_eq py |>.symm
    subst this
    simp at hh
    simp [hh]

theorem condu_commit (f r nx : Goal St K) (a b : St)
    (h : truncF top pf (start defs top pf f a) = some (some b)) :
    start defs top pf (.condu f r nx) a = bind (.unit b) r ∧
    ∃ m s', nextF top m (start defs top pf f a) = some (some (b, s')) := by
  refine ⟨?_, truncF_first top pf _ b h⟩
  simp only [start, h]

theorem condu_skip (f r nx : Goal St K) (a : St)
    (h : truncF top pf (start defs top pf f a) = some none) :
    start defs top pf (.condu f r nx) a = start defs top pf nx a := by
  simp only [start, h]

theorem onceo_spec (gs : List (Goal St K)) (a : St) :
    (∀ b, truncF top pf (start defs top pf (conjOfList gs) a) = some (some b) →
        start defs top pf (Goal.onceo gs) a = .unit b) ∧
    (truncF top pf (start defs top pf (conjOfList gs) a) = some none →
        start defs top pf (Goal.onceo gs) a = .empty) :=
  ⟨fun b h => (condu_commit defs top pf _ .succeed .fail a b h).1, condu_skip defs top pf _ .succeed .fail a⟩

end Disj

section Examples
variable (defs : K → St → St × Goal St K) (pf M : Nat)

/-- `conde { never(), q == 1 }` delivers the answer of its second clause although the first clause
    diverges silently (`never() = anyo { fail }`), within an explicit number of steps -/
theorem never_then_answer (f : St → Option St) (a b : St) (hf : f a = some b) :
    b ∈ runF (solveAt defs pf (M + 1)) 12
      (solveAt defs pf (M + 1) (condeOfClauses [[.anyo .fail], [.atom f]]) a) := by
  simp [solveAt, condeOfClauses, altOfList, conjOfList, mkConj, isSucceed, isFail, start, Strm.lazyBind,
    Strm.mplus, runF, step, hf]

theorem dfs_starves_aux (k : K) (hk : ∀ a, defs k a = (a, .fresh (.call k))) (a : St) (R : Strm St K)
    (n : Nat) : ∀ g : Goal St K, g = .call k ∨ g = .fresh (.call k) →
      runF (solveAt defs pf (M + 1)) n (.lazy (.mplusD (.pause a g) (.delay R))) = [] := by
  induction n with
  | zero => intro g _; simp [runF]
  | succ n ih =>
    intro g hg
    rcases hg with rfl | rfl
    · simp only [runF, step, solveAt, start, hk]
      cases M with
      | zero => simp only [solveAt, Strm.mplusD]; exact ih _ (.inr rfl)
      | succ M => simp only [solveAt, start, Strm.mplusD]; exact ih _ (.inl rfl)
    · simp only [runF, step, solveAt, start, Strm.mplusD]
      exact ih _ (.inl rfl)

/-- a disjunction of the same shape searched depth-first never delivers its second clause's answer: the
    diverging first clause (a relation that only calls itself) starves it — fairness needs interleaving -/
theorem dfs_starves (k : K) (hk : ∀ a, defs k a = (a, .fresh (.call k))) (f : St → Option St) (a : St) (n : Nat) :
    runF (solveAt defs pf (M + 1)) n
      (solveAt defs pf (M + 1) (.altD (.fresh (.call k)) (.altD (.atom f) .fail)) a) = [] := by
  simp only [solveAt, start, Strm.mplusD]
  exact dfs_starves_aux defs pf M k hk a _ n _ (.inl rfl)

end Examples

end Pv
