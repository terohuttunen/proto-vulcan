/-
  The reference semantics `evalRef` (answer lists in Prolog order, with multiplicities) as a relation without
  fuel: `EvalR g a xs` — some amount of fuel makes `evalRef` return `xs`.  Composition rules, so that the
  answer list of a goal can be derived clause by clause.
-/
import PvModel.Proofs.StreamAux
namespace Pv
open Strm Goal

section
variable {St K : Type} {defs : K → St → St × Goal St K}

theorem evalRef_mono1 : ∀ (n : Nat) (g : Goal St K) (a : St) (xs : List St), evalRef defs n g a = some xs →
    evalRef defs (n + 1) g a = some xs := by
  intro n
  induction n with
  | zero => intro g a xs h; cases h
  | succ n ih =>
    intro g a xs h
    cases g with
    | succeed => exact h
    | fail => exact h
    | atom f => exact h
    | dyn fs fg => exact ih _ _ _ h
    | conj g1 g2 | conjD g1 g2 =>
      obtain ⟨ys, h1, h2⟩ := (evalRef_conj_iff (g1 := g1) (g2 := g2)).1 h
      exact (evalRef_conj_iff (g1 := g1) (g2 := g2)).2 ⟨ys, ih g1 a ys h1, flatMapM_mono (fun x _ y hy => ih g2 x y hy) h2⟩
    | disj g1 g2 | disjD g1 g2 | alt g1 g2 | altD g1 g2 =>
      obtain ⟨ys, zs, h1, h2, e⟩ := (evalRef_alt_iff (g1 := g1) (g2 := g2)).1 h
      exact (evalRef_alt_iff (g1 := g1) (g2 := g2)).2 ⟨ys, zs, ih g1 a ys h1, ih g2 a zs h2, e⟩
    | fresh g => exact ih _ _ _ h
    | call k => exact ih _ _ _ h
    | conda _ _ _ => cases h
    | condu _ _ _ => cases h
    | anyo _ => cases h

theorem evalRef_mono {n m : Nat} {g : Goal St K} {a : St} {xs : List St} (h : evalRef defs n g a = some xs)
    (hm : n ≤ m) : evalRef defs m g a = some xs := by
  induction hm with
  | refl => exact h
  | step _ ih => exact evalRef_mono1 _ _ _ _ ih

variable (defs)

/-- the answer list of `g` from `a`, in Prolog order with multiplicities -/
def EvalR (g : Goal St K) (a : St) (xs : List St) : Prop := ∃ n, evalRef defs n g a = some xs

/-- the answer lists of the elements, concatenated -/
inductive FlatR (R : St → List St → Prop) : List St → List St → Prop
  | nil : FlatR R [] []
  | cons {x xs ys zs} : R x ys → FlatR R xs zs → FlatR R (x :: xs) (ys ++ zs)

variable {defs}

theorem evalR_det {g : Goal St K} {a : St} {xs ys : List St} (h1 : EvalR defs g a xs) (h2 : EvalR defs g a ys) :
    xs = ys :=
  let ⟨n, e1⟩ := h1
  let ⟨m, e2⟩ := h2
  Option.some.inj ((evalRef_mono e1 (Nat.le_max_left n m)).symm.trans (evalRef_mono e2 (Nat.le_max_right n m)))

theorem flatR_det {g : Goal St K} {xs zs zs' : List St} (h : FlatR (EvalR defs g) xs zs)
    (h' : FlatR (EvalR defs g) xs zs') : zs = zs' := by
  induction h generalizing zs' with
  | nil => cases h'; rfl
  | cons h1 _ ih => cases h' with | cons h2 t2 => rw [evalR_det h1 h2, ih t2]

theorem flatR_fuel {g : Goal St K} {xs zs : List St} (h : FlatR (EvalR defs g) xs zs) :
    ∃ n, flatMapM (evalRef defs n g) xs = some zs := by
  induction h with
  | nil => exact ⟨0, rfl⟩
  | @cons x xs ys zs hx _ ih =>
    obtain ⟨n1, h1⟩ := hx
    obtain ⟨n2, h2⟩ := ih
    exact ⟨max n1 n2, flatMapM_cons_iff.2 ⟨ys, zs, evalRef_mono h1 (Nat.le_max_left _ _),
      flatMapM_mono (fun x _ y hy => evalRef_mono hy (Nat.le_max_right n1 n2)) h2, rfl⟩⟩

theorem evalR_succeed (a : St) : EvalR defs (.succeed : Goal St K) a [a] := ⟨1, rfl⟩
theorem evalR_fail (a : St) : EvalR defs (.fail : Goal St K) a [] := ⟨1, rfl⟩
theorem evalR_atom (f : St → Option St) (a : St) : EvalR defs (.atom f : Goal St K) a (f a).toList := ⟨1, rfl⟩

theorem evalR_conj {g1 g2 : Goal St K} {a : St} {xs zs : List St} (h1 : EvalR defs g1 a xs)
    (h2 : FlatR (EvalR defs g2) xs zs) : EvalR defs (.conj g1 g2) a zs := by
  obtain ⟨n1, e1⟩ := h1
  obtain ⟨n2, e2⟩ := flatR_fuel h2
  exact ⟨max n1 n2 + 1, evalRef_conj_iff.2 ⟨xs, evalRef_mono e1 (Nat.le_max_left _ _),
    flatMapM_mono (fun x _ y hy => evalRef_mono hy (Nat.le_max_right n1 n2)) e2⟩⟩

theorem evalR_alt {g1 g2 : Goal St K} {a : St} {xs ys : List St} (h1 : EvalR defs g1 a xs) (h2 : EvalR defs g2 a ys) :
    EvalR defs (.alt g1 g2) a (xs ++ ys) := by
  obtain ⟨n1, e1⟩ := h1
  obtain ⟨n2, e2⟩ := h2
  exact ⟨max n1 n2 + 1, evalRef_alt_iff.2 ⟨xs, ys, evalRef_mono e1 (Nat.le_max_left _ _),
    evalRef_mono e2 (Nat.le_max_right _ _), rfl⟩⟩

theorem evalR_conjD_iff {g1 g2 : Goal St K} {a : St} {zs : List St} :
    EvalR defs (.conjD g1 g2) a zs ↔ EvalR defs (.conj g1 g2) a zs :=
  exists_congr fun n => by rw [evalRef_conjD]

theorem evalR_altD_iff {g1 g2 : Goal St K} {a : St} {zs : List St} :
    EvalR defs (.altD g1 g2) a zs ↔ EvalR defs (.alt g1 g2) a zs :=
  exists_congr fun n => by rw [evalRef_altD]

theorem evalR_conjD {g1 g2 : Goal St K} {a : St} {xs zs : List St} (h1 : EvalR defs g1 a xs)
    (h2 : FlatR (EvalR defs g2) xs zs) : EvalR defs (.conjD g1 g2) a zs := evalR_conjD_iff.2 (evalR_conj h1 h2)

theorem evalR_altD {g1 g2 : Goal St K} {a : St} {xs ys : List St} (h1 : EvalR defs g1 a xs) (h2 : EvalR defs g2 a ys) :
    EvalR defs (.altD g1 g2) a (xs ++ ys) := evalR_altD_iff.2 (evalR_alt h1 h2)

theorem evalR_fresh {g : Goal St K} {a : St} {xs : List St} (h : EvalR defs g a xs) : EvalR defs (.fresh g) a xs :=
  let ⟨n, e⟩ := h
  ⟨n + 1, e⟩

theorem evalR_call {k : K} {a : St} {xs : List St} (h : EvalR defs (defs k a).2 (defs k a).1 xs) :
    EvalR defs (.call k) a xs :=
  let ⟨n, e⟩ := h
  ⟨n + 1, e⟩

theorem flatR_succeed : ∀ (xs : List St), FlatR (EvalR defs (.succeed : Goal St K)) xs xs
  | [] => .nil
  | x :: xs => .cons (evalR_succeed x) (flatR_succeed xs)

theorem flatR_nil_of_fail : ∀ (xs : List St), FlatR (EvalR defs (.fail : Goal St K)) xs []
  | [] => .nil
  | x :: xs => .cons (evalR_fail x) (flatR_nil_of_fail xs)

/-- the short-cuts of `Conj::new` do not change the answer list: by determinism, the list of a `succeed`
    or `fail` operand is the one `flatR_succeed` / `flatR_nil_of_fail` give -/
theorem evalR_mkConj {g1 g2 : Goal St K} {a : St} {xs zs : List St} (h1 : EvalR defs g1 a xs)
    (h2 : FlatR (EvalR defs g2) xs zs) : EvalR defs (mkConj g1 g2) a zs := by
  refine mkConj_cases (P := fun g => EvalR defs g a zs) (fun e1 e2 => ?_) (fun h => ?_) (evalR_conj h1 h2)
  · subst e1 e2
    rw [flatR_det h2 (flatR_succeed xs)]
    exact h1
  · rcases h with rfl | rfl
    · cases evalR_det h1 (evalR_fail a); cases h2; exact evalR_fail a
    · rw [flatR_det h2 (flatR_nil_of_fail xs)]; exact evalR_fail a

theorem evalR_mkConjD {g1 g2 : Goal St K} {a : St} {xs zs : List St} (h1 : EvalR defs g1 a xs)
    (h2 : FlatR (EvalR defs g2) xs zs) : EvalR defs (mkConjD g1 g2) a zs := by
  refine mkConjD_cases (P := fun g => EvalR defs g a zs) (fun e1 e2 => ?_) (fun h => ?_) (evalR_conjD h1 h2)
  · subst e1 e2
    rw [flatR_det h2 (flatR_succeed xs)]
    exact h1
  · rcases h with rfl | rfl
    · cases evalR_det h1 (evalR_fail a); cases h2; exact evalR_fail a
    · rw [flatR_det h2 (flatR_nil_of_fail xs)]; exact evalR_fail a

variable (defs)

/-- the goals of a clause one after the other: answer list -/
def ChainR : List (Goal St K) → St → List St → Prop
  | [], a, zs => zs = [a]
  | g :: gs, a, zs => ∃ xs, EvalR defs g a xs ∧ FlatR (ChainR gs) xs zs

/-- the clauses one after the other: answer lists concatenated -/
def ClausesR : List (List (Goal St K)) → St → List St → Prop
  | [], _, zs => zs = []
  | c :: cs, a, zs => ∃ z1 z2, ChainR defs c a z1 ∧ ClausesR cs a z2 ∧ zs = z1 ++ z2

variable {defs}

theorem flatR_imp {R R' : St → List St → Prop} (h : ∀ x ys, R x ys → R' x ys) : ∀ {xs zs : List St},
    FlatR R xs zs → FlatR R' xs zs
  | _, _, .nil => .nil
  | _, _, .cons hx hr => .cons (h _ _ hx) (flatR_imp h hr)

theorem evalR_conjOfList : ∀ (gs : List (Goal St K)) (a : St) (zs : List St), ChainR defs gs a zs →
    EvalR defs (conjOfList gs) a zs
  | [], a, zs, h => by simp only [ChainR] at h; subst h; exact evalR_succeed a
  | g :: gs, a, zs, ⟨xs, h1, h2⟩ =>
    evalR_mkConj h1 (flatR_imp (fun x ys hx => evalR_conjOfList gs x ys hx) h2)

theorem evalR_conjDOfList : ∀ (gs : List (Goal St K)) (a : St) (zs : List St), ChainR defs gs a zs →
    EvalR defs (conjDOfList gs) a zs
  | [], a, zs, h => by simp only [ChainR] at h; subst h; exact evalR_succeed a
  | g :: gs, a, zs, ⟨xs, h1, h2⟩ =>
    evalR_mkConjD h1 (flatR_imp (fun x ys hx => evalR_conjDOfList gs x ys hx) h2)

theorem evalR_condeOfClauses : ∀ (cs : List (List (Goal St K))) (a : St) (zs : List St), ClausesR defs cs a zs →
    EvalR defs (condeOfClauses cs) a zs
  | [], a, zs, h => by simp only [ClausesR] at h; subst h; exact evalR_fail a
  | c :: cs, a, zs, ⟨z1, z2, h1, h2, e⟩ => by
    subst e
    exact evalR_alt (evalR_conjOfList c a z1 h1) (evalR_condeOfClauses cs a z2 h2)

theorem evalR_condeDOfClauses : ∀ (cs : List (List (Goal St K))) (a : St) (zs : List St), ClausesR defs cs a zs →
    EvalR defs (condeDOfClauses cs) a zs
  | [], a, zs, h => by simp only [ClausesR] at h; subst h; exact evalR_fail a
  | c :: cs, a, zs, ⟨z1, z2, h1, h2, e⟩ => by
    subst e
    exact evalR_altD (evalR_conjDOfList c a z1 h1) (evalR_condeDOfClauses cs a z2 h2)

end
end Pv
