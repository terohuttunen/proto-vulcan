/-
  The whole query goal on the engine: `fresh(__query__) [__query__ == [q0, …], body, reify(__query__)]` (`queryG`,
  Model/Goals.lean) delivers, for every state the body delivers from the state after the query equation, that
  state's reified state: nothing else, nothing twice.  Generic in the body; the constructor short-cuts of
  `Conj::new` (`mkConj`) are carried through.
-/
import PvModel.Proofs.ReifyGoal
namespace Pv
open Strm Goal State Term

section
variable [Mode] {ord : Order} (dfs : Call → State → State × G) (pf M : Nat)

/-- `Conj::new`'s short-cuts do not change the answers of a conjunction -/
theorem ansS_mkConj {g1 g2 : G} {s : State} {xs zs : List State}
    (h1 : AnsS (solveAt dfs pf (M + 1)) (solveAt dfs pf (M + 1) g1 s) xs)
    (hb : AnsB (solveAt dfs pf (M + 1)) g2 xs zs) :
    AnsS (solveAt dfs pf (M + 1)) (solveAt dfs pf (M + 1) (mkConj g1 g2) s) zs := by
  have hT := topOK_solveAt dfs pf M
  unfold mkConj
  split
  · rename_i h
    simp only [Bool.and_eq_true, isSucceed_iff] at h
    obtain ⟨rfl, rfl⟩ := h
    rw [hT.succeed] at h1 ⊢
    cases h1
    rw [ansB_succeed hT hb]
    exact .unit s
  · split
    · rename_i h
      simp only [Bool.or_eq_true, isFail_iff] at h
      rw [hT.fail]
      rcases h with rfl | rfl
      · rw [hT.fail] at h1
        cases h1
        cases hb
        exact .empty
      · rw [ansB_fail hT hb]
        exact .empty
    · exact ansS_conj dfs pf M h1 hb

theorem ansS_atom (f : State → Option State) (s : State) :
    AnsS (solveAt dfs pf (M + 1)) (solveAt dfs pf (M + 1) (.atom f : G) s) (f s).toList := by
  cases h : f s with
  | none =>
    have e : solveAt dfs pf (M + 1) (.atom f : G) s = .empty := by simp only [solveAt, start, h]
    rw [e]; exact .empty
  | some b =>
    have e : solveAt dfs pf (M + 1) (.atom f : G) s = .unit b := by simp only [solveAt, start, h]
    rw [e]; exact .unit b

theorem ansB_flatMap {g : G} (R : State → List State) : ∀ (xs : List State),
    (∀ s ∈ xs, AnsS (solveAt dfs pf (M + 1)) (solveAt dfs pf (M + 1) g s) (R s)) →
    AnsB (solveAt dfs pf (M + 1)) g xs (xs.flatMap R)
  | [], _ => .nil
  | a :: xs, h => by
    have := AnsB.cons (h a List.mem_cons_self) (ansB_flatMap R xs fun s hs => h s (List.mem_cons_of_mem _ hs))
    simpa using this

theorem ansB_map {g : G} (f : State → State) (xs : List State)
    (h : ∀ s ∈ xs, AnsS (solveAt dfs pf (M + 1)) (solveAt dfs pf (M + 1) g s) [f s]) :
    AnsB (solveAt dfs pf (M + 1)) g xs (xs.map f) := by
  rw [List.map_eq_flatMap]
  exact ansB_flatMap dfs pf M (fun s => [f s]) xs h

theorem ansB_id {xs : List State} : AnsB (solveAt dfs pf (M + 1)) (.succeed : G) xs xs := by
  have hb := ansB_map dfs pf M (g := .succeed) id xs (fun s _ => ansS_succeed dfs pf M s)
  rwa [List.map_id] at hb

/-- the query goal in general (finite domains included): `reify(__query__)` may deliver any number of states per body
    state (one per labelled block) -/
theorem query_compose_gen (qv : Term) (qs : List Term) (body : List G) (s0 s1 : State) (xs : List State) (R : State → List State)
    (h1 : (liftRes fun st => postAtom ord st (.eq qv (Term.ofList qs))) s0 = some s1)
    (hB : AnsS (solveAt dfs pf (M + 1)) (solveAt dfs pf (M + 1) (Goal.conjOfList body) s1) xs)
    (hR : ∀ s ∈ xs, AnsS (solveAt dfs pf (M + 1)) (solveAt dfs pf (M + 1) (reifyG ord qv) s) (R s)) :
    AnsS (solveAt dfs pf (M + 1)) (solveAt dfs pf (M + 1) (queryG ord qv qs body) s0) (xs.flatMap R) := by
  show AnsS _ (Strm.lazy (.pause s0 _)) _
  refine .lazy (.pause ?_)
  show AnsS _ (solveAt dfs pf (M + 1) (mkConj (eqG ord qv (Term.ofList qs)) (mkConj (Goal.conjOfList body)
    (mkConj (reifyG ord qv) .succeed))) s0) _
  have hA := ansS_atom dfs pf M (liftRes fun st => postAtom ord st (.eq qv (Term.ofList qs))) s0
  rw [h1] at hA
  refine ansS_mkConj dfs pf M hA (ansB_single dfs pf M (ansS_mkConj dfs pf M hB ?_))
  refine ansB_flatMap dfs pf M R xs fun s hs => ?_
  exact ansS_mkConj dfs pf M (hR s hs) (ansB_id dfs pf M)

/-- the query goal when `reify(__query__)` delivers one state per body state (tree programs) -/
theorem query_compose (qv : Term) (qs : List Term) (body : List G) (s0 s1 : State) (xs : List State)
    (h1 : (liftRes fun st => postAtom ord st (.eq qv (Term.ofList qs))) s0 = some s1)
    (hB : AnsS (solveAt dfs pf (M + 1)) (solveAt dfs pf (M + 1) (Goal.conjOfList body) s1) xs)
    (hR : ∀ s ∈ xs, AnsS (solveAt dfs pf (M + 1)) (solveAt dfs pf (M + 1) (reifyG ord qv) s) [reifyState ord s qv]) :
    AnsS (solveAt dfs pf (M + 1)) (solveAt dfs pf (M + 1) (queryG ord qv qs body) s0)
      (xs.map fun s => reifyState ord s qv) := by
  rw [List.map_eq_flatMap]
  exact query_compose_gen dfs pf M qv qs body s0 s1 xs (fun s => [reifyState ord s qv]) h1 hB hR

/-- The answers come as a multiset: the engine's order of the body's answers is a permutation of the textbook order
    (`ref_perm`), and draining permutes again (`drain_perm`). -/
theorem query_drain (N : Nat) (body : G) (qv : Term) (qs : List Term) (s0 s1 : State) (xs : List State) (R : State → List State)
    (h1 : (liftRes fun st => postAtom ord st (.eq qv (Term.ofList qs))) s0 = some s1)
    (hx : evalRef dfs N body s1 = some xs)
    (hR : ∀ s ∈ xs, AnsS (solveAt dfs pf (M + 2)) (solveAt dfs pf (M + 2) (reifyG ord qv) s) (R s)) :
    ∃ k zs, drainF (solveAt dfs pf (M + 2)) k (solveAt dfs pf (M + 2) (queryG ord qv qs [body]) s0) = some zs ∧
      (xs.flatMap R).Perm zs := by
  obtain ⟨ys, hys, py⟩ := ref_perm dfs pf (M + 1) _ _ s1 xs hx (M + 1)
  have hbody : AnsS (solveAt dfs pf (M + 2)) (solveAt dfs pf (M + 2) (Goal.conjOfList [body]) s1) ys :=
    ansS_mkConj dfs pf (M + 1) hys (ansB_id dfs pf (M + 1))
  have hq := query_compose_gen dfs pf (M + 1) qv qs [body] s0 s1 ys R h1 hbody fun s hs => hR s (py.mem_iff.2 hs)
  obtain ⟨k, zs, hk, pz⟩ := drain_perm _ (topOK_solveAt dfs pf (M + 1)) hq
  exact ⟨k, zs, hk, (py.flatMap_right _).trans pz⟩

theorem reifyG_of_enforce (x : Term) (s : State) (bs : List State)
    (hE : AnsS (solveAt dfs pf (M + 1)) (solveAt dfs pf (M + 1) (enforceFd ord x) s) bs)
    (hp : ∀ b ∈ bs, b.panic = none) :
    AnsS (solveAt dfs pf (M + 1)) (solveAt dfs pf (M + 1) (reifyG ord x) s) (bs.map fun b => reifyState ord b x) := by
  show AnsS _ (solveAt dfs pf (M + 1) (mkConj (mkConj (enforceFd ord x) (mkConj .succeed .succeed)) (mkConj (reifyFinal ord x) .succeed)) s) _
  have inner := ansS_mkConj dfs pf M hE (g2 := mkConj .succeed .succeed) (by
    show AnsB _ (.succeed : G) bs bs
    exact ansB_id dfs pf M)
  refine ansS_mkConj dfs pf M inner (ansB_map dfs pf M (fun b => reifyState ord b x) bs fun b hb => ?_)
  refine ansS_mkConj dfs pf M ?_ (ansB_id dfs pf M)
  rw [reifyFinal_eq]
  have hA := ansS_atom dfs pf M (liftRes fun st => Res.ok (reifyState ord st x)) b
  rwa [liftRes_of_ok (f := fun st => Res.ok (reifyState ord st x)) (hp b hb) rfl] at hA

end
end Pv
