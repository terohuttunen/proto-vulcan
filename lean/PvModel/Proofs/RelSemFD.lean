/-
  The library relations called from states that carry finite domains and FD / CLP(Z) constraints: soundness
  (instance of Proofs/RelSemG.lean with the global finite-domain invariants `WFS`, `Inv` and the finite-domain
  semantics `Sem`), and soundness of whole programs that mix FD / CLP(Z) atoms, `==`, `!=`, conde, fresh and
  relation calls.
-/
import PvModel.Proofs.RelSemG
import PvModel.Proofs.FDExact
namespace Pv
open Strm Goal State Term

section
variable [Mode] {ord : Order}

theorem gden_of_ref0 {f : State → Res State} {D : Subst → Prop}
    (h : ∀ st, WFS st → Inv st → Ref0 NoI D st (f st)) (N : Nat) :
    DenG ord (fun a => WFS a ∧ Inv a) (fun γ a => Sem NoI γ a) N (.atom (liftRes f)) D :=
  gden_liftRes (fun a s hg hr => by
    have r := h a hg.1 hg.2
    rw [hr] at r
    exact ⟨⟨r.1, r.2.1⟩, fun γ hγ => (r.2.2 γ).1 hγ⟩) N

theorem fd_bump (a : State) (k : Nat) :
    ((WFS a ∧ Inv a) → (WFS { a with nextVar := k } ∧ Inv { a with nextVar := k })) ∧
    ∀ γ, Sem NoI γ { a with nextVar := k } → Sem NoI γ a :=
  ⟨fun h => ⟨h.1.same rfl rfl fun p hp => .inl hp, SameStore.inv ⟨rfl, rfl, rfl, rfl, rfl⟩ h.2⟩,
   fun γ h => (sem_same (st' := { a with nextVar := k }) (st := a) rfl rfl rfl γ).1 h⟩

/-- Soundness of the library relations from finite-domain states: a call of member / member1 / append / rember /
    permute / distinct from any well-formed state — domains, FD and CLP(Z) propagators, disequalities in the
    stores — any argument terms: every unpoisoned big-step answer is well-formed and describes only valuations
    of the start state (in the finite-domain semantics: substitution, every stored constraint, every domain)
    under which the arguments are in the relation -/
theorem fd_den_rel (ho : OrderOK ord) (N : Nat) (c : Call) :
    DenG ord (fun a => WFS a ∧ Inv a) (fun γ a => Sem NoI γ a) N (.call c) (RelSem c) :=
  gden_rel fd_bump
    (fun N u v => gden_of_ref0 (fun st w hi => unify_sem ho (iok_noI st) w hi u v) N)
    (fun N u v => gden_of_ref0 (fun st w hi => disunify_sem ho w hi u v) N) N c

inductive FRProg where
  | succeed
  | atom (t : FAtom)
  | conj (p q : FRProg)
  | alt (p q : FRProg)
  | fresh (p : FRProg)
  | call (c : Call)

namespace FRProg

def goal (ord : Order) : FRProg → G
  | succeed => .succeed
  | atom t => .atom (liftRes fun st => postF ord st t)
  | conj p q => .conj (goal ord p) (goal ord q)
  | alt p q => .alt (goal ord p) (goal ord q)
  | fresh p => .fresh (goal ord p)
  | call c => .call c

/-- the declarative meaning: constraints by their arithmetic meaning, relation calls by their specification -/
def Sem : FRProg → Subst → Prop
  | succeed, _ => True
  | atom t, γ => t.Sat γ
  | conj p q, γ => Sem p γ ∧ Sem q γ
  | alt p q, γ => Sem p γ ∨ Sem q γ
  | fresh p, γ => Sem p γ
  | call c, γ => RelSem c γ

def OK : FRProg → Prop
  | atom t => t.OK
  | conj p q => OK p ∧ OK q
  | alt p q => OK p ∧ OK q
  | fresh p => OK p
  | _ => True

theorem plain (ord : Order) : ∀ (p : FRProg), Plain (p.goal ord)
  | succeed => .succeed
  | atom _ => .atom _
  | conj p q => .conj (plain ord p) (plain ord q)
  | alt p q => .alt (plain ord p) (plain ord q)
  | fresh p => .fresh (plain ord p)
  | call c => .call c

end FRProg

theorem frprog_den (ho : OrderOK ord) (N : Nat) : ∀ (p : FRProg), p.OK →
    DenG ord (fun a => WFS a ∧ Inv a) (fun γ a => Sem NoI γ a) N (p.goal ord) p.Sem
  | .succeed, _ => gden_succeed N
  | .atom t, hk => gden_of_ref0 (fun st w hi => postF_sem ho w hi t hk) N
  | .conj p q, hk => gden_conj (frprog_den ho N p hk.1) (frprog_den ho N q hk.2)
  | .alt p q, hk => gden_alt (frprog_den ho N p hk.1) (frprog_den ho N q hk.2)
  | .fresh p, hk => gden_fresh (frprog_den ho N p hk)
  | .call c, _ => fd_den_rel ho N c

/-- Soundness on the engine for programs of FD / CLP(Z) constraints, domains, `==`, `!=`, conjunction, conde,
    fresh and calls of the library relations, from any well-formed state: every unpoisoned state in the engine's
    stream (at any nesting level, under any hash order) is well-formed and describes — substitution, constraints,
    domains — only valuations of the start state that satisfy every posted constraint along its path and put the
    arguments of every relation call in the relation.  (A poisoned state: the model's fuel, or — in the lax mode —
    one of the three distinctfd panic sites, which is reached only when no solution exists.) -/
theorem frprog_sound (ho : OrderOK ord) (pf M j : Nat) (p : FRProg) (hk : p.OK) (a b : State)
    (hm : MemS (solveAt (defs ord) pf (M + 1)) b (solveAt (defs ord) pf j (p.goal ord) a))
    (hp : b.panic.isSome = false) (w : WFS a) (hi : Inv a) :
    (WFS b ∧ Inv b) ∧ ∀ γ, Sem NoI γ b → Sem NoI γ a ∧ p.Sem γ := by
  obtain ⟨n, hn⟩ := (mem_iff_big (defs_plain ord) pf M j (p.plain ord) a b).1 hm
  exact (frprog_den ho n p hk n (Nat.le_refl _) a b hn).2 hp ⟨w, hi⟩

end
end Pv
