/-
  The big-step rules of the goals built from lists: a clause is its goals one after the other (`BigChain`), a `conde`
  is one of its clauses, a relation call is its body run from the counter moved past the body's fresh variables.
-/
import PvModel.Proofs.BigStep
import PvModel.Proofs.RelBody
namespace Pv
open Strm Goal State Term

section
variable {ord : Order}

def BigChain (ord : Order) : List G → State → State → Prop
  | [], a, b => a = b
  | g :: gs, a, b => ∃ m, Big (defs ord) g a m ∧ BigChain ord gs m b

theorem big_conjOfList : ∀ (gs : List G) (a b : State), Big (defs ord) (conjOfList gs) a b ↔ BigChain ord gs a b
  | [], _, _ => big_succeed
  | _ :: gs, _, b => big_mkConj.trans (exists_congr fun m => and_congr_right fun _ => big_conjOfList gs m b)

theorem big_conjDOfList : ∀ (gs : List G) (a b : State), Big (defs ord) (conjDOfList gs) a b ↔ BigChain ord gs a b
  | [], _, _ => big_succeed
  | _ :: gs, _, b => big_mkConjD.trans (exists_congr fun m => and_congr_right fun _ => big_conjDOfList gs m b)

theorem big_altOfList : ∀ (gs : List G) (a b : State), Big (defs ord) (altOfList gs) a b ↔ ∃ g ∈ gs, Big (defs ord) g a b
  | [], a, b => ⟨fun h => (big_fail h).elim, fun ⟨_, h, _⟩ => nomatch h⟩
  | g :: gs, a, b => by
    simp only [altOfList, big_alt, big_altOfList gs a b, List.mem_cons, or_and_right, exists_or, exists_eq_left]

theorem big_altDOfList : ∀ (gs : List G) (a b : State), Big (defs ord) (altDOfList gs) a b ↔ ∃ g ∈ gs, Big (defs ord) g a b
  | [], a, b => ⟨fun h => (big_fail h).elim, fun ⟨_, h, _⟩ => nomatch h⟩
  | g :: gs, a, b => by
    simp only [altDOfList, big_altD, big_altDOfList gs a b, List.mem_cons, or_and_right, exists_or, exists_eq_left]

theorem big_oneOf (d : Bool) (cs : List (List G)) (a b : State) :
    Big (defs ord) (oneOf d cs) a b ↔ ∃ c ∈ cs, BigChain ord c a b := by
  have key (alt cj : List G → G) (halt : ∀ gs a b, Big (defs ord) (alt gs) a b ↔ ∃ g ∈ gs, Big (defs ord) g a b)
      (hcj : ∀ gs a b, Big (defs ord) (cj gs) a b ↔ BigChain ord gs a b) :
      Big (defs ord) (cj [alt (cs.map cj)]) a b ↔ ∃ c ∈ cs, BigChain ord c a b := by
    rw [hcj]
    constructor
    · rintro ⟨m, h, rfl⟩
      obtain ⟨g, hg, h⟩ := (halt _ a m).1 h
      obtain ⟨c, hc, rfl⟩ := List.mem_map.1 hg
      exact ⟨c, hc, (hcj c a m).1 h⟩
    · rintro ⟨c, hc, h⟩
      exact ⟨b, (halt _ a b).2 ⟨_, List.mem_map.2 ⟨c, hc, rfl⟩, (hcj c a b).2 h⟩, rfl⟩
  cases d
  · rw [oneOf_false, condeOfClauses]
    exact key altOfList conjOfList big_altOfList big_conjOfList
  · rw [oneOf_true, condeDOfClauses]
    exact key altDOfList conjDOfList big_altDOfList big_conjDOfList

theorem big_conjLOf (d : Bool) (gs : List G) (a b : State) : Big (defs ord) (conjLOf d gs) a b ↔ BigChain ord gs a b := by
  cases d
  · exact big_conjOfList gs a b
  · exact big_conjDOfList gs a b

theorem big_call_rel (c : Call) (a b : State) :
    Big (defs ord) (.call c) a b ↔
      Big (defs ord) (relBody ord c a.nextVar).2 { a with nextVar := a.nextVar + (relBody ord c a.nextVar).1 } b := by
  rw [big_call]
  rfl

end
end Pv
