/-
  The specifications of the library relations (member, member1, append, rember, permute, distinct): inductive predicates on
  terms whose rules are the clauses of the relation, and what they say about (proper, partial, improper) list terms, against
  `List` functions.
-/
import PvModel.Proofs.RelBody
import PvModel.Proofs.Unify
namespace Pv
open Term

/-- `append(l, s, ls)`: `ls` is `l` followed by `s` -/
inductive AppT : Term → Term → Term → Prop
  | nil (s) : AppT .nil s s
  | cons {x t s r} : AppT t s r → AppT (.cons x t) s (.cons x r)

/-- `member(x, l)`: `x` is at some position of `l` -/
inductive MemT : Term → Term → Prop
  | head (x t) : MemT x (.cons x t)
  | tail {x h t} : MemT x t → MemT x (.cons h t)

/-- `member1(x, l)`: `x` is in `l`, reached at its first occurrence (everything before differs from `x`) -/
inductive Mem1T : Term → Term → Prop
  | head (x t) : Mem1T x (.cons x t)
  | tail {x h t} : h ≠ x → Mem1T x t → Mem1T x (.cons h t)

/-- `rember(x, ls, out)`: `out` is `ls` without the first occurrence of `x` -/
inductive RemT : Term → Term → Term → Prop
  | nil (x) : RemT x .nil .nil
  | hit (x d) : RemT x (.cons x d) d
  | skip {x y ys zs} : y ≠ x → RemT x ys zs → RemT x (.cons y ys) (.cons y zs)

/-- `permute(xl, yl)` as its clauses define it: remove the elements of `xl` one after the other from `yl` -/
inductive PermT : Term → Term → Prop
  | nil : PermT .nil .nil
  | cons {x xs yl ys} : PermT xs ys → RemT x yl ys → PermT (.cons x xs) yl

/-- `distinct(l)` as its clauses define it -/
inductive DistT : Term → Prop
  | nil : DistT .nil
  | one (a) : DistT (.cons a .nil)
  | more {f s r} : f ≠ s → DistT (.cons f r) → DistT (.cons s r) → DistT (.cons f (.cons s r))

/-- the specification of a call under a valuation -/
def RelSem (c : Call) (γ : Subst) : Prop :=
  match c.rel, c.args with
  | .member, [x, l] => MemT (apply γ x) (apply γ l)
  | .member1, [x, l] => Mem1T (apply γ x) (apply γ l)
  | .append, [l, s, ls] => AppT (apply γ l) (apply γ s) (apply γ ls)
  | .rember, [x, ls, out] => RemT (apply γ x) (apply γ ls) (apply γ out)
  | .permute, [xl, yl] => PermT (apply γ xl) (apply γ yl)
  | .distinct, [l] => DistT (apply γ l)
  | _, _ => False

theorem relSem_valid {c : Call} {γ : Subst} (h : RelSem c γ) : c.Valid := by
  obtain ⟨rel, args, d⟩ := c
  unfold RelSem at h
  unfold Call.Valid
  dsimp only at h ⊢
  split at h
  case h_7 => exact h.elim
  all_goals trivial

theorem improper_ofList (xs ys : List Term) : improperOfList xs (ofList ys) = ofList (xs ++ ys) := by
  induction xs with
  | nil => rfl
  | cons x xs ih => simp only [improperOfList, List.cons_append, ofList, ih]

theorem improper_nil (xs : List Term) : improperOfList xs .nil = ofList xs :=
  (improper_ofList xs []).trans (congrArg ofList (List.append_nil xs))

theorem appT_nil_inv {s r : Term} (h : AppT .nil s r) : r = s := by
  generalize hn : Term.nil = t at h
  cases h with
  | nil _ => rfl
  | cons _ => cases hn

theorem appT_cons_inv {x t s r : Term} (h : AppT (.cons x t) s r) : ∃ r', r = .cons x r' ∧ AppT t s r' := by
  generalize hn : Term.cons x t = u at h
  cases h with
  | nil _ => cases hn
  | cons h' =>
    simp only [Term.cons.injEq] at hn
    obtain ⟨rfl, rfl⟩ := hn
    exact ⟨_, rfl, h'⟩

theorem appT_iff (l s r : Term) : AppT l s r ↔ ∃ xs, l = ofList xs ∧ r = improperOfList xs s := by
  constructor
  · intro h
    induction h with
    | nil s => exact ⟨[], rfl, rfl⟩
    | @cons x t s r _ ih =>
      obtain ⟨xs, rfl, rfl⟩ := ih
      exact ⟨x :: xs, rfl, rfl⟩
  · rintro ⟨xs, rfl, rfl⟩
    induction xs with
    | nil => exact .nil _
    | cons x xs ih => exact .cons ih

theorem appT_ofList (xs ys : List Term) (r : Term) : AppT (ofList xs) (ofList ys) r ↔ r = ofList (xs ++ ys) := by
  rw [appT_iff]
  constructor
  · rintro ⟨zs, hz, rfl⟩
    rw [ofList_inj hz, improper_ofList]
  · rintro rfl
    exact ⟨xs, rfl, (improper_ofList xs ys).symm⟩

theorem memT_iff (x l : Term) : MemT x l ↔ ∃ pre rest, l = improperOfList pre (.cons x rest) := by
  constructor
  · intro h
    induction h with
    | head t => exact ⟨[], t, rfl⟩
    | @tail h t _ ih =>
      obtain ⟨pre, rest, rfl⟩ := ih
      exact ⟨h :: pre, rest, rfl⟩
  · rintro ⟨pre, rest, rfl⟩
    induction pre with
    | nil => exact .head _ _
    | cons p pre ih => exact .tail ih

theorem memT_ofList (x : Term) (xs : List Term) : MemT x (ofList xs) ↔ x ∈ xs := by
  induction xs with
  | nil => exact ⟨fun h => (nomatch h), fun h => (nomatch h)⟩
  | cons y ys ih =>
    constructor
    · intro h
      cases h with
      | head _ => exact List.mem_cons_self
      | tail h' => exact List.mem_cons_of_mem _ (ih.1 h')
    · intro h
      rcases List.mem_cons.1 h with rfl | h
      · exact .head _ _
      · exact .tail (ih.2 h)

theorem mem1T_iff (x l : Term) : Mem1T x l ↔ ∃ pre rest, l = improperOfList pre (.cons x rest) ∧ x ∉ pre := by
  constructor
  · intro h
    induction h with
    | head t => exact ⟨[], t, rfl, fun h => nomatch h⟩
    | @tail h t hne _ ih =>
      obtain ⟨pre, rest, rfl, hn⟩ := ih
      refine ⟨h :: pre, rest, rfl, fun hm => ?_⟩
      rcases List.mem_cons.1 hm with e | hm
      · exact hne e.symm
      · exact hn hm
  · rintro ⟨pre, rest, rfl, hn⟩
    induction pre with
    | nil => exact .head _ _
    | cons p pre ih =>
      exact .tail (fun e => hn (e ▸ List.mem_cons_self)) (ih fun hm => hn (List.mem_cons_of_mem _ hm))

theorem mem1T_unique (x : Term) : ∀ (pre pre' : List Term) (rest rest' : Term), x ∉ pre → x ∉ pre' →
    improperOfList pre (.cons x rest) = improperOfList pre' (.cons x rest') → pre = pre' ∧ rest = rest'
  | [], [], _, _, _, _, h => by simp only [improperOfList, Term.cons.injEq, true_and] at h; exact ⟨rfl, h⟩
  | [], p :: _, _, _, _, hn, h => by
    simp only [improperOfList, Term.cons.injEq] at h
    exact (hn (h.1 ▸ List.mem_cons_self)).elim
  | p :: _, [], _, _, hn, _, h => by
    simp only [improperOfList, Term.cons.injEq] at h
    exact (hn (h.1 ▸ List.mem_cons_self)).elim
  | p :: pre, q :: pre', rest, rest', hn, hn', h => by
    simp only [improperOfList, Term.cons.injEq] at h
    obtain ⟨e1, e2⟩ := mem1T_unique x pre pre' rest rest' (fun hm => hn (List.mem_cons_of_mem _ hm))
      (fun hm => hn' (List.mem_cons_of_mem _ hm)) h.2
    exact ⟨by rw [h.1, e1], e2⟩

theorem mem1T_ofList (x : Term) (xs : List Term) : Mem1T x (ofList xs) ↔ x ∈ xs := by
  induction xs with
  | nil => exact ⟨fun h => (nomatch h), fun h => (nomatch h)⟩
  | cons y ys ih =>
    constructor
    · intro h
      cases h with
      | head _ => exact List.mem_cons_self
      | tail _ h' => exact List.mem_cons_of_mem _ (ih.1 h')
    · intro h
      by_cases e : y = x
      · subst e; exact .head _ _
      · rcases List.mem_cons.1 h with rfl | h
        · exact (e rfl).elim
        · exact .tail e (ih.2 h)

theorem remT_fun {x l o1 o2 : Term} (h1 : RemT x l o1) (h2 : RemT x l o2) : o1 = o2 := by
  induction h1 generalizing o2 with
  | nil => cases h2; rfl
  | hit d =>
    cases h2 with
    | hit _ => rfl
    | skip hne _ => exact (hne rfl).elim
  | @skip y ys zs hne _ ih =>
    cases h2 with
    | hit _ => exact (hne rfl).elim
    | skip _ h' => rw [ih h']

theorem remT_ofList (x : Term) (xs : List Term) (out : Term) : RemT x (ofList xs) out ↔ out = ofList (xs.erase x) := by
  have mk : ∀ xs : List Term, RemT x (ofList xs) (ofList (xs.erase x)) := by
    intro xs
    induction xs with
    | nil => exact .nil _
    | cons y ys ih =>
      by_cases e : y = x
      · subst e; rw [List.erase_cons_head]; exact .hit _ _
      · rw [List.erase_cons_tail (by simpa using e)]; exact .skip e ih
  exact ⟨fun h => remT_fun h (mk xs), fun h => h ▸ mk xs⟩

theorem distT_of_nodup : ∀ (xs : List Term), xs.Nodup → DistT (ofList xs)
  | [], _ => .nil
  | [a], _ => .one a
  | f :: s :: r, hn =>
    have n2 : (s :: r).Nodup := (List.nodup_cons.1 hn).2
    have hfs : f ≠ s := fun e => (List.nodup_cons.1 hn).1 (e ▸ List.mem_cons_self)
    have n1 : (f :: r).Nodup :=
      List.nodup_cons.2 ⟨fun hm => (List.nodup_cons.1 hn).1 (List.mem_cons_of_mem _ hm), (List.nodup_cons.1 n2).2⟩
    .more hfs (distT_of_nodup (f :: r) n1) (distT_of_nodup (s :: r) n2)
termination_by xs => xs.length

theorem distT_iff (l : Term) : DistT l ↔ ∃ xs : List Term, l = ofList xs ∧ xs.Nodup := by
  constructor
  · intro h
    induction h with
    | nil => exact ⟨[], rfl, List.nodup_nil⟩
    | one a => exact ⟨[a], rfl, by simp⟩
    | @more f s r hne _ _ ih1 ih2 =>
      obtain ⟨xs1, e1, n1⟩ := ih1
      obtain ⟨xs2, e2, n2⟩ := ih2
      cases xs1 with
      | nil => cases e1
      | cons a1 r1 =>
        cases xs2 with
        | nil => cases e2
        | cons a2 r2 =>
          simp only [ofList, Term.cons.injEq] at e1 e2
          obtain ⟨rfl, er1⟩ := e1
          obtain ⟨rfl, er2⟩ := e2
          have : r1 = r2 := ofList_inj (er1.symm.trans er2)
          subst this
          refine ⟨f :: s :: r1, by simp [ofList, er1], ?_⟩
          rw [List.nodup_cons] at n1 n2 ⊢
          refine ⟨fun hm => ?_, List.nodup_cons.2 n2⟩
          rcases List.mem_cons.1 hm with e | hm
          · exact hne e
          · exact n1.1 hm
  · rintro ⟨xs, rfl, hn⟩
    exact distT_of_nodup xs hn

/-- `permute(xl, yl)` holds for every permutation `yl` of a proper list `xl` … -/
theorem permT_of_perm : ∀ (xs ys : List Term), xs.Perm ys → PermT (ofList xs) (ofList ys)
  | [], ys, h => by rw [List.nil_perm.1 h]; exact .nil
  | x :: xs, ys, h => by
    have hx : x ∈ ys := h.subset List.mem_cons_self
    have h' : xs.Perm (ys.erase x) := (List.cons_perm_iff_perm_erase.1 h).2
    exact .cons (permT_of_perm xs (ys.erase x) h') ((remT_ofList x ys _).2 rfl)

/-- … but, as the clauses are written, not only for those (KNOWN FINDING D20): `rember` succeeds when the element
    is absent, so `permute([1, 2], [2])` holds -/
theorem permT_sublist_witness : PermT (ofList [Term.num 1, Term.num 2]) (ofList [Term.num 2]) :=
  .cons (ys := ofList [Term.num 2]) (.cons (ys := .nil) .nil (.hit _ _)) (.skip (by decide) (.nil _))

end Pv
