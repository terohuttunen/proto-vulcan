/-
  Scoping: every variable a state mentions — in the range of its substitution and in its stored disequalities — is
  below the state's source of fresh variables, provided the posted atoms are.  (`reify` names the unbound variables
  of the answer with new variables `nextVar, nextVar + 1, …`: this is what makes them new.)
-/
import PvModel.Proofs.DiseqNF
import PvModel.Proofs.Below
namespace Pv
open Term

/-- the substitution is the identity from `m` on, and maps variables below `m` to terms over variables below `m` -/
def SubBelow (m : Nat) (σ : Subst) : Prop := (∀ y, m ≤ y → σ y = .var y) ∧ ∀ y, y < m → Below m (σ y)

def PairsBelow (m : Nat) (e : Ext1) : Prop := ∀ p ∈ e, p.1 < m ∧ Below m p.2

def StoreBelow (m : Nat) (st : State) : Prop := ∀ q ∈ st.store, ∀ ps, q.2 = .diseq ps → PairsBelow m ps

/-- every variable the state mentions is below `m` -/
def Scoped (m : Nat) (st : State) : Prop := SubBelow m st.σ ∧ StoreBelow m st

theorem below_cons_iff {m : Nat} {a b : Term} : Below m (.cons a b) ↔ Below m a ∧ Below m b := by
  simp only [Below, Term.vars, List.mem_append]
  exact ⟨fun h => ⟨fun y hy => h y (.inl hy), fun y hy => h y (.inr hy)⟩, fun h y hy => hy.elim (h.1 y) (h.2 y)⟩

theorem below_comp_iff {m g : Nat} {a : Term} : Below m (.comp g a) ↔ Below m a := by
  simp only [Below, Term.vars]

theorem below_var_iff {m x : Nat} : Below m (.var x) ↔ x < m := by
  simp [Below, Term.vars]

theorem below_val (m : Nat) (a : Val) : Below m (.val a) := fun y hy => by simp [Term.vars] at hy

theorem apply_below {m : Nat} {σ : Subst} (h : SubBelow m σ) : ∀ {t : Term}, Below m t → Below m (apply σ t) :=
  fun ht y hy =>
    let ⟨z, hz, hyz⟩ := mem_vars_apply.1 hy
    h.2 z (ht z hz) y hyz

theorem sub1_below {m x : Nat} {t : Term} (ht : Below m t) {s : Term} (hs : Below m s) :
    Below m (apply (sub1 x t) s) := by
  intro y hy
  obtain ⟨z, hz, hyz⟩ := mem_vars_apply.1 hy
  unfold sub1 at hyz
  split at hyz
  · exact ht y hyz
  · rw [List.mem_singleton.1 hyz]
    exact hs z hz

theorem bindS_below {m x : Nat} {t : Term} {σ : Subst} (h : SubBelow m σ) (hx : x < m) (ht : Below m t) :
    SubBelow m (bindS x t σ) := by
  refine ⟨fun y hy => ?_, fun y hy => sub1_below ht (h.2 y hy)⟩
  show apply (sub1 x t) (σ y) = .var y
  rw [h.1 y hy]
  have : ¬ y = x := by omega
  simp [apply, sub1, this]

theorem bindAll_below {m : Nat} {σ : Subst} (hb : SubBelow m σ) : ∀ {δ : Ext1}, PairsBelow m δ →
    SubBelow m (bindAll δ σ)
  | [], _ => hb
  | p :: _, h =>
    bindS_below (bindAll_below hb fun q hq => h q (List.mem_cons_of_mem _ hq)) (h p List.mem_cons_self).1
      (h p List.mem_cons_self).2

theorem Answers.below {m : Nat} {σ σ' : Subst} {e : Ext1} {P : Subst → Prop}
    (h : Answers σ [] (· < m) P (some (σ', e))) (hb : SubBelow m σ) : SubBelow m σ' ∧ PairsBelow m e := by
  obtain ⟨rfl, a⟩ := h.of_nil
  exact ⟨bindAll_below hb a.vars, a.vars⟩

theorem disunify_scoped (ord : Order) {m : Nat} {st st' : State} (hs : Solved st.σ) (hsc : Scoped m st) (u v : Term)
    (hu : Below m u) (hv : Below m v) (hres : State.disunify ord st u v = .ok st') : Scoped m st' := by
  rw [disunify_eq] at hres
  obtain ⟨hσ, _, hmem⟩ := diseqResult_store hres
  refine ⟨by rw [hσ]; exact hsc.1, fun q hq ps he => ?_⟩
  rcases hmem q hq with h0 | ⟨σ', e, hun, _, hqe⟩
  · exact hsc.2 q h0 ps he
  · rw [he] at hqe
    cases hqe
    exact ((unifyF_answers (· < m) _ _ _ _ _ _ hs (apply_below hsc.1 hu) (apply_below hsc.1 hv) hun).below hsc.1).2

theorem runConstraintsF_below {ord : Order} (ho : OrderOK ord) (n : Nat) {m : Nat} {st st' : State} (hs : Solved st.σ)
    (ht : TreeOnly st) (hi : IdsOK st) (hb : SubBelow m st.σ) (h : StoreBelow m st)
    (hres : State.runConstraintsF ord (n + 1) st = .ok st') : StoreBelow m st' := by
  refine runConstraintsF_store ho n (J := PairsBelow m) hs ht hi (fun _ a => a) (fun ps σ' e hp hu _ => ?_) h hres
  refine ((unifyPairsF_answers (· < m) _ _ _ _ _ hs (fun q hq => ?_) hu).below hb).2
  simp only [State.eqsOf, List.mem_map] at hq
  obtain ⟨p, hpm, rfl⟩ := hq
  have := hp p ((ho.2.1 ps).mem_iff.1 hpm)
  exact ⟨apply_below hb (below_var_iff.2 this.1), apply_below hb this.2⟩

theorem unify_scoped {ord : Order} (ho : OrderOK ord) {m : Nat} {st st' : State} (hg : Good st) (hsc : Scoped m st)
    (u v : Term) (hbu : Below m u) (hbv : Below m v) (hres : st.unify ord u v = .ok st') : Scoped m st' := by
  obtain ⟨σ', e, st2, hu, hg1, hl, rfl⟩ := unify_ok_good ho hg hres
  have bσ := ((unifyF_answers (· < m) _ _ _ _ _ _ hg.1 (apply_below hsc.1 hbu) (apply_below hsc.1 hbv) hu).below
    hsc.1).1
  refine ⟨?_, runConstraintsF_below (st' := st2) ho _ hg1.1 hg1.2.1 hg1.2.2 bσ hsc.2 hl⟩
  show SubBelow m st2.σ
  rw [((runConstraintsF_spec ho _ hg1.1 hg1.2.1 hg1.2.2).ok st2 hl).sig]
  exact bσ

theorem postAtom_scoped {ord : Order} (ho : OrderOK ord) {m : Nat} {st st' : State} (a : TAtom) (hg : Good st)
    (hsc : Scoped m st) (ha : a.Below m) (hres : postAtom ord st a = .ok st') : Scoped m st' := by
  cases a with
  | eq u v => exact unify_scoped ho hg hsc u v ha.1 ha.2 hres
  | neq u v => exact disunify_scoped ord hg.1 hsc u v ha.1 ha.2 hres

theorem postAll_scoped {ord : Order} (ho : OrderOK ord) {m : Nat} : ∀ (as : List TAtom) (st st' : State), Good st →
    Scoped m st → (∀ a ∈ as, a.Below m) → postAll ord st as = .ok st' → Scoped m st' := fun _ _ _ hg hsc hb h =>
  postAll_good_invariant ho (fun a ha _ _ hs hsc' h1 => postAtom_scoped ho a hs hsc' (hb a ha) h1) hg hsc h

theorem scoped_empty (m n : Nat) : Scoped m (State.empty n) :=
  ⟨⟨fun _ _ => rfl, fun y hy => below_var_iff.2 hy⟩, fun q hq => by simp [State.empty] at hq⟩

end Pv
