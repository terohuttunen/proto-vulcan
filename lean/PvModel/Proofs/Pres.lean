/-
  State invariants through the search engine: when every atom of a program keeps a predicate `P` on
  states (and relation bodies are built from such atoms — calls are not unfolded, so recursive relations
  are included), every state the search ever delivers satisfies `P`, under every operator (conjunction,
  both disjunctions, conde, fresh, conda/condu, anyo, closures, state-dependent goals) and in either
  search mode.
-/
import PvModel.Proofs.Stream
namespace Pv
open Strm Goal
variable {St K : Type}

/-- every atom of the goal keeps `P` -/
inductive PresG (P : St → Prop) : Goal St K → Prop where
  | succeed : PresG P .succeed
  | fail : PresG P .fail
  | atom {f} : (∀ a b, P a → f a = some b → P b) → PresG P (.atom f)
  | dyn {fs fg} : (∀ a, P a → P (fs a)) → (∀ a, P a → PresG P (fg a)) → PresG P (.dyn fs fg)
  | conj {g1 g2} : PresG P g1 → PresG P g2 → PresG P (.conj g1 g2)
  | conjD {g1 g2} : PresG P g1 → PresG P g2 → PresG P (.conjD g1 g2)
  | disj {g1 g2} : PresG P g1 → PresG P g2 → PresG P (.disj g1 g2)
  | disjD {g1 g2} : PresG P g1 → PresG P g2 → PresG P (.disjD g1 g2)
  | alt {g r} : PresG P g → PresG P r → PresG P (.alt g r)
  | altD {g r} : PresG P g → PresG P r → PresG P (.altD g r)
  | fresh {g} : PresG P g → PresG P (.fresh g)
  | conda {f r n} : PresG P f → PresG P r → PresG P n → PresG P (.conda f r n)
  | condu {f r n} : PresG P f → PresG P r → PresG P n → PresG P (.condu f r n)
  | anyo {g} : PresG P g → PresG P (.anyo g)
  | call {k} : PresG P (.call k)

/-- every relation body keeps `P` (the state handed to the body included) -/
def PresDefs (P : St → Prop) (defs : K → St → St × Goal St K) : Prop :=
  ∀ k a, P a → P (defs k a).1 ∧ PresG P (defs k a).2

section
variable (P : St → Prop)
mutual
inductive PresS : Strm St K → Prop where
  | empty : PresS .empty
  | unit {a} : P a → PresS (.unit a)
  | cons {a l} : P a → PresL l → PresS (.cons a l)
  | lazy {l} : PresL l → PresS (.lazy l)
inductive PresL : Lz St K → Prop where
  | mplus {l1 l2} : PresL l1 → PresL l2 → PresL (.mplus l1 l2)
  | mplusD {l1 l2} : PresL l1 → PresL l2 → PresL (.mplusD l1 l2)
  | bind {l g} : PresL l → PresG P g → PresL (.bind l g)
  | bindD {l g} : PresL l → PresG P g → PresL (.bindD l g)
  | pause {a g} : P a → PresG P g → PresL (.pause a g)
  | delay {s} : PresS s → PresL (.delay s)
end
end

variable {P : St → Prop}

/-- the solver used for paused goals keeps `P` -/
def PresTop (P : St → Prop) (top : Goal St K → St → Strm St K) : Prop :=
  ∀ g a, PresG P g → P a → PresS P (top g a)

theorem mplus_pres {s : Strm St K} {l : Lz St K} (hs : PresS P s) (hl : PresL P l) : PresS P (mplus s l) := by
  cases hs with
  | empty => exact .lazy hl
  | unit h => exact .cons h hl
  | cons h h' => exact .cons h (.mplus hl h')
  | lazy h => exact .lazy (.mplus hl h)

theorem mplusD_pres {s : Strm St K} {l : Lz St K} (hs : PresS P s) (hl : PresL P l) : PresS P (mplusD s l) := by
  cases hs with
  | empty => exact .lazy hl
  | unit h => exact .cons h hl
  | cons h h' => exact .cons h (.mplusD h' hl)
  | lazy h => exact .lazy (.mplusD h hl)

theorem bind_pres {s : Strm St K} {g : Goal St K} (hs : PresS P s) (hg : PresG P g) : PresS P (Strm.bind s g) := by
  unfold Strm.bind
  split
  · exact hs
  split
  · exact .empty
  cases hs with
  | empty => exact .empty
  | unit h => exact .lazy (.pause h hg)
  | cons h h' => exact .lazy (.mplus (.pause h hg) (.bind h' hg))
  | lazy h => exact .lazy (.bind h hg)

theorem bindD_pres {s : Strm St K} {g : Goal St K} (hs : PresS P s) (hg : PresG P g) : PresS P (bindD s g) := by
  unfold bindD
  split
  · exact hs
  split
  · exact .empty
  cases hs with
  | empty => exact .empty
  | unit h => exact .lazy (.pause h hg)
  | cons h h' => exact .lazy (.mplusD (.pause h hg) (.bindD h' hg))
  | lazy h => exact .lazy (.bindD h hg)

theorem lazyBind_pres {l : Lz St K} {g : Goal St K} (hl : PresL P l) (hg : PresG P g) : PresS P (lazyBind l g) :=
  bind_pres (.lazy hl) hg

theorem lazyBindD_pres {l : Lz St K} {g : Goal St K} (hl : PresL P l) (hg : PresG P g) : PresS P (lazyBindD l g) :=
  bindD_pres (.lazy hl) hg

variable {top : Goal St K → St → Strm St K}

theorem step_pres (hTop : PresTop P top) (l : Lz St K) (h : PresL P l) :
    PresS P (step top l) := by
  fun_induction step top l with
  | case1 l1 l2 ih => cases h with | mplus h1 h2 => exact mplus_pres (ih h1) h2
  | case2 l g ih => cases h with | bind h1 h2 => exact bind_pres (ih h1) h2
  | case3 a g => cases h with | pause h1 h2 => exact hTop g a h2 h1
  | case4 l1 l2 ih => cases h with | mplusD h1 h2 => exact mplusD_pres (ih h1) h2
  | case5 l g ih => cases h with | bindD h1 h2 => exact bindD_pres (ih h1) h2
  | case6 s => cases h with | delay h1 => exact h1

theorem peekF_pres (hTop : PresTop P top) (n : Nat) (s s' : Strm St K)
    (hs : PresS P s) (h : peekF top n s = some s') : PresS P s' :=
  (peekF_inv (P := PresS P) (fun l hl => by cases hl with | lazy hl => exact step_pres hTop l hl) h hs).1

theorem truncF_pres (hTop : PresTop P top) (n : Nat) (s : Strm St K) (b : St)
    (hs : PresS P s) (h : truncF top n s = some (some b)) : P b := by
  fun_induction truncF top n s with
  | case1 => cases h
  | case2 => cases h; cases hs with | unit hp => exact hp
  | case3 => cases h; cases hs with | cons hp _ => exact hp
  | case4 => cases h
  | case5 n l ih => cases hs with | lazy hl => exact ih (step_pres hTop l hl) h

theorem mkConj_pres {g1 g2 : Goal St K} (h1 : PresG P g1) (h2 : PresG P g2) : PresG P (mkConj g1 g2) :=
  mkConj_closed .succeed .fail .conj h1 h2

variable {defs : K → St → St × Goal St K}

theorem start_pres (hD : PresDefs P defs) (hTop : PresTop P top) (pf : Nat)
    (g : Goal St K) (hg : PresG P g) : ∀ a, P a → PresS P (start defs top pf g a) := by
  induction hg with
  | succeed => intro a ha; exact .unit ha
  | fail => intro a ha; exact .empty
  | atom hf =>
    intro a ha; simp only [start]
    split
    · rename_i b e; exact .unit (hf a b ha e)
    · exact .empty
  | dyn h1 h2 ih => intro a ha; exact ih a ha _ (h1 a ha)
  | conj h1 h2 => intro a ha; exact lazyBind_pres (.pause ha h1) h2
  | conjD h1 h2 => intro a ha; exact lazyBindD_pres (.pause ha h1) h2
  | disj h1 h2 => intro a ha; exact .lazy (.mplus (.pause ha h1) (.pause ha h2))
  | disjD h1 h2 => intro a ha; exact .lazy (.mplusD (.pause ha h1) (.pause ha h2))
  | alt h1 h2 ih1 ih2 => intro a ha; exact mplus_pres (ih1 a ha) (.delay (ih2 a ha))
  | altD h1 h2 ih1 ih2 => intro a ha; exact mplusD_pres (ih1 a ha) (.delay (ih2 a ha))
  | fresh h => intro a ha; exact .lazy (.pause ha h)
  | conda hf hr hn ihf ihr ihn =>
    intro a ha; simp only [start]
    split
    · exact .lazy (.pause ha (.conda hf hr hn))
    · rename_i s e
      split
      · exact bind_pres (peekF_pres hTop _ _ _ (ihf a ha) e) hr
      · exact ihn a ha
  | condu hf hr hn ihf ihr ihn =>
    intro a ha; simp only [start]
    split
    · exact .lazy (.pause ha (.condu hf hr hn))
    · rename_i b e
      exact bind_pres (.unit (truncF_pres hTop _ _ _ (ihf a ha) e)) hr
    · exact ihn a ha
  | anyo h =>
    intro a ha
    rw [start_anyo]
    exact mplus_pres (bind_pres (.unit ha) h) (.delay (mplus_pres
      (.lazy (.pause ha (.anyo (mkConj_pres (mkConj_pres h .succeed) .succeed)))) (.delay .empty)))
  | call => intro a ha; exact hTop _ _ (hD _ a ha).2 (hD _ a ha).1

theorem solveAt_pres (hD : PresDefs P defs) (pf : Nat) : ∀ n, PresTop P (solveAt defs pf n)
  | 0 => fun _ _ hg ha => .lazy (.pause ha hg)
  | n + 1 => fun g a hg ha => start_pres hD (solveAt_pres hD pf n) pf g hg a ha

/-- the cases are those of `MemS`, then `MemL`, in their order -/
theorem memS_pres (hTop : PresTop P top) {b : St} {s : Strm St K}
    (hm : MemS top b s) : PresS P s → P b :=
  MemS.rec (motive_1 := fun b s _ => PresS P s → P b) (motive_2 := fun b l _ => PresL P l → P b)
    (fun _ hs => by cases hs with | unit h => exact h)
    (fun _ _ hs => by cases hs with | cons h _ => exact h)
    (fun _ ih hs => by cases hs with | cons _ hl => exact ih hl)
    (fun _ ih hs => by cases hs with | lazy hl => exact ih hl)
    (fun _ ih hl => by cases hl with | mplus h1 _ => exact ih h1)
    (fun _ ih hl => by cases hl with | mplus _ h2 => exact ih h2)
    (fun _ ih hl => by cases hl with | mplusD h1 _ => exact ih h1)
    (fun _ ih hl => by cases hl with | mplusD _ h2 => exact ih h2)
    (fun _ ih hl => by cases hl with | pause ha hg => exact ih (hTop _ _ hg ha))
    (fun _ ih hl => by cases hl with | delay hs => exact ih hs)
    (fun _ _ ih1 ih2 hl => by cases hl with | bind h1 hg => exact ih2 (hTop _ _ hg (ih1 h1)))
    (fun _ _ ih1 ih2 hl => by cases hl with | bindD h1 hg => exact ih2 (hTop _ _ hg (ih1 h1)))
    hm

theorem memL_pres (hTop : ∀ g a, PresG P g → P a → PresS P (top g a)) :
    ∀ {b : St} {l : Lz St K}, MemL top b l → PresL P l → P b :=
  fun hm hl => memS_pres hTop (.lazy hm) (.lazy hl)

theorem mem_invariant (hD : PresDefs P defs) (pf M j : Nat) (g : Goal St K) (a : St) (hg : PresG P g) (ha : P a)
    (b : St) (h : MemS (solveAt defs pf (M + 1)) b (solveAt defs pf j g a)) : P b :=
  memS_pres (solveAt_pres hD pf (M + 1)) h (solveAt_pres hD pf j g a hg ha)

/-- every state a program ever delivers — within any number of engine steps, at any solver nesting level, finite or
    infinite search tree — satisfies `P` -/
theorem program_invariant (hD : PresDefs P defs) (pf M : Nat) (g : Goal St K) (a : St) (hg : PresG P g) (ha : P a)
    (n : Nat) (b : St) (h : b ∈ runF (solveAt defs pf (M + 1)) n (solveAt defs pf (M + 1) g a)) : P b :=
  mem_invariant hD pf M (M + 1) g a hg ha b (runF_sound _ (topOK_solveAt defs pf M) n _ b h)

theorem conjOfList_pres : ∀ (gs : List (Goal St K)), (∀ g ∈ gs, PresG P g) → PresG P (conjOfList gs) :=
  conjOfList_closed .succeed .fail .conj

theorem conjDOfList_pres : ∀ (gs : List (Goal St K)), (∀ g ∈ gs, PresG P g) → PresG P (conjDOfList gs) :=
  conjDOfList_closed .succeed .fail .conjD

theorem altOfList_pres : ∀ (gs : List (Goal St K)), (∀ g ∈ gs, PresG P g) → PresG P (altOfList gs) :=
  altOfList_closed .fail .alt

theorem altDOfList_pres : ∀ (gs : List (Goal St K)), (∀ g ∈ gs, PresG P g) → PresG P (altDOfList gs) :=
  altDOfList_closed .fail .altD

theorem disjOfList_pres : ∀ (gs : List (Goal St K)), (∀ g ∈ gs, PresG P g) → PresG P (disjOfList gs)
  | [], _ => .fail
  | g :: gs, h => .disj (h g (List.mem_cons_self ..)) (disjOfList_pres gs fun x hx => h x (List.mem_cons_of_mem _ hx))

theorem disjDOfList_pres : ∀ (gs : List (Goal St K)), (∀ g ∈ gs, PresG P g) → PresG P (disjDOfList gs)
  | [], _ => .fail
  | g :: gs, h => .disjD (h g (List.mem_cons_self ..)) (disjDOfList_pres gs fun x hx => h x (List.mem_cons_of_mem _ hx))

theorem condeOfClauses_pres (cs : List (List (Goal St K))) (h : ∀ c ∈ cs, ∀ g ∈ c, PresG P g) :
    PresG P (condeOfClauses cs) :=
  altOfList_pres _ fun g hg => by
    obtain ⟨c, hc, rfl⟩ := List.mem_map.1 hg
    exact conjOfList_pres c (h c hc)

theorem condeDOfClauses_pres (cs : List (List (Goal St K))) (h : ∀ c ∈ cs, ∀ g ∈ c, PresG P g) :
    PresG P (condeDOfClauses cs) :=
  altDOfList_pres _ fun g hg => by
    obtain ⟨c, hc, rfl⟩ := List.mem_map.1 hg
    exact conjDOfList_pres c (h c hc)

theorem condaOfClauses_pres : ∀ (cs : List (List (Goal St K))), (∀ c ∈ cs, ∀ g ∈ c, PresG P g) →
    PresG P (condaOfClauses cs)
  | [], _ => .fail
  | [] :: cs, h => by
    simp only [condaOfClauses]
    exact condaOfClauses_pres cs fun c hc => h c (List.mem_cons_of_mem _ hc)
  | (f :: r) :: cs, h => by
    simp only [condaOfClauses]
    have hc := h (f :: r) (List.mem_cons_self ..)
    exact .conda (hc f (List.mem_cons_self ..)) (conjOfList_pres r fun x hx => hc x (List.mem_cons_of_mem _ hx))
      (condaOfClauses_pres cs fun c hc => h c (List.mem_cons_of_mem _ hc))

theorem conduOfClauses_pres : ∀ (cs : List (List (Goal St K))), (∀ c ∈ cs, ∀ g ∈ c, PresG P g) →
    PresG P (conduOfClauses cs)
  | [], _ => .fail
  | [] :: cs, h => by
    simp only [conduOfClauses]
    exact conduOfClauses_pres cs fun c hc => h c (List.mem_cons_of_mem _ hc)
  | (f :: r) :: cs, h => by
    simp only [conduOfClauses]
    have hc := h (f :: r) (List.mem_cons_self ..)
    exact .condu (hc f (List.mem_cons_self ..)) (conjOfList_pres r fun x hx => hc x (List.mem_cons_of_mem _ hx))
      (conduOfClauses_pres cs fun c hc => h c (List.mem_cons_of_mem _ hc))

theorem onceo_pres (gs : List (Goal St K)) (h : ∀ g ∈ gs, PresG P g) : PresG P (onceo gs) :=
  .condu (conjOfList_pres gs h) .succeed .fail

end Pv
