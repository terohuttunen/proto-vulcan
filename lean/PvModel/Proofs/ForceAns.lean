/-
  Runs of the labelling goals (`force_ans` and the conjunctions it builds) on the textbook semantics, in general.
  A labelling goal lets a poisoned state through (`Pass`); what it guarantees is said of runs from an unpoisoned state
  that deliver no poisoned state (`Run I C`: start states with `I`, start state and delivered list related by `C`).
  Both compose through conjunctions, and `forceAns_run` is the one induction over `force_ans`: every fact about
  labelling (partition, reach, separation, grounding, identity without domains) is an instance of it.
-/
import PvModel.Proofs.FDProgram
import PvModel.Proofs.EvalR
import PvModel.Proofs.Builders
namespace Pv
open State Term Goal FD

theorem iterItems_cons (h t : Term) : (Term.cons h t).iterItems = h :: t.iterItems := by
  simp only [Term.iterItems, Term.listElems]
  cases hl : t.listElems with
  | mk es tl =>
    simp only
    cases tl <;> rfl

theorem iterItems_ind {motive : Term → Prop} (cons : ∀ h t, motive t → motive (.cons h t)) (nil : motive .nil)
    (atom : ∀ t, t.iterItems = [t] → motive t) : ∀ t, motive t := by
  intro t
  induction t with
  | cons h t _ iht => exact cons h t iht
  | nil => exact nil
  | var _ => exact atom _ rfl
  | val _ => exact atom _ rfl
  | comp _ _ _ => exact atom _ rfl

section
variable (dfs : Call → State → State × G)

/-- the goal lets a poisoned state through, and is not the goal `fail` (so `mkConj` keeps it) -/
structure Pass (g : G) : Prop where
  through : ∀ N s zs, s.panic ≠ none → evalRef dfs N g s = some zs → s ∈ zs
  notFail : g.isFail = false

/-- whenever `g`, run from an unpoisoned state with `I`, delivers no poisoned state, `C` relates the start state and the
    delivered list -/
def Run (I : State → Prop) (C : State → List State → Prop) (g : G) : Prop :=
  ∀ N s zs, I s → s.panic = none → evalRef dfs N g s = some zs → (∀ t ∈ zs, t.panic = none) → C s zs

theorem pass_succeed : Pass dfs (.succeed : G) :=
  ⟨fun _ _ _ _ h => by cases evalRef_succeed_some h; exact List.mem_singleton.2 rfl, rfl⟩

theorem pass_conj {g1 g2 : G} (h1 : Pass dfs g1) (h2 : Pass dfs g2) : Pass dfs (.conj g1 g2) :=
  ⟨fun N s zs hp h => by
    obtain ⟨M, xs, hx, h⟩ := evalRef_conj_some h
    have hs1 := h1.through M s xs hp hx
    obtain ⟨ys, e⟩ := flatMapM_some_of_mem h s hs1
    exact (flatMapM_mem h s).2 ⟨s, hs1, ys, e, h2.through M s ys hp e⟩, rfl⟩

omit dfs in
theorem conjOfList_ind {C : G → Prop} (hs : C .succeed) (hc : ∀ g1 g2, C g1 → C g2 → C (.conj g1 g2))
    (hf : ∀ g, C g → g.isFail = false) : ∀ gs : List G, (∀ g ∈ gs, C g) → C (Goal.conjOfList gs) := by
  intro gs
  induction gs with
  | nil => exact fun _ => hs
  | cons g gs ih =>
    intro h
    have h1 := h g List.mem_cons_self
    have h2 := ih fun x hx => h x (List.mem_cons_of_mem _ hx)
    refine mkConj_cases (P := C) (fun _ _ => hs) (fun e => ?_) (hc g _ h1 h2)
    rcases e with e | e
    · rw [e] at h1; exact nomatch hf _ h1
    · rw [e] at h2; exact nomatch hf _ h2

theorem pass_conjOfList (gs : List G) (h : ∀ g ∈ gs, Pass dfs g) : Pass dfs (Goal.conjOfList gs) :=
  conjOfList_ind (pass_succeed dfs) (fun _ _ => pass_conj dfs) (fun _ h => h.notFail) gs h

/-- no intermediate state of a conjunction is poisoned when no result is: the second goal would let it through -/
theorem unpoisoned_of_flatMapM {g : G} (hg : Pass dfs g) {N : Nat} {xs zs : List State}
    (h : flatMapM (evalRef dfs N g) xs = some zs) (hall : ∀ z ∈ zs, z.panic = none) : ∀ t ∈ xs, t.panic = none :=
  fun t ht => Decidable.byContradiction fun hne => by
    obtain ⟨ys, e⟩ := flatMapM_some_of_mem h t ht
    exact hne (hall t ((flatMapM_mem h t).2 ⟨t, ht, ys, e, hg.through N t ys hne e⟩))

theorem run_succeed {I : State → Prop} {C : State → List State → Prop} (h : ∀ s, I s → C s [s]) :
    Run dfs I C (.succeed : G) :=
  fun _ s _ hi _ he _ => by cases evalRef_succeed_some he; exact h s hi

theorem run_conj {I : State → Prop} {C1 C2 C : State → List State → Prop} {g1 g2 : G}
    (h1 : Run dfs I C1 g1) (h2 : Run dfs I C2 g2) (p2 : Pass dfs g2)
    (keep : ∀ s xs, I s → C1 s xs → ∀ t ∈ xs, I t)
    (seq : ∀ s xs zs (f : State → Option (List State)), I s → C1 s xs → flatMapM f xs = some zs →
      (∀ t ∈ xs, ∀ ys, f t = some ys → C2 t ys) → C s zs) :
    Run dfs I C (.conj g1 g2) := by
  intro N s zs hi hp h hall
  obtain ⟨M, xs, hx, h⟩ := evalRef_conj_some h
  have hxs := unpoisoned_of_flatMapM dfs p2 h hall
  have c1 := h1 M s xs hi hp hx hxs
  exact seq s xs zs _ hi c1 h fun t ht ys e =>
    h2 M t ys (keep s xs hi c1 t ht) (hxs t ht) e fun y hy => hall y ((flatMapM_mem h y).2 ⟨t, ht, ys, e, hy⟩)

theorem evalRef_alt_atoms {α : Type} (f : α → State → Option State) (st : State) : ∀ l : List α,
    evalRef dfs (l.length + 2) (Goal.altOfList (l.map fun a => (.atom (f a) : G))) st = some (l.filterMap fun a => f a st)
  | [] => rfl
  | a :: l => by
    refine evalRef_alt_iff.2 ⟨(f a st).toList, _, rfl, evalRef_alt_atoms f st l, ?_⟩
    cases hf : f a st <;> simp only [List.filterMap_cons, hf, Option.toList, List.nil_append, List.cons_append]

theorem evalRef_alt_atoms_eq {α : Type} (f : α → State → Option State) (l : List α) (N : Nat) (st : State)
    (zs : List State) (h : evalRef dfs N (Goal.altOfList (l.map fun a => (.atom (f a) : G))) st = some zs) :
    zs = l.filterMap fun a => f a st :=
  evalR_det ⟨N, h⟩ ⟨_, evalRef_alt_atoms dfs f st l⟩

variable (ord : Order)

omit dfs in
/-- `force_ans(x)` is neither `succeed` nor `fail`: `Conj::new` (`mkConj`) takes no short-cut on it -/
theorem forceAns_no_shortcut (n : Nat) (x : Term) :
    (forceAns ord n x).isSucceed = false ∧ (forceAns ord n x).isFail = false := by
  cases n <;> exact ⟨rfl, rfl⟩

theorem forceAns_pass (n : Nat) (x : Term) : Pass dfs (forceAns ord n x) := by
  refine ⟨fun N s zs hp h => ?_, (forceAns_no_shortcut ord n x).2⟩
  have hps : s.panic.isSome = true := Option.isSome_iff_ne_none.2 hp
  cases N with
  | zero => cases h
  | succ N =>
    cases n with
    | zero =>
      cases evalRef_atom_some h
      rw [liftRes_poisoned hp]
      exact List.mem_singleton.2 rfl
    | succ n =>
      simp only [forceAns, evalRef, id, hps, if_true] at h
      cases evalRef_succeed_some h
      exact List.mem_singleton.2 rfl

theorem forceAns_zero_poisons {x : Term} {N : Nat} {s : State} {zs : List State} (hp : s.panic = none)
    (h : evalRef dfs N (forceAns ord 0 x) s = some zs) (hall : ∀ t ∈ zs, t.panic = none) : False := by
  cases evalRef_atom_some h
  cases hall _ (Option.mem_toList.2 (liftRes_fuel hp rfl))

omit dfs in
theorem conjOfList_forceAns_cons (n : Nat) (f : Term) (fs : List Term) :
    Goal.conjOfList ((f :: fs).map (forceAns ord n)) =
      .conj (forceAns ord n f) (Goal.conjOfList (fs.map (forceAns ord n))) := by
  have a := forceAns_no_shortcut ord n f
  have b : (Goal.conjOfList (fs.map (forceAns ord n))).isFail = false :=
    conjOfList_ind (C := fun g => g.isFail = false) rfl (fun _ _ _ _ => rfl) (fun _ h => h) _ fun g hg => by
      obtain ⟨y, _, rfl⟩ := List.mem_map.1 hg
      exact (forceAns_no_shortcut ord n y).2
  show mkConj _ _ = _
  unfold mkConj
  rw [a.1, a.2, b]
  rfl

theorem pass_forceList (n : Nat) (fs : List Term) : Pass dfs (Goal.conjOfList (fs.map (forceAns ord n))) :=
  pass_conjOfList dfs _ fun g hg => by
    obtain ⟨y, _, rfl⟩ := List.mem_map.1 hg
    exact forceAns_pass dfs ord n y

/-- the labelling equality `v == xv`, as the engine's atom runs it -/
def labelStep (xv : Nat) (v : Int) : State → Option State := liftRes fun st => st.unify ord (Term.num v) (.var xv)

/-- the sub-terms `force_ans` descends into, of a walked term that is not a variable -/
def labelFields : Term → List Term
  | .cons h t => [h, t]
  | .comp _ args => compFields args
  | _ => []

theorem evalRef_forceAns_succ {n N : Nat} {x : Term} {s : State} {zs : List State} (hp : s.panic = none)
    (h : evalRef dfs N (forceAns ord (n + 1) x) s = some zs) :
    (∃ xv, walk s.σ x = .var xv ∧
      ((∃ d, s.dget xv = some d ∧ zs = d.iter.filterMap fun v => labelStep ord xv v s) ∨
       (s.dget xv = none ∧ zs = [s]))) ∨
    ((∀ xv, walk s.σ x ≠ .var xv) ∧
      ∃ M, evalRef dfs M (Goal.conjOfList ((labelFields (walk s.σ x)).map (forceAns ord n))) s = some zs) := by
  cases N with
  | zero => cases h
  | succ N =>
    simp only [forceAns, evalRef, id, hp, Option.isSome_none, Bool.false_eq_true, if_false] at h
    split at h
    · rename_i xv hw
      refine .inl ⟨xv, hw, ?_⟩
      split at h
      · rename_i d hd
        exact .inl ⟨d, hd, evalRef_alt_atoms_eq dfs (labelStep ord xv) d.iter N s zs h⟩
      · rename_i hd
        exact .inr ⟨hd, evalRef_succeed_some h⟩
    · rename_i hd tl hw
      refine .inr ⟨fun xv e => (by rw [hw] at e; cases e), N, ?_⟩
      rw [hw]; exact h
    · rename_i tag args hw
      refine .inr ⟨fun xv e => (by rw [hw] at e; cases e), N, ?_⟩
      rw [hw]; exact h
    · rename_i h1 h2 h3
      refine .inr ⟨h1, N, ?_⟩
      have : labelFields (walk s.σ x) = [] := by
        cases hw : walk s.σ x with
        | var z => exact absurd hw (h1 z)
        | cons a b => exact absurd hw (h2 a b)
        | comp g a => exact absurd hw (h3 g a)
        | val _ => rfl
        | nil => rfl
      rw [this]; exact h

section Induction
variable {I : State → Prop} {C : List Term → State → List State → Prop}
  (nil : ∀ s, I s → C [] s [s])
  (seq : ∀ f fs s xs zs (g : State → Option (List State)), I s → C [f] s xs → flatMapM g xs = some zs →
    (∀ t ∈ xs, ∀ ys, g t = some ys → C fs t ys) → C (f :: fs) s zs)
  (keep : ∀ f s xs, I s → C [f] s xs → ∀ t ∈ xs, I t)
include nil seq keep

theorem forceList_run (n : Nat) (ih : ∀ x, Run dfs I (C [x]) (forceAns ord n x)) :
    ∀ fs, Run dfs I (C fs) (Goal.conjOfList (fs.map (forceAns ord n))) := by
  intro fs
  induction fs with
  | nil => exact run_succeed dfs nil
  | cons f fs ihf =>
    rw [conjOfList_forceAns_cons]
    exact run_conj dfs (ih f) ihf (pass_forceList dfs ord n fs) (keep f) (seq f fs)

/-- `C fs s zs` speaks of labelling the terms `fs` one after the other from `s`. -/
theorem forceAns_run
    (free : ∀ x s xv, I s → walk s.σ x = .var xv → s.dget xv = none → C [x] s [s])
    (var : ∀ x s xv d zs, I s → s.panic = none → walk s.σ x = .var xv → s.dget xv = some d →
      zs = d.iter.filterMap (fun v => labelStep ord xv v s) → (∀ t ∈ zs, t.panic = none) → C [x] s zs)
    (sub : ∀ x s zs, I s → (∀ xv, walk s.σ x ≠ .var xv) → C (labelFields (walk s.σ x)) s zs → C [x] s zs) :
    ∀ (n : Nat) (x : Term), Run dfs I (C [x]) (forceAns ord n x) := by
  intro n
  induction n with
  | zero => exact fun _ _ _ _ _ hp h hall => (forceAns_zero_poisons dfs ord hp h hall).elim
  | succ n ih =>
    intro x N s zs hi hp h hall
    rcases evalRef_forceAns_succ dfs ord hp h with ⟨xv, hw, ⟨d, hd, hz⟩ | ⟨hd, hz⟩⟩ | ⟨hnv, M, h'⟩
    · exact var x s xv d zs hi hp hw hd hz hall
    · subst hz; exact free x s xv hi hw hd
    · exact sub x s zs hi hnv (forceList_run dfs ord nil seq keep n ih _ M s zs hi hp h' hall)

end Induction

end
end Pv
