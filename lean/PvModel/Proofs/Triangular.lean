/-
  The triangular algorithm of the code (Model/Triangular.lean) refines the solved-form model (Model/Unify.lean).

  `absT τ` is the solved form a triangular substitution stands for, defined by recursion on the list of bindings
  (no walking, no fuel); `TriOK` is the invariant `unify_rec` maintains.

  The model recurses into children that are already substituted, the code into raw ones, so the two are compared on
  terms with the same meaning under `τ` (`SameAs`); their walks have the same head.  What `unify_rec` does on a pair of
  walked terms is stated once (`unifyCase`), `unifyT` and `unifyF` are instances of it, and `unifyCase_rel` relates two
  instances case by case: refinement, independence of the occurs-check fuel and progress are that rule for three
  relations.
-/
import PvModel.Model.Triangular
import PvModel.Proofs.Unify
namespace Pv
open Term

/-- the solved form a triangular substitution stands for -/
def absT : TSub → Subst
  | [] => Subst.id
  | (x, t) :: τ => bindS x (apply (absT τ) t) (absT τ)

/-- `t` is walked: not a bound variable -/
def Walked (τ : TSub) (t : Term) : Prop := ∀ y, t = .var y → τ.get y = none

/-- the invariant of `unify_rec`: each binding was made on an unbound variable, to a walked term, after the occurs check -/
inductive TriOK : TSub → Prop
  | nil : TriOK []
  | cons {x : Nat} {t : Term} {τ : TSub} : TriOK τ → τ.get x = none → Walked τ t →
      occurs x (apply (absT τ) t) = false → TriOK ((x, t) :: τ)

/-- the solved-form extension list of the bindings `new` made on top of `τ` (newest first) -/
def extF : TSub → TSub → Ext1
  | [], _ => []
  | (x, t) :: new, τ => (x, apply (absT (new ++ τ)) t) :: extF new τ

theorem extF_append (a b τ : TSub) : extF (a ++ b) τ = extF a (b ++ τ) ++ extF b τ := by
  induction a with
  | nil => rfl
  | cons p a ih => obtain ⟨x, t⟩ := p; simp [extF, ih, List.append_assoc]

theorem absT_unbound {τ : TSub} {x : Nat} (h : τ.get x = none) : absT τ x = .var x := by
  induction τ with
  | nil => rfl
  | cons p τ ih =>
    obtain ⟨z, s⟩ := p
    replace h : (if z = x then some s else TSub.get τ x) = none := h
    by_cases hz : z = x
    · rw [if_pos hz] at h
      cases h
    · rw [if_neg hz] at h
      show apply (sub1 z _) (absT τ x) = _
      rw [ih h]
      exact if_neg (fun e => hz e.symm)

theorem TriOK.solved {τ : TSub} (h : TriOK τ) : Solved (absT τ) := by
  induction h with
  | nil => exact solved_id
  | cons _ hx _ ho ih => exact (bind_ok ih (absT_unbound hx) (apply_idem ih _) ho).1

theorem TriOK.ext_cons {x : Nat} {t : Term} {τ : TSub} (h : TriOK ((x, t) :: τ)) : Ext (absT τ) (absT ((x, t) :: τ)) := by
  cases h with
  | cons h hx _ ho => exact (bind_ok h.solved (absT_unbound hx) (apply_idem h.solved _) ho).2.1

theorem TriOK.tail {new τ : TSub} (h : TriOK (new ++ τ)) : TriOK τ := by
  induction new with
  | nil => exact h
  | cons p new ih => cases h with | cons h _ _ _ => exact ih h

theorem TriOK.ext_append {new τ : TSub} (h : TriOK (new ++ τ)) : Ext (absT τ) (absT (new ++ τ)) := by
  induction new with
  | nil => exact Ext.refl _ h.solved
  | cons p new ih =>
    obtain ⟨x, t⟩ := p
    have h' : TriOK (new ++ τ) := by cases h with | cons h _ _ _ => exact h
    exact Ext.trans (ih h') (TriOK.ext_cons h)

theorem walked_nonvar {τ : TSub} {t : Term} (h : t.isVar = false) : Walked τ t := by
  intro y hy; subst hy; cases h

theorem Walked.cons {τ : TSub} {t s : Term} {z : Nat} (h : Walked τ t) (hne : t ≠ .var z) :
    Walked ((z, s) :: τ) t := by
  intro y hy
  subst hy
  show (if z = y then some s else τ.get y) = none
  rw [if_neg (fun e => hne (by rw [e]))]
  exact h y rfl

theorem walkT_walked {τ : TSub} {t : Term} (n : Nat) (h : Walked τ t) : walkT (n + 1) τ t = some t := by
  cases t with
  | var y => rw [walkT, h y rfl]
  | _ => rfl

theorem walkT_step {τ : TSub} {z : Nat} {s : Term} (hz : τ.get z = none) (hs : Walked τ s) (hne : s ≠ .var z) :
    ∀ (n x : Nat) (w : Term), walkT n τ (.var x) = some w →
      walkT (n + 1) ((z, s) :: τ) (.var x) = some (if w = .var z then s else w) := by
  intro n
  induction n with
  | zero => intro x w h; cases h
  | succ n ih =>
    intro x w h
    rw [walkT] at h ⊢
    by_cases hxz : z = x
    · subst hxz
      rw [hz] at h
      cases h
      rw [show TSub.get ((z, s) :: τ) z = some s from if_pos rfl, if_pos rfl]
      exact walkT_walked n (hs.cons hne)
    · rw [show TSub.get ((z, s) :: τ) x = τ.get x from if_neg hxz]
      cases hg : τ.get x with
      | none =>
        rw [hg] at h
        cases h
        rw [if_neg (fun e => hxz (by cases e; rfl))]
      | some r =>
        rw [hg] at h
        cases r with
        | var y => exact ih y w h
        | _ =>
          cases n with
          | zero => cases h
          | succ n => cases h; rw [if_neg (fun e => by cases e)]; rfl

/-- what `walk` returns -/
structure WalkSpec (τ : TSub) (u w : Term) : Prop where
  sem : apply (absT τ) w = apply (absT τ) u
  walked : Walked τ w
  nonvar : u.isVar = false → w = u

/-- `SMap::walk` terminates within `length + 1` steps, on a walked term with the same meaning -/
theorem walkT_spec {τ : TSub} (h : TriOK τ) : ∀ u, ∃ w, τ.walk u = some w ∧ WalkSpec τ u w := by
  induction h with
  | nil => exact fun u => ⟨u, walkT_walked 0 (fun _ _ => rfl), rfl, fun _ _ => rfl, fun _ => rfl⟩
  | @cons z s τ hτ hz hs ho ih =>
    intro u
    cases u with
    | var x =>
      obtain ⟨w, hw, sp⟩ := ih (.var x)
      have hne : s ≠ .var z := by
        intro e
        subst e
        rw [show apply (absT τ) (.var z) = .var z from absT_unbound hz, occurs, beq_self_eq_true] at ho
        cases ho
      refine ⟨_, walkT_step hz hs hne _ x w hw, ?_, ?_, fun h => by cases h⟩
      · show apply (bindS z _ (absT τ)) _ = apply (bindS z _ (absT τ)) _
        rw [apply_bindS, apply_bindS, ← sp.sem]
        split
        · rename_i e
          subst e
          simp only [apply, absT_unbound hz, sub1, if_true]
          rw [apply_sub1_noocc ho]
        · rfl
      · split
        · exact hs.cons hne
        · rename_i e
          exact sp.walked.cons e
    | _ => exact ⟨_, rfl, rfl, walked_nonvar rfl, fun _ => rfl⟩

theorem WalkSpec.var_unbound {τ : TSub} {u : Term} {y : Nat} (h : WalkSpec τ u (.var y)) : absT τ y = .var y :=
  absT_unbound (h.walked y rfl)

/-- `occurs_check(x, t)` is `occurs x (walk_star t)`, with fuel the size of the walked term -/
theorem occursT_spec {τ : TSub} (h : TriOK τ) (x : Nat) : ∀ (n : Nat) (t : Term), size (apply (absT τ) t) ≤ n →
    occursT n τ x t = some (occurs x (apply (absT τ) t)) := by
  intro n
  induction n with
  | zero => intro t ht; exact absurd (size_pos _) (Nat.not_lt.mpr ht)
  | succ n ih =>
    intro t ht
    obtain ⟨w, hw, sp⟩ := walkT_spec h t
    rw [occursT, hw]
    rw [← sp.sem] at ht ⊢
    cases w with
    | var y => show some (x == y) = some (occurs x (absT τ y)); rw [sp.var_unbound]; rfl
    | val a => rfl
    | nil => rfl
    | cons a b =>
      obtain ⟨ha, hb⟩ := size_cons_le ht
      simp only [apply, occurs]
      rw [ih a ha, ih b hb]
      cases occurs x (apply (absT τ) a) <;> rfl
    | comp g a => exact ih a (Nat.le_of_succ_le_succ ht)

theorem walkStarT_spec {τ : TSub} (h : TriOK τ) : ∀ (n : Nat) (t : Term), size (apply (absT τ) t) ≤ n →
    walkStarT n τ t = some (apply (absT τ) t) := by
  intro n
  induction n with
  | zero => intro t ht; exact absurd (size_pos _) (Nat.not_lt.mpr ht)
  | succ n ih =>
    intro t ht
    obtain ⟨w, hw, sp⟩ := walkT_spec h t
    rw [walkStarT, hw]
    rw [← sp.sem] at ht ⊢
    cases w with
    | var y => show some (Term.var y) = some (absT τ y); rw [sp.var_unbound]
    | val a => rfl
    | nil => rfl
    | cons a b =>
      obtain ⟨ha, hb⟩ := size_cons_le ht
      simp only [apply]
      rw [ih a ha, ih b hb]
    | comp g a =>
      simp only [apply]
      rw [ih a (Nat.le_of_succ_le_succ ht)]; rfl

theorem occursT_sound {τ : TSub} (h : TriOK τ) (x : Nat) : ∀ (n : Nat) (t : Term) (b : Bool),
    occursT n τ x t = some b → b = occurs x (apply (absT τ) t) := by
  intro n
  induction n with
  | zero => intro t b hb; simp [occursT] at hb
  | succ n ih =>
    intro t b hb
    obtain ⟨w, hw, sp⟩ := walkT_spec h t
    rw [occursT, hw] at hb
    rw [← sp.sem]
    cases w with
    | var y => cases hb; show (x == y) = occurs x (absT τ y); rw [sp.var_unbound]; rfl
    | val a => cases hb; rfl
    | nil => cases hb; rfl
    | cons a c =>
      simp only [apply, occurs]
      dsimp only at hb
      cases ha : occursT n τ x a with
      | none => rw [ha] at hb; cases hb
      | some ba =>
        rw [ha] at hb
        have e1 := ih a ba ha
        cases ba with
        | true => simp only [Option.some.injEq] at hb; rw [← e1, ← hb]; rfl
        | false => simp only at hb; rw [← e1, ← ih c b hb]; rfl
    | comp g a => simp only [apply, occurs]; dsimp only at hb; exact ih a b hb

/-- the case distinction of `unify_rec` on a pair of walked terms, with what is done in each case left open: both
    `unifyT` and `unifyF` are instances (`unifyT_succ`, `unifyF_succ`) -/
def unifyCase {R : Type} (same fail : R) (bind : Nat → Term → R) (sub : Term → Term → R)
    (seq : Term → Term → Term → Term → R) : Term → Term → R
  | .var x, .var y => if x = y then same else bind x (.var y)
  | .var x, t => bind x t
  | t, .var y => bind y t
  | .val a, .val b => if a = b then same else fail
  | .nil, .nil => same
  | .cons h1 t1, .cons h2 t2 => seq h1 h2 t1 t2
  | .comp g1 a1, .comp g2 a2 => if g1 = g2 then sub a1 a2 else fail
  | _, _ => fail

/-- the same head, and children related by `C` -/
inductive HeadRel (C : Term → Term → Prop) : Term → Term → Prop
  | var (x : Nat) : HeadRel C (.var x) (.var x)
  | val (a : Val) : HeadRel C (.val a) (.val a)
  | nil : HeadRel C .nil .nil
  | cons {a b a' b' : Term} : C a a' → C b b' → HeadRel C (.cons a b) (.cons a' b')
  | comp (g : Nat) {a a' : Term} : C a a' → HeadRel C (.comp g a) (.comp g a')

/-- `W` is any property of the two left terms (that they are walked). -/
theorem unifyCase_rel {R R' : Type} {C : Term → Term → Prop} {W : Term → Prop} (P : R → R' → Prop)
    {same fail : R} {bind : Nat → Term → R} {sub : Term → Term → R} {seq : Term → Term → Term → Term → R}
    {same' fail' : R'} {bind' : Nat → Term → R'} {sub' : Term → Term → R'}
    {seq' : Term → Term → Term → Term → R'}
    {wu wv qu qv : Term} (hWu : W wu) (hWv : W wv) (hu : HeadRel C wu qu) (hv : HeadRel C wv qv)
    (hsame : P same same') (hfail : P fail fail')
    (hbind : ∀ x t t', W (.var x) → W t → HeadRel C t t' → P (bind x t) (bind' x t'))
    (hsub : ∀ a1 a2 a1' a2', C a1 a1' → C a2 a2' → P (sub a1 a2) (sub' a1' a2'))
    (hseq : ∀ h1 h2 t1 t2 h1' h2' t1' t2', C h1 h1' → C h2 h2' → C t1 t1' → C t2 t2' →
      P (seq h1 h2 t1 t2) (seq' h1' h2' t1' t2')) :
    P (unifyCase same fail bind sub seq wu wv) (unifyCase same' fail' bind' sub' seq' qu qv) := by
  cases hu with
  | var x =>
    cases hv with
    | var y =>
      show P (if x = y then same else bind x (.var y)) (if x = y then same' else bind' x (.var y))
      split
      · exact hsame
      · exact hbind x _ _ hWu hWv (.var y)
    | val a => exact hbind x _ _ hWu hWv (.val a)
    | nil => exact hbind x _ _ hWu hWv .nil
    | cons ha hb => exact hbind x _ _ hWu hWv (.cons ha hb)
    | comp g ha => exact hbind x _ _ hWu hWv (.comp g ha)
  | val a =>
    cases hv with
    | var y => exact hbind y _ _ hWv hWu (.val a)
    | val b =>
      show P (if a = b then same else fail) (if a = b then same' else fail')
      split
      · exact hsame
      · exact hfail
    | _ => exact hfail
  | nil =>
    cases hv with
    | var y => exact hbind y _ _ hWv hWu .nil
    | nil => exact hsame
    | _ => exact hfail
  | cons ha hb =>
    cases hv with
    | var y => exact hbind y _ _ hWv hWu (.cons ha hb)
    | cons ha' hb' => exact hseq _ _ _ _ _ _ _ _ ha ha' hb hb'
    | _ => exact hfail
  | comp g ha =>
    cases hv with
    | var y => exact hbind y _ _ hWv hWu (.comp g ha)
    | comp g' ha' =>
      show P (if g = g' then sub _ _ else fail) (if g = g' then sub' _ _ else fail')
      split
      · exact hsub _ _ _ _ ha ha'
      · exact hfail
    | _ => exact hfail

theorem HeadRel.refl (t : Term) : HeadRel (fun _ _ => True) t t := by
  cases t with
  | var x => exact .var x
  | val a => exact .val a
  | nil => exact .nil
  | cons a b => exact .cons trivial trivial
  | comp g a => exact .comp g trivial

theorem unifyCase_ind {R : Type} {W : Term → Prop} (P : R → Prop)
    {same fail : R} {bind : Nat → Term → R} {sub : Term → Term → R} {seq : Term → Term → Term → Term → R}
    {wu wv : Term} (hWu : W wu) (hWv : W wv) (hsame : P same) (hfail : P fail)
    (hbind : ∀ x t, W (.var x) → W t → P (bind x t)) (hsub : ∀ a1 a2, P (sub a1 a2))
    (hseq : ∀ h1 h2 t1 t2, P (seq h1 h2 t1 t2)) : P (unifyCase same fail bind sub seq wu wv) :=
  unifyCase_rel (fun r (_ : Unit) => P r) (same' := ()) (fail' := ()) (bind' := fun _ _ => ()) (sub' := fun _ _ => ())
    (seq' := fun _ _ _ _ => ()) hWu hWv (HeadRel.refl wu) (HeadRel.refl wv) hsame hfail
    (fun x t _ hx ht _ => hbind x t hx ht) (fun a1 a2 _ _ _ _ => hsub a1 a2)
    (fun h1 h2 t1 t2 _ _ _ _ _ _ _ _ => hseq h1 h2 t1 t2)

/-- `unify_rec` after its two walks; each case is a function of the occurs-check fuel -/
theorem unifyT_succ {k n : Nat} {τ e : TSub} {u v wu wv : Term} (hu : τ.walk u = some wu) (hv : τ.walk v = some wv) :
    unifyT k (n + 1) τ e u v =
      unifyCase (fun _ => some (some (τ, e))) (fun _ => some none) (fun x t k => bindT k τ e x t)
        (fun a1 a2 k => unifyT k n τ e a1 a2)
        (fun h1 h2 t1 t2 k => match unifyT k n τ e h1 h2 with
          | some (some (τ1, e1)) => unifyT k n τ1 e1 t1 t2
          | r => r) wu wv k := by
  rw [unifyT, hu, hv]
  cases wu <;> cases wv
  case var.var | val.val | comp.comp => simp only [unifyCase]; split <;> rfl
  all_goals rfl

/-- the binding step of `unifyF`: occurs check, then bind -/
def bindF (σ : Subst) (e : Ext1) (x : Nat) (t : Term) : Option (Option (Subst × Ext1)) :=
  if occurs x (apply σ t) then some none else some (some (bindS x (apply σ t) σ, (x, apply σ t) :: e))

/-- the solved-form `unify_rec` after its two walks.  (Between two distinct unbound variables it binds without an
    occurs check, which would not fire.) -/
theorem unifyF_succ {n : Nat} {σ : Subst} {e : Ext1} {u v : Term} (hs : Solved σ) :
    unifyF (n + 1) σ e u v =
      unifyCase (some (some (σ, e))) (some none) (bindF σ e) (unifyF n σ e)
        (fun h1 h2 t1 t2 => match unifyF n σ e h1 h2 with
          | some (some (σ1, e1)) => unifyF n σ1 e1 t1 t2
          | r => r) (walk σ u) (walk σ v) := by
  have hv := walk_normal hs v
  rw [unifyF]
  generalize walk σ u = qu
  generalize walk σ v = qv at hv
  cases qu <;> cases qv
  case var.var x y =>
    simp only [unifyCase, bindF, apply, hv y rfl, occurs]
    split
    · rfl
    · rename_i hxy; simp [hxy]
  all_goals rfl

/-- `a'` has under `σ` the meaning of `a` -/
abbrev SameAs (σ : Subst) (a a' : Term) : Prop := apply σ a' = apply σ a

theorem HeadRel.sameAs {σ : Subst} {t t' : Term} (h : HeadRel (SameAs σ) t t') : apply σ t' = apply σ t := by
  cases h with
  | cons ha hb => show Term.cons _ _ = Term.cons _ _; rw [ha, hb]
  | comp g ha => exact congrArg (Term.comp g) ha
  | _ => rfl

theorem headRel_of_apply_eq {σ : Subst} {w q : Term} (hw : ∀ y, w = .var y → σ y = .var y)
    (hq : ∀ y, q = .var y → σ y = .var y) (h : apply σ q = apply σ w) : HeadRel (SameAs σ) w q := by
  have hq' : ∀ y, q = .var y → apply σ w = .var y := fun y e => by subst e; rw [← h]; exact hq _ rfl
  cases w with
  | var x =>
    rw [show apply σ (.var x) = .var x from hw x rfl] at h
    cases q with
    | var y => cases (hq' y rfl).symm.trans (hw x rfl); exact .var x
    | _ => cases h
  | val a =>
    cases q with
    | var y => cases hq' y rfl
    | val b => cases h; exact .val a
    | _ => cases h
  | nil =>
    cases q with
    | var y => cases hq' y rfl
    | nil => exact .nil
    | _ => cases h
  | cons a b =>
    cases q with
    | var y => cases hq' y rfl
    | cons a' b' => injection h with ha hb; exact .cons ha hb
    | _ => cases h
  | comp g a =>
    cases q with
    | var y => cases hq' y rfl
    | comp g' a' => injection h with hg ha; subst hg; exact .comp g' ha
    | _ => cases h

theorem walk_match {τ : TSub} (h : TriOK τ) {u u' w : Term} (sp : WalkSpec τ u w)
    (hu : apply (absT τ) u' = apply (absT τ) u) : HeadRel (SameAs (absT τ)) w (walk (absT τ) u') :=
  headRel_of_apply_eq (fun y e => absT_unbound (sp.walked y e)) (walk_normal h.solved u')
    (by rw [walk_eq_apply_top h.solved, hu, sp.sem])

theorem TriOK.sameAs_append {new τ : TSub} (h : TriOK (new ++ τ)) {a a' : Term} (e : SameAs (absT τ) a a') :
    SameAs (absT (new ++ τ)) a a' := by
  show apply _ a' = apply _ a
  rw [← h.ext_append a', e, h.ext_append a]

/-- what a result of the triangular `unify_rec` says about the solved-form model run on terms with the same meaning -/
def Refines (n : Nat) (τ eT : TSub) (eF : Ext1) (u' v' : Term) : Option (TSub × TSub) → Prop
  | none => unifyF n (absT τ) eF u' v' = some none
  | some (τ', eT') => ∃ new, τ' = new ++ τ ∧ eT' = new ++ eT ∧ TriOK τ' ∧
      unifyF n (absT τ) eF u' v' = some (some (absT τ', extF new τ ++ eF))

theorem Refines.of_eq {n m : Nat} {τ eT : TSub} {eF : Ext1} {u' v' a b : Term} {r : Option (TSub × TSub)}
    (h : unifyF m (absT τ) eF a b = unifyF n (absT τ) eF u' v') :
    Refines n τ eT eF u' v' r → Refines m τ eT eF a b r := by
  cases r with
  | none => exact h.trans
  | some p => exact fun ⟨new, h1, h2, ok, hF⟩ => ⟨new, h1, h2, ok, h.trans hF⟩

/-- The triangular `unify_rec` on `τ`, on any fuel on which it answers, answers as the solved-form model on `absT τ`
    does, on `u`, `v` or any terms with the same meaning under `τ`. -/
theorem unifyT_refines (k : Nat) : ∀ (n : Nat) (τ eT : TSub) (eF : Ext1) (u v u' v' : Term), TriOK τ →
    apply (absT τ) u' = apply (absT τ) u → apply (absT τ) v' = apply (absT τ) v →
    ∀ r, unifyT k n τ eT u v = some r → Refines n τ eT eF u' v' r := by
  intro n
  induction n with
  | zero => intro τ eT eF u v u' v' _ _ _ r hr; cases hr
  | succ n ih =>
    intro τ eT eF u v u' v' hτ hu hv r hr
    obtain ⟨wu, hwu, su⟩ := walkT_spec hτ u
    obtain ⟨wv, hwv, sv⟩ := walkT_spec hτ v
    rw [unifyT_succ hwu hwv] at hr
    -- both sides take the same case; the relation speaks of ANY call of the model that computes `oF`, so that a
    -- recursive case can hand on what the induction hypothesis says of the call inside it
    refine unifyCase_rel
      (fun (fT : Nat → Option (Option (TSub × TSub))) oF => ∀ r, fT k = some r →
        ∀ m a b, unifyF m (absT τ) eF a b = oF → Refines m τ eT eF a b r)
      su.walked sv.walked (walk_match hτ su hu) (walk_match hτ sv hv) ?_ ?_ ?_ ?_ ?_ r hr _ _ _
      (unifyF_succ hτ.solved)
    · intro r hr m a b hF
      cases hr
      exact ⟨[], rfl, rfl, hτ, hF⟩
    · intro r hr m a b hF
      cases hr
      exact hF
    · intro x t t' hx ht htt r hr m a b hF
      rw [bindF, htt.sameAs] at hF
      unfold bindT at hr
      cases ho : occursT k τ x t with
      | none => rw [ho] at hr; cases hr
      | some o =>
        rw [ho] at hr
        have e := occursT_sound hτ x k t o ho
        subst e
        cases ho' : occurs x (apply (absT τ) t) with
        | true => rw [ho'] at hr hF; cases hr; exact hF
        | false =>
          rw [ho'] at hr hF
          cases hr
          exact ⟨[(x, t)], rfl, rfl, .cons hτ (hx x rfl) ht ho', hF⟩
    · intro a1 a2 a1' a2' h1 h2 r hr m a b hF
      exact (ih τ eT eF a1 a2 a1' a2' hτ h1 h2 r hr).of_eq hF
    · intro h1 h2 t1 t2 h1' h2' t1' t2' eh1 eh2 et1 et2 r hr m a b hF
      cases c1 : unifyT k n τ eT h1 h2 with
      | none => rw [c1] at hr; cases hr
      | some r1 =>
        have i1 := ih τ eT eF h1 h2 h1' h2' hτ eh1 eh2 r1 c1
        rw [c1] at hr
        cases r1 with
        | none =>
          cases hr
          rw [show unifyF n (absT τ) eF h1' h2' = some none from i1] at hF
          exact hF
        | some p =>
          obtain ⟨τ1, e1⟩ := p
          obtain ⟨new1, rfl, rfl, ok1, f1⟩ := i1
          rw [f1] at hF
          -- the tails are unified under the head's result, where they still mean the same
          have i2 := ih (new1 ++ τ) (new1 ++ eT) (extF new1 τ ++ eF) t1 t2 t1' t2' ok1
            (ok1.sameAs_append et1) (ok1.sameAs_append et2) r hr
          cases r with
          | none => exact hF.trans i2
          | some p2 =>
            obtain ⟨τ2, e2⟩ := p2
            obtain ⟨new2, rfl, rfl, ok2, f2⟩ := i2
            refine ⟨new2 ++ new1, (List.append_assoc ..).symm, (List.append_assoc ..).symm, ok2, ?_⟩
            rw [hF, extF_append, List.append_assoc]
            exact f2

theorem TriOK.of_unifyT {k n : Nat} {τ e τ' e' : TSub} {u v : Term} (h : TriOK τ)
    (hr : unifyT k n τ e u v = some (some (τ', e'))) : TriOK τ' := by
  obtain ⟨_, _, _, ok, _⟩ := unifyT_refines k n τ e [] u v u v h rfl rfl _ hr
  exact ok

theorem bindT_indep {τ : TSub} (h : TriOK τ) {k k' x : Nat} {t : Term} {e : TSub} {r r' : Option (TSub × TSub)}
    (h1 : bindT k τ e x t = some r) (h2 : bindT k' τ e x t = some r') : r = r' := by
  unfold bindT at h1 h2
  cases o1 : occursT k τ x t with
  | none => rw [o1] at h1; cases h1
  | some b1 =>
    cases o2 : occursT k' τ x t with
    | none => rw [o2] at h2; cases h2
    | some b2 =>
      cases (occursT_sound h x k t b1 o1).trans (occursT_sound h x k' t b2 o2).symm
      rw [o1] at h1
      rw [o2] at h2
      exact Option.some.inj (h1.symm.trans h2)

theorem unifyT_indep (k k' : Nat) : ∀ (n : Nat) (τ e : TSub) (u v : Term), TriOK τ → ∀ r r',
    unifyT k n τ e u v = some r → unifyT k' n τ e u v = some r' → r = r' := by
  intro n
  induction n with
  | zero => intro τ e u v _ r r' h; cases h
  | succ n ih =>
    intro τ e u v hτ r r' h1 h2
    obtain ⟨wu, hwu, su⟩ := walkT_spec hτ u
    obtain ⟨wv, hwv, sv⟩ := walkT_spec hτ v
    rw [unifyT_succ hwu hwv] at h1 h2
    refine unifyCase_ind
      (fun (fT : Nat → Option (Option (TSub × TSub))) => ∀ r r', fT k = some r → fT k' = some r' → r = r')
      su.walked sv.walked ?_ ?_ ?_ ?_ ?_ r r' h1 h2
    · intro r r' h1 h2; cases h1; cases h2; rfl
    · intro r r' h1 h2; cases h1; cases h2; rfl
    · intro x t _ _ r r' h1 h2
      exact bindT_indep hτ h1 h2
    · intro a1 a2
      exact ih τ e a1 a2 hτ
    · intro h1 h2 t1 t2 r r' c1 c2
      cases d1 : unifyT k n τ e h1 h2 with
      | none => rw [d1] at c1; cases c1
      | some r1 =>
        cases d2 : unifyT k' n τ e h1 h2 with
        | none => rw [d2] at c2; cases c2
        | some r2 =>
          cases ih τ e h1 h2 hτ r1 r2 d1 d2
          rw [d1] at c1; rw [d2] at c2
          cases r1 with
          | none => cases c1; cases c2; rfl
          | some p => exact ih p.1 p.2 t1 t2 (hτ.of_unifyT d1) r r' c1 c2

theorem bindT_of_le {τ : TSub} (h : TriOK τ) (e : TSub) (x : Nat) (t : Term) (k : Nat)
    (hk : size (apply (absT τ) t) ≤ k) :
    bindT k τ e x t = some (if occurs x (apply (absT τ) t) then none else some ((x, t) :: τ, (x, t) :: e)) := by
  unfold bindT
  rw [occursT_spec h x k t hk]
  cases occurs x (apply (absT τ) t) <;> rfl

theorem unifyT_total : ∀ (n : Nat) (τ eT : TSub) (eF : Ext1) (u v u' v' : Term), TriOK τ →
    apply (absT τ) u' = apply (absT τ) u → apply (absT τ) v' = apply (absT τ) v →
    ∀ rF, unifyF n (absT τ) eF u' v' = some rF → ∃ K r, ∀ k, K ≤ k → unifyT k n τ eT u v = some r := by
  intro n
  induction n with
  | zero => intro τ eT eF u v u' v' _ _ _ rF h; cases h
  | succ n ih =>
    intro τ eT eF u v u' v' hτ hu hv rF hF
    obtain ⟨wu, hwu, su⟩ := walkT_spec hτ u
    obtain ⟨wv, hwv, sv⟩ := walkT_spec hτ v
    rw [unifyF_succ hτ.solved] at hF
    simp only [unifyT_succ hwu hwv]
    refine unifyCase_rel
      (fun (fT : Nat → Option (Option (TSub × TSub))) oF =>
        ∀ rF, oF = some rF → ∃ K r, ∀ k, K ≤ k → fT k = some r)
      su.walked sv.walked (walk_match hτ su hu) (walk_match hτ sv hv) ?_ ?_ ?_ ?_ ?_ rF hF
    · intro _ _
      exact ⟨0, _, fun _ _ => rfl⟩
    · intro _ _
      exact ⟨0, _, fun _ _ => rfl⟩
    · intro x t _ _ _ _ _ _
      exact ⟨size (apply (absT τ) t), _, bindT_of_le hτ eT x t⟩
    · intro a1 a2 a1' a2' h1 h2
      exact ih τ eT eF a1 a2 a1' a2' hτ h1 h2
    · intro h1 h2 t1 t2 h1' h2' t1' t2' eh1 eh2 et1 et2 rF hF
      cases f1 : unifyF n (absT τ) eF h1' h2' with
      | none => rw [f1] at hF; cases hF
      | some r1F =>
        obtain ⟨K1, r1, hK1⟩ := ih τ eT eF h1 h2 h1' h2' hτ eh1 eh2 r1F f1
        have rf := unifyT_refines K1 n τ eT eF h1 h2 h1' h2' hτ eh1 eh2 r1 (hK1 K1 (Nat.le_refl _))
        cases r1 with
        | none => exact ⟨K1, none, fun k hk => by simp only [hK1 k hk]⟩
        | some p =>
          obtain ⟨τ1, e1⟩ := p
          obtain ⟨new1, rfl, rfl, ok1, f1'⟩ := rf
          rw [f1'] at hF
          obtain ⟨K2, r, hK2⟩ := ih (new1 ++ τ) (new1 ++ eT) (extF new1 τ ++ eF) t1 t2 t1' t2' ok1
            (ok1.sameAs_append et1) (ok1.sameAs_append et2) rF hF
          refine ⟨max K1 K2, r, fun k hk => ?_⟩
          simp only [hK1 k (Nat.le_trans (Nat.le_max_left ..) hk)]
          exact hK2 k (Nat.le_trans (Nat.le_max_right ..) hk)

/-- wherever the solved-form model answers on fuel `n`, the triangular algorithm answers on the same `n`, for every
    occurs-check fuel beyond some `K`: so `unifyT_refines` is never vacuous -/
theorem unifyT_progress : ∀ (n : Nat) (τ eT : TSub) (eF : Ext1) (u v u' v' : Term), TriOK τ →
    apply (absT τ) u' = apply (absT τ) u → apply (absT τ) v' = apply (absT τ) v →
    ∀ rF, unifyF n (absT τ) eF u' v' = some rF → ∃ K, ∀ k, K ≤ k → unifyT k n τ eT u v ≠ none := by
  intro n τ eT eF u v u' v' hτ hu hv rF hF
  obtain ⟨K, r, h⟩ := unifyT_total n τ eT eF u v u' v' hτ hu hv rF hF
  exact ⟨K, fun k hk e => by rw [h k hk] at e; cases e⟩

end Pv
