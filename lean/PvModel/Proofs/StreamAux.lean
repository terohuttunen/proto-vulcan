/-
  Auxiliary lemmas for Proofs/Stream.lean: stream algebra (`mplus`, `bind`, …) against the reference
  predicates, cost-indexed answer derivations (termination measure of draining), rank-indexed
  membership derivations (fairness measure); when the reference evaluator `evalRef` returns a list, by the
  form of the goal.
-/
import PvModel.Spec.Stream
import PvModel.Proofs.Builders
namespace Pv
open Strm Goal

variable {St K : Type}

/-- the solver used for paused goals solves `succeed`/`fail` at once.  This is what makes the
    `is_succeed`/`is_fail` short-cuts of `Stream::bind` semantically neutral: `bind` takes them syntactically,
    while the reference list and the members of a `bind` node are defined through `top`.  The theorems with a
    hypothesis `hT : TopOK top` fail without it: for a `top` with `top succeed a = empty`, the node
    `bind (delay (unit a)) succeed` (or `bindD …`) has the reference list `[]` and no member, but steps to
    `unit a`.  `TopOK` holds of every `solveAt defs pf (n + 1)` (`topOK_solveAt`). -/
def TopOK (top : Goal St K → St → Strm St K) : Prop :=
  ∀ a, top .succeed a = .unit a ∧ top .fail a = .empty

theorem TopOK.succeed {top : Goal St K → St → Strm St K} (hT : TopOK top) (a : St) : top .succeed a = .unit a :=
  (hT a).1

theorem TopOK.fail {top : Goal St K → St → Strm St K} (hT : TopOK top) (a : St) : top .fail a = .empty :=
  (hT a).2

theorem topOK_start (defs : K → St → St × Goal St K) (top : Goal St K → St → Strm St K) (pf : Nat) :
    TopOK (start defs top pf) := fun _ => ⟨by simp [start], by simp [start]⟩

theorem topOK_solveAt (defs : K → St → St × Goal St K) (pf n : Nat) : TopOK (solveAt defs pf (n + 1)) :=
  topOK_start defs _ pf

/-- the cases of the `is_succeed`/`is_fail` short-cuts of `Stream::bind` and `Conj::new` -/
theorem Goal.shortcut_cases (g : Goal St K) :
    g = .succeed ∨ g = .fail ∨ (g.isSucceed = false ∧ g.isFail = false) := by
  cases h1 : g.isSucceed
  · cases h2 : g.isFail
    · exact .inr (.inr ⟨rfl, rfl⟩)
    · exact .inr (.inl (isFail_iff.1 h2))
  · exact .inl (isSucceed_iff.1 h1)

@[simp] theorem bind_succeed (s : Strm St K) : bind s .succeed = s := rfl
@[simp] theorem bind_fail (s : Strm St K) : bind s .fail = .empty := rfl
@[simp] theorem bindD_succeed (s : Strm St K) : bindD s .succeed = s := rfl
@[simp] theorem bindD_fail (s : Strm St K) : bindD s .fail = .empty := rfl

/-- `Anyo::solve`: `conde { g, anyo { g } }`, whose first clause starts as `bind (unit a) g` -/
theorem start_anyo (defs : K → St → St × Goal St K) (top : Goal St K → St → Strm St K) (pf : Nat) (g : Goal St K)
    (a : St) : start defs top pf (.anyo g) a = mplus (bind (.unit a) g)
      (.delay (mplus (.lazy (.pause a (.anyo (mkConj (mkConj g .succeed) .succeed)))) (.delay .empty))) := rfl

section Ans
variable {top : Goal St K → St → Strm St K}

theorem ansB_succeed (hT : TopOK top) {xs ys : List St} (h : AnsB top .succeed xs ys) : ys = xs := by
  induction xs generalizing ys with
  | nil => cases h; rfl
  | cons a xs ih =>
    cases h with | cons h t =>
    rw [hT.succeed _] at h
    cases h; rw [ih t]; rfl

theorem ansB_fail (hT : TopOK top) {xs ys : List St} (h : AnsB top .fail xs ys) : ys = [] := by
  induction xs generalizing ys with
  | nil => cases h; rfl
  | cons a xs ih =>
    cases h with | cons h t =>
    rw [hT.fail _] at h
    cases h; exact ih t

end Ans

/-! ### cost-indexed answer derivations: the index bounds the number of engine steps (plus delivered
    answers) needed to exhaust the stream -/

section Cost
variable (top : Goal St K → St → Strm St K)

mutual
inductive AnsSc : Nat → Strm St K → List St → Prop where
  | empty {c} : AnsSc c .empty []
  | unit {c} (a : St) : AnsSc c (.unit a) [a]
  | cons {c c' a l xs} : AnsLc c' l xs → c' + 1 ≤ c → AnsSc c (.cons a l) (a :: xs)
  | lazy {c c' l xs} : AnsLc c' l xs → c' ≤ c → AnsSc c (.lazy l) xs
inductive AnsLc : Nat → Lz St K → List St → Prop where
  | mplus {c c1 c2 l1 l2 xs ys} : AnsLc c1 l1 xs → AnsLc c2 l2 ys → c1 + c2 + 1 ≤ c →
      AnsLc c (.mplus l1 l2) (xs ++ ys)
  | mplusD {c c1 c2 l1 l2 xs ys} : AnsLc c1 l1 xs → AnsLc c2 l2 ys → c1 + c2 + 1 ≤ c →
      AnsLc c (.mplusD l1 l2) (xs ++ ys)
  | pause {c c' a g xs} : AnsSc c' (top g a) xs → c' + 1 ≤ c → AnsLc c (.pause a g) xs
  | delay {c c' s xs} : AnsSc c' s xs → c' + 1 ≤ c → AnsLc c (.delay s) xs
  | bind {c c1 c2 l g xs ys} : AnsLc c1 l xs → AnsBc c2 g xs ys → c1 + c2 + 1 ≤ c → AnsLc c (.bind l g) ys
  | bindD {c c1 c2 l g xs ys} : AnsLc c1 l xs → AnsBc c2 g xs ys → c1 + c2 + 1 ≤ c → AnsLc c (.bindD l g) ys
inductive AnsBc : Nat → Goal St K → List St → List St → Prop where
  | nil {c g} : AnsBc c g [] []
  | cons {c c1 c2 g a xs ys zs} : AnsSc c1 (top g a) ys → AnsBc c2 g xs zs → c1 + c2 + 1 ≤ c →
      AnsBc c g (a :: xs) (ys ++ zs)
end
end Cost

section CostLemmas
variable {top : Goal St K → St → Strm St K}

theorem AnsSc.mono {c c' : Nat} {s : Strm St K} {xs} (h : AnsSc top c s xs) (hc : c ≤ c') :
    AnsSc top c' s xs := by
  cases h with
  | empty => exact .empty
  | unit a => exact .unit a
  | cons h h' => exact .cons h (Nat.le_trans h' hc)
  | lazy h h' => exact .lazy h (Nat.le_trans h' hc)

theorem AnsLc.mono {c c' : Nat} {l : Lz St K} {xs} (h : AnsLc top c l xs) (hc : c ≤ c') :
    AnsLc top c' l xs := by
  cases h with
  | mplus h1 h2 h' => exact .mplus h1 h2 (Nat.le_trans h' hc)
  | mplusD h1 h2 h' => exact .mplusD h1 h2 (Nat.le_trans h' hc)
  | pause h h' => exact .pause h (Nat.le_trans h' hc)
  | delay h h' => exact .delay h (Nat.le_trans h' hc)
  | bind h1 h2 h' => exact .bind h1 h2 (Nat.le_trans h' hc)
  | bindD h1 h2 h' => exact .bindD h1 h2 (Nat.le_trans h' hc)

theorem AnsBc.mono {c c' : Nat} {g : Goal St K} {xs ys} (h : AnsBc top c g xs ys) (hc : c ≤ c') :
    AnsBc top c' g xs ys := by
  cases h with
  | nil => exact .nil
  | cons h1 h2 h' => exact .cons h1 h2 (Nat.le_trans h' hc)

/-- the cases are those of `AnsS`, `AnsL`, `AnsB`, in this order -/
theorem AnsS.toC {s : Strm St K} {xs} (h : AnsS top s xs) : ∃ c, AnsSc top c s xs :=
  AnsS.rec (motive_1 := fun s xs _ => ∃ c, AnsSc top c s xs)
    (motive_2 := fun l xs _ => ∃ c, AnsLc top c l xs) (motive_3 := fun g xs ys _ => ∃ c, AnsBc top c g xs ys)
    ⟨0, .empty⟩ (fun a => ⟨0, .unit a⟩)
    (fun _ ⟨_, h⟩ => ⟨_, .cons h (Nat.le_refl _)⟩) (fun _ ⟨_, h⟩ => ⟨_, .lazy h (Nat.le_refl _)⟩)
    (fun _ _ ⟨_, h1⟩ ⟨_, h2⟩ => ⟨_, .mplus h1 h2 (Nat.le_refl _)⟩)
    (fun _ _ ⟨_, h1⟩ ⟨_, h2⟩ => ⟨_, .mplusD h1 h2 (Nat.le_refl _)⟩)
    (fun _ ⟨_, h⟩ => ⟨_, .pause h (Nat.le_refl _)⟩) (fun _ ⟨_, h⟩ => ⟨_, .delay h (Nat.le_refl _)⟩)
    (fun _ _ ⟨_, h1⟩ ⟨_, h2⟩ => ⟨_, .bind h1 h2 (Nat.le_refl _)⟩)
    (fun _ _ ⟨_, h1⟩ ⟨_, h2⟩ => ⟨_, .bindD h1 h2 (Nat.le_refl _)⟩)
    ⟨0, .nil⟩ (fun _ _ ⟨_, h1⟩ ⟨_, h2⟩ => ⟨_, .cons h1 h2 (Nat.le_refl _)⟩) h

theorem AnsL.toC : ∀ {l : Lz St K} {xs}, AnsL top l xs → ∃ c, AnsLc top c l xs := fun h =>
  match (AnsS.lazy h).toC with
  | ⟨_, .lazy hc _⟩ => ⟨_, hc⟩

theorem AnsB.toC : ∀ {g : Goal St K} {xs ys}, AnsB top g xs ys → ∃ c, AnsBc top c g xs ys := by
  intro g xs ys h
  induction xs generalizing ys with
  | nil => cases h; exact ⟨0, .nil⟩
  | cons a xs ih =>
    cases h with | cons h1 h2 =>
    obtain ⟨_, hc1⟩ := h1.toC
    obtain ⟨_, hc2⟩ := ih h2
    exact ⟨_, .cons hc1 hc2 (Nat.le_refl _)⟩

theorem AnsSc.ofC : ∀ {c} {s : Strm St K} {xs}, AnsSc top c s xs → AnsS top s xs := fun h =>
  AnsSc.rec (motive_1 := fun _ s xs _ => AnsS top s xs)
    (motive_2 := fun _ l xs _ => AnsL top l xs) (motive_3 := fun _ g xs ys _ => AnsB top g xs ys)
    .empty .unit (fun _ _ ih => .cons ih) (fun _ _ ih => .lazy ih)
    (fun _ _ _ ih1 ih2 => .mplus ih1 ih2) (fun _ _ _ ih1 ih2 => .mplusD ih1 ih2)
    (fun _ _ ih => .pause ih) (fun _ _ ih => .delay ih)
    (fun _ _ _ ih1 ih2 => .bind ih1 ih2) (fun _ _ _ ih1 ih2 => .bindD ih1 ih2)
    .nil (fun _ _ _ ih1 ih2 => .cons ih1 ih2) h

theorem AnsBc.ofC {c} {g : Goal St K} {xs ys} (h : AnsBc top c g xs ys) : AnsB top g xs ys := by
  induction xs generalizing c ys with
  | nil => cases h; exact .nil
  | cons a xs ih => cases h with | cons h1 h2 => exact .cons h1.ofC (ih h2)

theorem mplus_ansc {c1 c2} {s : Strm St K} {l xs ys} (hs : AnsSc top c1 s xs) (hl : AnsLc top c2 l ys) :
    ∃ zs, AnsSc top (c1 + c2 + 1) (mplus s l) zs ∧ List.Perm (xs ++ ys) zs := by
  cases hs with
  | empty => exact ⟨ys, .lazy hl (by omega), by simp⟩
  | unit a => exact ⟨a :: ys, .cons hl (by omega), by simp⟩
  | cons h h' =>
    exact ⟨_, .cons (.mplus hl h (Nat.le_refl _)) (by omega), by simpa using List.perm_append_comm⟩
  | lazy h h' => exact ⟨_, .lazy (.mplus hl h (Nat.le_refl _)) (by omega), List.perm_append_comm⟩

theorem mplusD_ansc {c1 c2} {s : Strm St K} {l xs ys} (hs : AnsSc top c1 s xs) (hl : AnsLc top c2 l ys) :
    AnsSc top (c1 + c2 + 1) (mplusD s l) (xs ++ ys) := by
  cases hs with
  | empty => exact .lazy hl (by omega)
  | unit a => exact .cons hl (by omega)
  | cons h h' => exact .cons (.mplusD h hl (Nat.le_refl _)) (by omega)
  | lazy h h' => exact .lazy (.mplusD h hl (Nat.le_refl _)) (by omega)

theorem bind_ansc (hT : TopOK top) {c1 c2} {s : Strm St K} {g xs ys} (hs : AnsSc top c1 s xs)
    (hb : AnsBc top c2 g xs ys) : AnsSc top (c1 + c2 + 1) (bind s g) ys := by
  rcases g.shortcut_cases with rfl | rfl | ⟨h1, h2⟩
  · rw [bind_succeed, ansB_succeed hT hb.ofC]; exact hs.mono (by omega)
  · rw [bind_fail, ansB_fail hT hb.ofC]; exact .empty
  simp only [Strm.bind, h1, h2, Bool.false_eq_true, if_false]
  cases hs with
  | empty => cases hb; exact .empty
  | unit a =>
    cases hb with | cons h t h' =>
    cases t
    rw [List.append_nil]
    exact .lazy (.pause h (Nat.le_refl _)) (by omega)
  | cons h hh =>
    cases hb with | cons h1 t h' =>
    exact .lazy (.mplus (.pause h1 (Nat.le_refl _)) (.bind h t (Nat.le_refl _)) (Nat.le_refl _)) (by omega)
  | lazy h hh => exact .lazy (.bind h hb (Nat.le_refl _)) (by omega)

theorem bindD_ansc (hT : TopOK top) {c1 c2} {s : Strm St K} {g xs ys} (hs : AnsSc top c1 s xs)
    (hb : AnsBc top c2 g xs ys) : AnsSc top (c1 + c2 + 1) (bindD s g) ys := by
  rcases g.shortcut_cases with rfl | rfl | ⟨h1, h2⟩
  · rw [bindD_succeed, ansB_succeed hT hb.ofC]; exact hs.mono (by omega)
  · rw [bindD_fail, ansB_fail hT hb.ofC]; exact .empty
  simp only [Strm.bindD, h1, h2, Bool.false_eq_true, if_false]
  cases hs with
  | empty => cases hb; exact .empty
  | unit a =>
    cases hb with | cons h t h' =>
    cases t
    rw [List.append_nil]
    exact .lazy (.pause h (Nat.le_refl _)) (by omega)
  | cons h hh =>
    cases hb with | cons h1 t h' =>
    exact .lazy (.mplusD (.pause h1 (Nat.le_refl _)) (.bindD h t (Nat.le_refl _)) (Nat.le_refl _)) (by omega)
  | lazy h hh => exact .lazy (.bindD h hb (Nat.le_refl _)) (by omega)

theorem ansBc_perm {g : Goal St K} : ∀ {xs xs' : List St}, List.Perm xs xs' → ∀ {c ys}, AnsBc top c g xs ys →
    ∃ ys', AnsBc top c g xs' ys' ∧ List.Perm ys ys' := by
  intro xs xs' hp
  induction hp with
  | nil => intro c ys h; exact ⟨ys, h, .refl _⟩
  | cons a _ ih =>
    intro c ys h
    cases h with | cons h t h' =>
    obtain ⟨zs, hz, hp⟩ := ih t
    exact ⟨_, .cons h hz h', List.Perm.append_left _ hp⟩
  | swap a b l =>
    intro c ys h
    cases h with | cons h1 t h' =>
    cases t with | cons h2 t2 h'' =>
    refine ⟨_, .cons h2 (.cons h1 t2 (Nat.le_refl _)) (by omega), ?_⟩
    simp only [← List.append_assoc]
    exact List.Perm.append_right _ List.perm_append_comm
  | trans _ _ ih1 ih2 =>
    intro c ys h
    obtain ⟨a, ha, pa⟩ := ih1 h
    obtain ⟨b, hb, pb⟩ := ih2 ha
    exact ⟨b, hb, pa.trans pb⟩

theorem step_cost (hT : TopOK top) {c} {l : Lz St K} {xs} (h : AnsLc top c l xs) :
    ∃ c' ys, c' < c ∧ AnsSc top c' (step top l) ys ∧ List.Perm xs ys := by
  fun_induction step top l generalizing c xs with
  | case1 l1 l2 ih =>
    cases h with | mplus h1 h2 h' =>
    obtain ⟨c', ys, hc, hy, py⟩ := ih h1
    obtain ⟨zs, hz, pz⟩ := mplus_ansc hy h2
    exact ⟨_, zs, by omega, hz, (List.Perm.append_right _ py).trans pz⟩
  | case2 l g ih =>
    cases h with | bind hl hb h' =>
    obtain ⟨c', ys, hc, hy, py⟩ := ih hl
    obtain ⟨zs, hz, pz⟩ := ansBc_perm py hb
    exact ⟨_, zs, by omega, bind_ansc hT hy hz, pz⟩
  | case3 a g => cases h with | pause h h' => exact ⟨_, _, h', h, .refl _⟩
  | case4 l1 l2 ih =>
    cases h with | mplusD h1 h2 h' =>
    obtain ⟨c', ys, hc, hy, py⟩ := ih h1
    exact ⟨_, _, by omega, mplusD_ansc hy h2, List.Perm.append_right _ py⟩
  | case5 l g ih =>
    cases h with | bindD hl hb h' =>
    obtain ⟨c', ys, hc, hy, py⟩ := ih hl
    obtain ⟨zs, hz, pz⟩ := ansBc_perm py hb
    exact ⟨_, zs, by omega, bindD_ansc hT hy hz, pz⟩
  | case6 s => cases h with | delay h h' => exact ⟨_, _, h', h, .refl _⟩

theorem drain_cost (hT : TopOK top) : ∀ (n : Nat) {c} {s : Strm St K} {xs}, AnsSc top c s xs → c < n →
    ∃ ys, drainF top n s = some ys ∧ List.Perm xs ys := by
  intro n
  induction n with
  | zero => intro c s xs _ hc; omega
  | succ n ih =>
    intro c s xs h hc
    cases h with
    | empty => exact ⟨[], by simp [drainF], .refl _⟩
    | unit a => exact ⟨[a], by simp [drainF], .refl _⟩
    | cons h h' =>
      obtain ⟨ys, hy, py⟩ := ih (AnsSc.lazy h (Nat.le_refl _)) (by omega)
      exact ⟨_, by simp [drainF, hy], List.Perm.cons _ py⟩
    | lazy h h' =>
      obtain ⟨c', ys, hc', hy, py⟩ := step_cost hT h
      obtain ⟨zs, hz, pz⟩ := ih hy (by omega)
      exact ⟨zs, by simpa [drainF] using hz, py.trans pz⟩

end CostLemmas

/-! ### the uncosted stream algebra: the costed one with the index forgotten -/

section Ans
variable {top : Goal St K → St → Strm St K}

theorem mplus_ans {s : Strm St K} {l xs ys} (hs : AnsS top s xs) (hl : AnsL top l ys) :
    ∃ zs, AnsS top (mplus s l) zs ∧ List.Perm (xs ++ ys) zs :=
  let ⟨_, hs⟩ := hs.toC; let ⟨_, hl⟩ := hl.toC
  let ⟨zs, hz, pz⟩ := mplus_ansc hs hl
  ⟨zs, hz.ofC, pz⟩

theorem mplus_ans_inv {s : Strm St K} {l zs} (h : AnsS top (mplus s l) zs) :
    ∃ xs ys, AnsS top s xs ∧ AnsL top l ys ∧ List.Perm (xs ++ ys) zs := by
  cases s with
  | empty => cases h with | lazy hl => exact ⟨[], zs, .empty, hl, by simp⟩
  | unit a => cases h with | cons hl => exact ⟨[a], _, .unit a, hl, by simp⟩
  | cons a lh =>
    cases h with | cons hm => cases hm with | mplus hl hh =>
      exact ⟨_, _, .cons hh, hl, by simpa using List.perm_append_comm⟩
  | lazy lh =>
    cases h with | lazy hm => cases hm with | mplus hl hh =>
      exact ⟨_, _, .lazy hh, hl, List.perm_append_comm⟩

theorem mplusD_ans {s : Strm St K} {l xs ys} (hs : AnsS top s xs) (hl : AnsL top l ys) :
    AnsS top (mplusD s l) (xs ++ ys) :=
  let ⟨_, hs⟩ := hs.toC; let ⟨_, hl⟩ := hl.toC
  (mplusD_ansc hs hl).ofC

theorem bind_ans (hT : TopOK top) {s : Strm St K} {g xs ys} (hs : AnsS top s xs) (hb : AnsB top g xs ys) :
    AnsS top (bind s g) ys :=
  let ⟨_, hs⟩ := hs.toC; let ⟨_, hb⟩ := hb.toC
  (bind_ansc hT hs hb).ofC

theorem bindD_ans (hT : TopOK top) {s : Strm St K} {g xs ys} (hs : AnsS top s xs) (hb : AnsB top g xs ys) :
    AnsS top (bindD s g) ys :=
  let ⟨_, hs⟩ := hs.toC; let ⟨_, hb⟩ := hb.toC
  (bindD_ansc hT hs hb).ofC

theorem lazyBind_ans (hT : TopOK top) {l : Lz St K} {g xs ys} (hl : AnsL top l xs) (hb : AnsB top g xs ys) :
    AnsS top (lazyBind l g) ys := bind_ans hT (.lazy hl) hb

theorem lazyBindD_ans (hT : TopOK top) {l : Lz St K} {g xs ys} (hl : AnsL top l xs) (hb : AnsB top g xs ys) :
    AnsS top (lazyBindD l g) ys := bindD_ans hT (.lazy hl) hb

theorem ansB_perm {g : Goal St K} {xs xs' ys} (hp : List.Perm xs xs') (h : AnsB top g xs ys) :
    ∃ ys', AnsB top g xs' ys' ∧ List.Perm ys ys' :=
  let ⟨_, h⟩ := h.toC
  let ⟨ys', h', p⟩ := ansBc_perm hp h
  ⟨ys', h'.ofC, p⟩

end Ans

section Mem
variable {top : Goal St K → St → Strm St K}

theorem memS_empty {a : St} : ¬ MemS top a (.empty : Strm St K) := fun h => nomatch h

theorem memS_unit_iff {a b : St} : MemS top a (.unit b : Strm St K) ↔ a = b :=
  ⟨fun h => by cases h; rfl, fun h => h ▸ .unit _⟩

theorem memS_cons_iff {a b : St} {l : Lz St K} : MemS top a (.cons b l) ↔ a = b ∨ MemL top a l :=
  ⟨fun h => by
    cases h with
    | head => exact .inl rfl
    | tail h => exact .inr h,
   fun h => by
    rcases h with h | h
    · exact h ▸ .head _ _
    · exact .tail h⟩

theorem memS_lazy_iff {a : St} {l : Lz St K} : MemS top a (.lazy l) ↔ MemL top a l :=
  ⟨fun h => by cases h with | lazy h => exact h, .lazy⟩

theorem memL_mplus_iff {a : St} {l1 l2 : Lz St K} :
    MemL top a (.mplus l1 l2) ↔ MemL top a l1 ∨ MemL top a l2 :=
  ⟨fun h => by
    cases h with
    | mplusL h => exact .inl h
    | mplusR h => exact .inr h,
   fun h => h.elim .mplusL .mplusR⟩

theorem memL_mplusD_iff {a : St} {l1 l2 : Lz St K} :
    MemL top a (.mplusD l1 l2) ↔ MemL top a l1 ∨ MemL top a l2 :=
  ⟨fun h => by
    cases h with
    | mplusDL h => exact .inl h
    | mplusDR h => exact .inr h,
   fun h => h.elim .mplusDL .mplusDR⟩

theorem memL_pause_iff {a b : St} {g : Goal St K} : MemL top a (.pause b g) ↔ MemS top a (top g b) :=
  ⟨fun h => by cases h with | pause h => exact h, .pause⟩

theorem memL_delay_iff {a : St} {s : Strm St K} : MemL top a (.delay s) ↔ MemS top a s :=
  ⟨fun h => by cases h with | delay h => exact h, .delay⟩

theorem memL_bind_iff {a : St} {l : Lz St K} {g : Goal St K} :
    MemL top a (.bind l g) ↔ ∃ b, MemL top b l ∧ MemS top a (top g b) :=
  ⟨fun h => by cases h with | bind h1 h2 => exact ⟨_, h1, h2⟩, fun ⟨_, h1, h2⟩ => .bind h1 h2⟩

theorem memL_bindD_iff {a : St} {l : Lz St K} {g : Goal St K} :
    MemL top a (.bindD l g) ↔ ∃ b, MemL top b l ∧ MemS top a (top g b) :=
  ⟨fun h => by cases h with | bindD h1 h2 => exact ⟨_, h1, h2⟩, fun ⟨_, h1, h2⟩ => .bindD h1 h2⟩

theorem mem_mplus_iff {a : St} {s : Strm St K} {l : Lz St K} :
    MemS top a (mplus s l) ↔ MemS top a s ∨ MemL top a l := by
  cases s with
  | empty => simp [Strm.mplus, memS_lazy_iff, memS_empty]
  | unit b => simp [Strm.mplus, memS_cons_iff, memS_unit_iff]
  | cons b lh =>
    simp only [Strm.mplus, memS_cons_iff, memL_mplus_iff]
    constructor
    · rintro (h | h | h)
      · exact .inl (.inl h)
      · exact .inr h
      · exact .inl (.inr h)
    · rintro ((h | h) | h)
      · exact .inl h
      · exact .inr (.inr h)
      · exact .inr (.inl h)
  | lazy lh =>
    simp only [Strm.mplus, memS_lazy_iff, memL_mplus_iff]
    exact Or.comm

theorem mem_mplusD_iff {a : St} {s : Strm St K} {l : Lz St K} :
    MemS top a (mplusD s l) ↔ MemS top a s ∨ MemL top a l := by
  cases s with
  | empty => simp [Strm.mplusD, memS_lazy_iff, memS_empty]
  | unit b => simp [Strm.mplusD, memS_cons_iff, memS_unit_iff]
  | cons b lh =>
    simp only [Strm.mplusD, memS_cons_iff, memL_mplusD_iff]
    exact (or_assoc).symm
  | lazy lh =>
    simp only [Strm.mplusD, memS_lazy_iff, memL_mplusD_iff]

theorem mem_bind_iff (hT : TopOK top) {a : St} {s : Strm St K} {g : Goal St K} :
    MemS top a (bind s g) ↔ ∃ b, MemS top b s ∧ MemS top a (top g b) := by
  rcases g.shortcut_cases with rfl | rfl | ⟨h1, h2⟩
  · simp only [bind_succeed, hT.succeed _, memS_unit_iff]
    exact ⟨fun h => ⟨a, h, rfl⟩, fun ⟨b, h, e⟩ => e ▸ h⟩
  · simp [hT.fail _, memS_empty]
  simp only [Strm.bind, h1, h2, Bool.false_eq_true, if_false]
  cases s with
  | empty => simp [memS_empty]
  | unit b => simp [memS_lazy_iff, memL_pause_iff, memS_unit_iff]
  | cons b lh =>
    simp only [memS_lazy_iff, memL_mplus_iff, memL_pause_iff, memL_bind_iff, memS_cons_iff]
    constructor
    · rintro (h | ⟨c, h1, h2⟩)
      · exact ⟨b, .inl rfl, h⟩
      · exact ⟨c, .inr h1, h2⟩
    · rintro ⟨c, h1 | h1, h2⟩
      · exact .inl (h1 ▸ h2)
      · exact .inr ⟨c, h1, h2⟩
  | lazy lh => simp only [memS_lazy_iff, memL_bind_iff]

theorem mem_bindD_iff (hT : TopOK top) {a : St} {s : Strm St K} {g : Goal St K} :
    MemS top a (bindD s g) ↔ ∃ b, MemS top b s ∧ MemS top a (top g b) := by
  rcases g.shortcut_cases with rfl | rfl | ⟨h1, h2⟩
  · simp only [bindD_succeed, hT.succeed _, memS_unit_iff]
    exact ⟨fun h => ⟨a, h, rfl⟩, fun ⟨b, h, e⟩ => e ▸ h⟩
  · simp [hT.fail _, memS_empty]
  simp only [Strm.bindD, h1, h2, Bool.false_eq_true, if_false]
  cases s with
  | empty => simp [memS_empty]
  | unit b => simp [memS_lazy_iff, memL_pause_iff, memS_unit_iff]
  | cons b lh =>
    simp only [memS_lazy_iff, memL_mplusD_iff, memL_pause_iff, memL_bindD_iff, memS_cons_iff]
    constructor
    · rintro (h | ⟨c, h1, h2⟩)
      · exact ⟨b, .inl rfl, h⟩
      · exact ⟨c, .inr h1, h2⟩
    · rintro ⟨c, h1 | h1, h2⟩
      · exact .inl (h1 ▸ h2)
      · exact .inr ⟨c, h1, h2⟩
  | lazy lh => simp only [memS_lazy_iff, memL_bindD_iff]

theorem step_mem_iff (hT : TopOK top) {a : St} {l : Lz St K} : MemS top a (step top l) ↔ MemL top a l := by
  fun_induction step top l generalizing a with
  | case1 l1 l2 ih => rw [mem_mplus_iff, memL_mplus_iff, ih]
  | case2 l g ih => simp only [mem_bind_iff hT, memL_bind_iff, ih]
  | case3 b g => exact memL_pause_iff.symm
  | case4 l1 l2 ih => rw [mem_mplusD_iff, memL_mplusD_iff, ih]
  | case5 l g ih => simp only [mem_bindD_iff hT, memL_bindD_iff, ih]
  | case6 s => exact memL_delay_iff.symm

end Mem

section Shape
variable {defs : K → St → St × Goal St K}

theorem mplusD_dfs {s : Strm St K} {l : Lz St K} (hs : DfsS defs s) (hl : DfsL defs l) :
    DfsS defs (mplusD s l) := by
  cases hs with
  | empty => exact .lazy hl
  | unit a => exact .cons hl
  | cons h => exact .cons (.mplusD h hl)
  | lazy h => exact .lazy (.mplusD h hl)

theorem bindD_dfs {s : Strm St K} {g : Goal St K} (hs : DfsS defs s) (hg : DfsG defs g) :
    DfsS defs (bindD s g) := by
  unfold Strm.bindD
  split
  · exact hs
  split
  · exact .empty
  cases hs with
  | empty => exact .empty
  | unit a => exact .lazy (.pause hg)
  | cons h => exact .lazy (.mplusD (.pause hg) (.bindD h hg))
  | lazy h => exact .lazy (.bindD h hg)

theorem lazyBindD_dfs {l : Lz St K} {g : Goal St K} (hl : DfsL defs l) (hg : DfsG defs g) :
    DfsS defs (lazyBindD l g) := bindD_dfs (.lazy hl) hg

theorem mplus_bfs {s : Strm St K} {l : Lz St K} (hs : BfsS defs s) (hl : BfsL defs l) :
    BfsS defs (mplus s l) := by
  cases hs with
  | empty => exact .lazy hl
  | unit a => exact .cons hl
  | cons h => exact .cons (.mplus hl h)
  | lazy h => exact .lazy (.mplus hl h)

theorem bind_bfs {s : Strm St K} {g : Goal St K} (hs : BfsS defs s) (hg : BfsG defs g) :
    BfsS defs (bind s g) := by
  unfold Strm.bind
  split
  · exact hs
  split
  · exact .empty
  cases hs with
  | empty => exact .empty
  | unit a => exact .lazy (.pause hg)
  | cons h => exact .lazy (.mplus (.pause hg) (.bind h hg))
  | lazy h => exact .lazy (.bind h hg)

theorem lazyBind_bfs {l : Lz St K} {g : Goal St K} (hl : BfsL defs l) (hg : BfsG defs g) :
    BfsS defs (lazyBind l g) := bind_bfs (.lazy hl) hg

variable {top : Goal St K → St → Strm St K}

/-- the solver used for paused goals answers interleaving goals with interleaving streams -/
def BfsTop (defs : K → St → St × Goal St K) (top : Goal St K → St → Strm St K) : Prop :=
  ∀ g a, BfsG defs g → BfsS defs (top g a)

/-- the solver used for paused goals answers depth-first goals with depth-first streams -/
def DfsTop (defs : K → St → St × Goal St K) (top : Goal St K → St → Strm St K) : Prop :=
  ∀ g a, DfsG defs g → DfsS defs (top g a)

theorem step_bfs (hTop : BfsTop defs top) {l : Lz St K} (hl : BfsL defs l) :
    BfsS defs (step top l) := by
  fun_induction step top l with
  | case1 l1 l2 ih => cases hl with | mplus d1 d2 => exact mplus_bfs (ih d1) d2
  | case2 l g ih => cases hl with | bind d dg => exact bind_bfs (ih d) dg
  | case3 a g => cases hl with | pause dg => exact hTop g a dg
  | case4 => cases hl
  | case5 => cases hl
  | case6 s => cases hl with | delay ds => exact ds

theorem step_dfs (hT : TopOK top) (hTop : DfsTop defs top) {l : Lz St K}
    {xs : List St} (hl : DfsL defs l) (h : AnsL top l xs) :
    AnsS top (step top l) xs ∧ DfsS defs (step top l) := by
  fun_induction step top l generalizing xs with
  | case1 => cases hl
  | case2 => cases hl
  | case3 a g => cases hl with | pause dg => cases h with | pause h => exact ⟨h, hTop g a dg⟩
  | case4 l1 l2 ih =>
    cases hl with | mplusD d1 d2 =>
    cases h with | mplusD h1 h2 =>
    obtain ⟨a1, b1⟩ := ih d1 h1
    exact ⟨mplusD_ans a1 h2, mplusD_dfs b1 d2⟩
  | case5 l g ih =>
    cases hl with | bindD d dg =>
    cases h with | bindD h hb =>
    obtain ⟨a1, b1⟩ := ih d h
    exact ⟨bindD_ans hT a1 hb, bindD_dfs b1 dg⟩
  | case6 s => cases hl with | delay ds => cases h with | delay h => exact ⟨h, ds⟩

end Shape

section Peek
variable {top : Goal St K → St → Strm St K}

theorem peekF_inv {P : Strm St K → Prop} (hP : ∀ l, P (.lazy l) → P (step top l)) {n : Nat}
    {s s' : Strm St K} (h : peekF top n s = some s') (hs : P s) : P s' ∧ s'.isMature = true := by
  fun_induction peekF top n s with
  | case1 => cases h; exact ⟨hs, rfl⟩
  | case2 => cases h; exact ⟨hs, rfl⟩
  | case3 => cases h; exact ⟨hs, rfl⟩
  | case4 => cases h
  | case5 n l ih => exact ih h (hP l hs)

theorem peekF_of_drainF {n : Nat} {s : Strm St K} {ys : List St} (h : drainF top n s = some ys) :
    ∃ s', peekF top n s = some s' := by
  fun_induction drainF top n s generalizing ys with
  | case1 => cases h
  | case2 => exact ⟨_, rfl⟩
  | case3 => exact ⟨_, rfl⟩
  | case4 => exact ⟨_, rfl⟩
  | case5 n l ih => exact ih h

theorem head_of_mature {s : Strm St K} {ys : List St} (hm : s.isMature = true) (h : AnsS top s ys) :
    s.head?.isSome = !ys.isEmpty := by
  cases h with
  | empty => rfl
  | unit a => rfl
  | cons h => rfl
  | lazy h => simp [Strm.isMature] at hm

end Peek

section DrainDfs
variable {defs : K → St → St × Goal St K} {top : Goal St K → St → Strm St K}

theorem drain_dfs_exact (hT : TopOK top) (hTop : DfsTop defs top) :
    ∀ (n : Nat) {s : Strm St K} {xs ys : List St}, DfsS defs s → AnsS top s xs →
      drainF top n s = some ys → ys = xs := by
  intro n
  induction n with
  | zero => intro s xs ys _ _ h; simp [drainF] at h
  | succ n ih =>
    intro s xs ys hd hs h
    cases hs with
    | empty => simpa [drainF] using h.symm
    | unit a => simpa [drainF] using h.symm
    | cons hl =>
      simp only [drainF, Option.map_eq_some_iff] at h
      obtain ⟨zs, hz, rfl⟩ := h
      cases hd with | cons hd =>
      rw [ih (.lazy hd) (.lazy hl) hz]
    | lazy hl =>
      simp only [drainF] at h
      cases hd with | lazy hd =>
      obtain ⟨h1, h2⟩ := step_dfs hT hTop hd hl
      exact ih h2 h1 h

end DrainDfs

section EvalRef
variable {defs : K → St → St × Goal St K} {n : Nat} {g1 g2 : Goal St K} {a : St} {zs : List St}

theorem evalRef_conj_iff : evalRef defs (n + 1) (.conj g1 g2) a = some zs ↔
    ∃ xs, evalRef defs n g1 a = some xs ∧ flatMapM (evalRef defs n g2) xs = some zs := by
  rw [evalRef]
  cases evalRef defs n g1 a with
  | none => exact ⟨nofun, nofun⟩
  | some xs => exact ⟨fun h => ⟨xs, rfl, h⟩, fun ⟨_, e, h⟩ => by cases e; exact h⟩

theorem evalRef_alt_iff : evalRef defs (n + 1) (.alt g1 g2) a = some zs ↔
    ∃ xs ys, evalRef defs n g1 a = some xs ∧ evalRef defs n g2 a = some ys ∧ zs = xs ++ ys := by
  rw [evalRef]
  cases evalRef defs n g1 a with
  | none => exact ⟨nofun, nofun⟩
  | some xs =>
    cases evalRef defs n g2 a with
    | none => exact ⟨nofun, nofun⟩
    | some ys =>
      exact ⟨fun h => ⟨xs, ys, rfl, rfl, (Option.some.inj h).symm⟩, fun ⟨_, _, e1, e2, e⟩ => by cases e1; cases e2; rw [e]⟩

theorem evalRef_conjD (n : Nat) : evalRef defs n (.conjD g1 g2) a = evalRef defs n (.conj g1 g2) a := by
  cases n <;> rfl

theorem evalRef_altD (n : Nat) : evalRef defs n (.altD g1 g2) a = evalRef defs n (.alt g1 g2) a := by
  cases n <;> rfl

theorem evalRef_disj (n : Nat) : evalRef defs n (.disj g1 g2) a = evalRef defs n (.alt g1 g2) a := by
  cases n <;> rfl

theorem evalRef_disjD (n : Nat) : evalRef defs n (.disjD g1 g2) a = evalRef defs n (.alt g1 g2) a := by
  cases n <;> rfl

end EvalRef

section Ref
variable {top : Goal St K → St → Strm St K}

theorem flatMapM_cons_iff {α β : Type} {f : α → Option (List β)} {x : α} {xs : List α} {zs : List β} :
    flatMapM f (x :: xs) = some zs ↔ ∃ ys ws, f x = some ys ∧ flatMapM f xs = some ws ∧ zs = ys ++ ws := by
  rw [flatMapM]
  cases f x with
  | none => exact ⟨nofun, nofun⟩
  | some ys =>
    cases flatMapM f xs with
    | none => exact ⟨nofun, nofun⟩
    | some ws =>
      exact ⟨fun h => ⟨ys, ws, rfl, rfl, (Option.some.inj h).symm⟩, fun ⟨_, _, e1, e2, e⟩ => by cases e1; cases e2; rw [e]⟩

theorem flatMapM_cons_some {α β : Type} {f : α → Option (List β)} {x : α} {xs : List α} {zs : List β}
    (h : flatMapM f (x :: xs) = some zs) :
    ∃ ys ws, f x = some ys ∧ flatMapM f xs = some ws ∧ zs = ys ++ ws := flatMapM_cons_iff.1 h

theorem flatMapM_mono {α β : Type} {f f' : α → Option (List β)} : ∀ {xs : List α} {ys : List β},
    (∀ x ∈ xs, ∀ y, f x = some y → f' x = some y) → flatMapM f xs = some ys → flatMapM f' xs = some ys
  | [], _, _, h => h
  | x :: _, _, hm, h =>
    let ⟨ys, ws, h1, h2, e⟩ := flatMapM_cons_iff.1 h
    flatMapM_cons_iff.2 ⟨ys, ws, hm x List.mem_cons_self ys h1,
      flatMapM_mono (fun x hx => hm x (List.mem_cons_of_mem _ hx)) h2, e⟩

theorem flatMapM_mem {α β : Type} {f : α → Option (List β)} : ∀ {xs : List α} {zs : List β},
    flatMapM f xs = some zs → ∀ z, z ∈ zs ↔ ∃ x ∈ xs, ∃ ys, f x = some ys ∧ z ∈ ys := by
  intro xs
  induction xs with
  | nil => intro zs h z; cases h; simp
  | cons x xs ih =>
    intro zs h z
    obtain ⟨ys, ws, h1, h2, rfl⟩ := flatMapM_cons_some h
    rw [List.mem_append, ih h2 z]
    constructor
    · rintro (a | ⟨x', hx', ys', e, hz⟩)
      · exact ⟨x, List.mem_cons_self .., ys, h1, a⟩
      · exact ⟨x', List.mem_cons_of_mem _ hx', ys', e, hz⟩
    · rintro ⟨x', hx', ys', e, hz⟩
      rcases List.mem_cons.1 hx' with rfl | hx'
      · rw [h1] at e; cases e; exact .inl hz
      · exact .inr ⟨x', hx', ys', e, hz⟩

theorem flatMapM_some_of_mem {α β : Type} {f : α → Option (List β)} : ∀ {xs : List α} {zs : List β},
    flatMapM f xs = some zs → ∀ x ∈ xs, ∃ ys, f x = some ys := by
  intro xs
  induction xs with
  | nil => exact fun _ _ hx => nomatch hx
  | cons w ws ih =>
    intro zs h x hx
    obtain ⟨ys, ws', h1, h2, _⟩ := flatMapM_cons_some h
    rcases List.mem_cons.1 hx with rfl | hw
    · exact ⟨ys, h1⟩
    · exact ih h2 x hw

theorem flatMapM_total {α β : Type} {f : α → Option (List β)} (h : ∀ x, ∃ ys, f x = some ys) :
    ∀ xs : List α, ∃ zs, flatMapM f xs = some zs
  | [] => ⟨[], rfl⟩
  | x :: xs => by
    obtain ⟨ys, hy⟩ := h x
    obtain ⟨zs, hz⟩ := flatMapM_total h xs
    exact ⟨ys ++ zs, by simp only [flatMapM, hy, hz]⟩

theorem flatMapM_ansB {g : Goal St K} {f : St → Option (List St)}
    (hf : ∀ x ys, f x = some ys → AnsS top (top g x) ys) :
    ∀ {xs zs}, flatMapM f xs = some zs → AnsB top g xs zs := by
  intro xs
  induction xs with
  | nil => intro zs h; simp only [flatMapM, Option.some.injEq] at h; subst h; exact .nil
  | cons x xs ih =>
    intro zs h
    obtain ⟨ys, ws, h1, h2, rfl⟩ := flatMapM_cons_some h
    exact .cons (hf _ _ h1) (ih h2)

theorem flatMapM_ansB_perm {g : Goal St K} {f : St → Option (List St)}
    (hf : ∀ x ys, f x = some ys → ∃ ys', AnsS top (top g x) ys' ∧ ys.Perm ys') :
    ∀ {xs zs}, flatMapM f xs = some zs → ∃ zs', AnsB top g xs zs' ∧ zs.Perm zs' := by
  intro xs
  induction xs with
  | nil => intro zs h; simp only [flatMapM, Option.some.injEq] at h; subst h; exact ⟨[], .nil, .refl _⟩
  | cons x xs ih =>
    intro zs h
    obtain ⟨ys, ws, h1, h2, rfl⟩ := flatMapM_cons_some h
    obtain ⟨ys', hy, py⟩ := hf _ _ h1
    obtain ⟨ws', hw, pw⟩ := ih h2
    exact ⟨_, .cons hy hw, List.Perm.append py pw⟩

end Ref

/-! ### rank-indexed membership derivations: the index bounds the number of engine steps before the
    answer is delivered by an interleaving stream (fairness measure).

    `step (mplus l1 l2) = mplus (step l1) l2` and `Stream::mplus` swaps its lazy arguments, so a witness
    on the right (rank `2r+2`) moves to the left (rank `2r+1`) after one step, and a witness on the left
    moves to the right after its own stream has made one step of progress (`2r'+2` with `r' < r`).
    For `bind l g` (witness `b ∈ l` of rank `p`, `a ∈ top g b` of rank `q`) the rank is `4^p * (2q+4)`:
    each step of `l` may wrap the remaining `bind` into the right branch of a new `mplus`. -/

def bRank (p q : Nat) : Nat := 4 ^ p * (2 * q + 4)

theorem bRank_mono {p' p : Nat} (q : Nat) (h : p' ≤ p) : bRank p' q ≤ bRank p q :=
  Nat.mul_le_mul_right _ (Nat.pow_le_pow_right (by omega) h)

theorem bRank_ge (p q : Nat) : 2 * q + 4 ≤ bRank p q :=
  Nat.le_mul_of_pos_left _ (Nat.pow_pos (by omega))

theorem bRank_ge_self (p q : Nat) : p ≤ bRank p q := by
  have h1 : p < 4 ^ p := Nat.lt_pow_self (by omega)
  have h2 : 4 ^ p ≤ 4 ^ p * (2 * q + 4) := Nat.le_mul_of_pos_right _ (by omega)
  unfold bRank; omega

theorem bRank_step {p' p : Nat} (q : Nat) (h : p' < p) : 4 * bRank p' q ≤ bRank p q := by
  have h1 : bRank (p' + 1) q = 4 * bRank p' q := by
    unfold bRank; rw [Nat.pow_succ, Nat.mul_comm (4 ^ p') 4, Nat.mul_assoc]
  rw [← h1]; exact bRank_mono q h

section Rank
variable (top : Goal St K → St → Strm St K)

mutual
inductive MemSc : Nat → St → Strm St K → Prop where
  | unit {r} (a : St) : MemSc r a (.unit a)
  | head {r} (a : St) (l : Lz St K) : MemSc r a (.cons a l)
  | tail {r r' a b l} : MemLc r' a l → r' ≤ r → MemSc r a (.cons b l)
  | lazy {r r' a l} : MemLc r' a l → r' ≤ r → MemSc r a (.lazy l)
inductive MemLc : Nat → St → Lz St K → Prop where
  | mplusL {r r' a l1 l2} : MemLc r' a l1 → 2 * r' + 1 ≤ r → MemLc r a (.mplus l1 l2)
  | mplusR {r r' a l1 l2} : MemLc r' a l2 → 2 * r' + 2 ≤ r → MemLc r a (.mplus l1 l2)
  | mplusDL {r r' a l1 l2} : MemLc r' a l1 → r' + 1 ≤ r → MemLc r a (.mplusD l1 l2)
  | mplusDR {r r' a l1 l2} : MemLc r' a l2 → r' + 1 ≤ r → MemLc r a (.mplusD l1 l2)
  | pause {r r' a b g} : MemSc r' a (top g b) → r' + 1 ≤ r → MemLc r a (.pause b g)
  | delay {r r' a s} : MemSc r' a s → r' + 1 ≤ r → MemLc r a (.delay s)
  | bind {r p q a b l g} : MemLc p b l → MemSc q a (top g b) → bRank p q ≤ r → MemLc r a (.bind l g)
  | bindD {r p q a b l g} : MemLc p b l → MemSc q a (top g b) → p + q + 1 ≤ r → MemLc r a (.bindD l g)
end
end Rank

section RankLemmas
variable {top : Goal St K → St → Strm St K}

theorem MemSc.mono {r r' : Nat} {a : St} {s : Strm St K} (h : MemSc top r a s) (hr : r ≤ r') :
    MemSc top r' a s := by
  cases h with
  | unit a => exact .unit a
  | head a l => exact .head a l
  | tail h h' => exact .tail h (Nat.le_trans h' hr)
  | lazy h h' => exact .lazy h (Nat.le_trans h' hr)

theorem MemS.toC {a : St} {s : Strm St K} (h : MemS top a s) : ∃ r, MemSc top r a s :=
  MemS.rec (motive_1 := fun a s _ => ∃ r, MemSc top r a s) (motive_2 := fun a l _ => ∃ r, MemLc top r a l)
    (fun a => ⟨0, .unit a⟩) (fun a l => ⟨0, .head a l⟩)
    (fun _ ⟨_, h⟩ => ⟨_, .tail h (Nat.le_refl _)⟩) (fun _ ⟨_, h⟩ => ⟨_, .lazy h (Nat.le_refl _)⟩)
    (fun _ ⟨_, h⟩ => ⟨_, .mplusL h (Nat.le_refl _)⟩) (fun _ ⟨_, h⟩ => ⟨_, .mplusR h (Nat.le_refl _)⟩)
    (fun _ ⟨_, h⟩ => ⟨_, .mplusDL h (Nat.le_refl _)⟩) (fun _ ⟨_, h⟩ => ⟨_, .mplusDR h (Nat.le_refl _)⟩)
    (fun _ ⟨_, h⟩ => ⟨_, .pause h (Nat.le_refl _)⟩) (fun _ ⟨_, h⟩ => ⟨_, .delay h (Nat.le_refl _)⟩)
    (fun _ _ ⟨_, h1⟩ ⟨_, h2⟩ => ⟨_, .bind h1 h2 (Nat.le_refl _)⟩)
    (fun _ _ ⟨_, h1⟩ ⟨_, h2⟩ => ⟨_, .bindD h1 h2 (Nat.le_refl _)⟩) h

theorem MemL.toC : ∀ {a : St} {l : Lz St K}, MemL top a l → ∃ r, MemLc top r a l := fun h =>
  match (MemS.lazy h).toC with
  | ⟨_, .lazy hc _⟩ => ⟨_, hc⟩

theorem mplus_rank_left {r : Nat} {a : St} {s : Strm St K} (l : Lz St K) (h : MemSc top r a s) :
    MemSc top (2 * r + 2) a (mplus s l) := by
  cases h with
  | unit a => exact .head _ _
  | head a lh => exact .head _ _
  | tail h h' => exact .tail (.mplusR h (Nat.le_refl _)) (by omega)
  | lazy h h' => exact .lazy (.mplusR h (Nat.le_refl _)) (by omega)

theorem mplus_rank_right {r : Nat} {a : St} (s : Strm St K) {l : Lz St K} (h : MemLc top r a l) :
    MemSc top (2 * r + 1) a (mplus s l) := by
  cases s with
  | empty => exact .lazy h (by omega)
  | unit b => exact .tail h (by omega)
  | cons b lh => exact .tail (.mplusL h (Nat.le_refl _)) (Nat.le_refl _)
  | lazy lh => exact .lazy (.mplusL h (Nat.le_refl _)) (Nat.le_refl _)

theorem bind_rank (hT : TopOK top) {p q : Nat} {a b : St} {s : Strm St K} {g : Goal St K}
    (hb : MemSc top p b s) (ha : MemSc top q a (top g b)) :
    MemSc top (2 * bRank p q + 2) a (bind s g) := by
  have e1 := bRank_ge p q
  rcases g.shortcut_cases with rfl | rfl | ⟨h1, h2⟩
  · rw [hT.succeed b] at ha
    cases ha
    have := bRank_ge_self p q
    exact hb.mono (by omega)
  · rw [hT.fail b] at ha
    cases ha
  simp only [Strm.bind, h1, h2, Bool.false_eq_true, if_false]
  cases hb with
  | unit b => exact .lazy (.pause ha (Nat.le_refl _)) (by omega)
  | head b lh => exact .lazy (.mplusL (.pause ha (Nat.le_refl _)) (Nat.le_refl _)) (by omega)
  | tail h h' =>
    have := bRank_mono q h'
    exact .lazy (.mplusR (.bind h ha (Nat.le_refl _)) (Nat.le_refl _)) (by omega)
  | lazy h h' =>
    have := bRank_mono q h'
    exact .lazy (.bind h ha (Nat.le_refl _)) (by omega)

variable {defs : K → St → St × Goal St K}

theorem step_rank (hT : TopOK top) {l : Lz St K} {r : Nat} {a : St} (hl : BfsL defs l) (h : MemLc top r a l) :
    ∃ r', r' < r ∧ MemSc top r' a (step top l) := by
  fun_induction step top l generalizing r a with
  | case1 l1 l2 ih =>
    cases hl with | mplus d1 _ =>
    cases h with
    | mplusL h h' =>
      obtain ⟨_, hr, hm⟩ := ih d1 h
      exact ⟨_, by omega, mplus_rank_left l2 hm⟩
    | mplusR h h' => exact ⟨_, h', mplus_rank_right (step top l1) h⟩
  | case2 l g ih =>
    cases hl with | bind d _ =>
    cases h with | @bind _ _ q _ _ _ _ hb ha h' =>
    obtain ⟨p', hr, hm⟩ := ih d hb
    have := bRank_step q hr
    have := bRank_ge p' q
    exact ⟨_, by omega, bind_rank hT hm ha⟩
  | case3 b g => cases h with | pause h h' => exact ⟨_, h', h⟩
  | case4 => cases hl
  | case5 => cases hl
  | case6 s => cases h with | delay h h' => exact ⟨_, h', h⟩

end RankLemmas

end Pv
