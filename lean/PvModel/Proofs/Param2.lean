/-
  Parametricity of the interleaving engine with relation calls: goals built from atoms, conjunction, `conde`, fresh,
  literal `fail` and relation calls (whose bodies are related whenever the states are).  Two goals of the same
  shape with related atoms, run by two engines with related relation tables from related states, deliver — step
  for step — related answers in the same order, at every nesting level of the solver; or one of the two streams
  holds a state marked bad (the model's FUEL poison), which every goal in a "rest of the conjunction" position
  passes on (`NF`).
-/
import PvModel.Proofs.Param
namespace Pv
open Strm Goal

section
variable {St K : Type} (R : St → St → Prop) (B : St → Prop) (C : K → Prop)

/-- goals that pass a bad state on (structurally): no literal `fail`, a disjunction passes it through its first clause -/
inductive NF : Goal St K → Prop
  | succeed : NF .succeed
  | atom {f : St → Option St} : AtomPass B f → NF (.atom f)
  | conj {g1 g2} : NF g1 → NF g2 → NF (.conj g1 g2)
  | alt {g1 g2} : NF g1 → NF (.alt g1 g2)
  | fresh {g} : NF g → NF (.fresh g)
  | call {k} : C k → NF (.call k)

/-- same shape, related atoms, the same relation calls -/
inductive GRel2 : Goal St K → Goal St K → Prop
  | succeed : GRel2 .succeed .succeed
  | fail : GRel2 .fail .fail
  | atom {f f' : St → Option St} : AtomRel R B f f' → GRel2 (.atom f) (.atom f')
  | conj {g1 g2 g1' g2'} : GRel2 g1 g1' → GRel2 g2 g2' → NF B C g2 → NF B C g2' → GRel2 (.conj g1 g2) (.conj g1' g2')
  | alt {g1 g2 g1' g2'} : GRel2 g1 g1' → GRel2 g2 g2' → GRel2 (.alt g1 g2) (.alt g1' g2')
  | fresh {g g'} : GRel2 g g' → GRel2 (.fresh g) (.fresh g')
  | call {k} : C k → GRel2 (.call k) (.call k)

mutual
inductive SRel2 : Strm St K → Strm St K → Prop
  | empty : SRel2 .empty .empty
  | unit {a a'} : R a a' → SRel2 (.unit a) (.unit a')
  | cons {a a' l l'} : R a a' → LRel2 l l' → SRel2 (.cons a l) (.cons a' l')
  | lazy {l l'} : LRel2 l l' → SRel2 (.lazy l) (.lazy l')
inductive LRel2 : Lz St K → Lz St K → Prop
  | bind {l l' g g'} : LRel2 l l' → GRel2 R B C g g' → NF B C g → NF B C g' → LRel2 (.bind l g) (.bind l' g')
  | mplus {l1 l2 l1' l2'} : LRel2 l1 l1' → LRel2 l2 l2' → LRel2 (.mplus l1 l2) (.mplus l1' l2')
  | pause {a a' g g'} : R a a' → GRel2 R B C g g' → LRel2 (.pause a g) (.pause a' g')
  | delay {s s'} : SRel2 s s' → LRel2 (.delay s) (.delay s')
end

variable {R B C}

theorem GRel2.isSucceed {g g' : Goal St K} (h : GRel2 R B C g g') : g.isSucceed = g'.isSucceed := by
  cases h <;> rfl

theorem GRel2.isFail {g g' : Goal St K} (h : GRel2 R B C g g') : g.isFail = g'.isFail := by
  cases h <;> rfl

theorem NF.notFail {g : Goal St K} (h : NF B C g) : g.isFail = false := by
  cases h <;> rfl

/-- the call-free fragment of Param.lean is the present one with no relation admitted -/
theorem PG.nf {g : Goal St K} (h : PG B g) : NF B (fun _ => False) g := by
  induction h with
  | succeed => exact .succeed
  | atom h => exact .atom h
  | conj _ _ i1 i2 => exact .conj i1 i2
  | alt _ _ i1 _ => exact .alt i1
  | fresh _ i => exact .fresh i

theorem GRel.grel2 {g g' : Goal St K} (h : GRel R B g g') : GRel2 R B (fun _ => False) g g' := by
  induction h with
  | succeed => exact .succeed
  | atom h _ _ => exact .atom h
  | conj _ h2 i1 i2 => exact .conj i1 i2 h2.left.nf h2.right.nf
  | alt _ _ i1 i2 => exact .alt i1 i2
  | fresh _ i => exact .fresh i

theorem mplus_rel2 {s s' : Strm St K} {l l' : Lz St K} (hs : SRel2 R B C s s') (hl : LRel2 R B C l l') :
    SRel2 R B C (Strm.mplus s l) (Strm.mplus s' l') := by
  cases hs with
  | empty => exact .lazy hl
  | unit ha => exact .cons ha hl
  | cons ha hl1 => exact .cons ha (.mplus hl hl1)
  | lazy hl1 => exact .lazy (.mplus hl hl1)

theorem bind_rel2 {s s' : Strm St K} {g g' : Goal St K} (hs : SRel2 R B C s s') (hg : GRel2 R B C g g')
    (nf : NF B C g) (nf' : NF B C g') : SRel2 R B C (Strm.bind s g) (Strm.bind s' g') := by
  unfold Strm.bind
  rw [← hg.isSucceed, ← hg.isFail]
  split
  · exact hs
  · split
    · exact .empty
    · cases hs with
      | empty => exact .empty
      | unit ha => exact .lazy (.pause ha hg)
      | cons ha hl => exact .lazy (.mplus (.pause ha hg) (.bind hl hg nf nf'))
      | lazy hl => exact .lazy (.bind hl hg nf nf')

theorem lazyBind_rel2 {l l' : Lz St K} {g g' : Goal St K} (hl : LRel2 R B C l l') (hg : GRel2 R B C g g')
    (nf : NF B C g) (nf' : NF B C g') : SRel2 R B C (Strm.lazyBind l g) (Strm.lazyBind l' g') :=
  bind_rel2 (.lazy hl) hg nf nf'

theorem optrel_strm2 {r r' : Option St} (h : OptRel R r r') : SRel2 R B C (optStrm (K := K) r) (optStrm r') := by
  cases h with
  | none => exact .empty
  | some hb => exact .unit hb

section Engine
variable {top top' : Goal St K → St → Strm St K}
variable (hT : TopOK top) (hT' : TopOK top')
  (hflow : ∀ g, NF B C g → ∀ p, B p → ∃ p', B p' ∧ MemS top p' (top g p))
  (hflow' : ∀ g, NF B C g → ∀ p, B p → ∃ p', B p' ∧ MemS top' p' (top' g p))
  (htop : ∀ g g' a a', GRel2 R B C g g' → R a a' → SRel2 R B C (top g a) (top' g' a') ∨ BadS top top' B (top g a) (top' g' a'))
include hT hT' hflow hflow' htop

theorem step_rel2 (l l' : Lz St K) (h : LRel2 R B C l l') :
    SRel2 R B C (step top l) (step top' l') ∨ BadS top top' B (step top l) (step top' l') := by
  fun_induction step top l generalizing l' with
  | case1 l1 l2 ih =>
    cases h with | mplus h1 h2 =>
    rcases ih _ h1 with r | b
    · exact .inl (mplus_rel2 r h2)
    · exact .inr (b.imp (fun _ m => mem_mplus_iff.2 (.inl m)) (fun _ m => mem_mplus_iff.2 (.inl m)))
  | case2 l g ih =>
    cases h with | @bind _ _ _ g' h1 hg nf nf' =>
    rcases ih _ h1 with r | ⟨p, hp, m | m⟩
    · exact .inl (bind_rel2 r hg nf nf')
    · obtain ⟨p', hp', m'⟩ := hflow g nf p hp
      exact .inr ⟨p', hp', .inl ((mem_bind_iff hT).2 ⟨p, m, m'⟩)⟩
    · obtain ⟨p', hp', m'⟩ := hflow' g' nf' p hp
      exact .inr ⟨p', hp', .inr ((mem_bind_iff hT').2 ⟨p, m, m'⟩)⟩
  | case3 a g => cases h with | pause ha hg => exact htop _ _ _ _ hg ha
  | case4 => cases h
  | case5 => cases h
  | case6 s => cases h with | delay hs => exact .inl hs

theorem runF_rel2 : ∀ (n : Nat) (s s' : Strm St K), SRel2 R B C s s' →
    Pointwise R (runF top n s) (runF top' n s') ∨ BadS top top' B s s'
  | 0, _, _, _ => .inl .nil
  | n + 1, _, _, h => by
    cases h with
    | empty => exact .inl .nil
    | unit ha => exact .inl (.cons ha .nil)
    | cons ha hl =>
      exact (runF_rel2 n _ _ (.lazy hl)).imp (.cons ha)
        (·.imp (fun _ m => .tail (memS_lazy_iff.1 m)) (fun _ m => .tail (memS_lazy_iff.1 m)))
    | @lazy l l' hl =>
      have back : BadS top top' B (step top l) (step top' l') → BadS top top' B (.lazy l) (.lazy l') :=
        (·.imp (fun _ m => .lazy ((step_mem_iff hT).1 m)) (fun _ m => .lazy ((step_mem_iff hT').1 m)))
      rcases step_rel2 hT hT' hflow hflow' htop _ _ hl with r | b
      · exact (runF_rel2 n _ _ r).imp id back
      · exact .inr (back b)

end Engine

section Start
variable {defs defs' : K → St → St × Goal St K} {top0 top0' top top' : Goal St K → St → Strm St K} {pf : Nat}
  (hdefs : ∀ k, C k → ∀ a a', R a a' → R (defs k a).1 (defs' k a').1 ∧ GRel2 R B C (defs k a).2 (defs' k a').2)
  (htop0 : ∀ g g' a a', GRel2 R B C g g' → R a a' →
    SRel2 R B C (top0 g a) (top0' g' a') ∨ BadS top top' B (top0 g a) (top0' g' a'))
include hdefs htop0

theorem start_rel2 : ∀ (g g' : Goal St K), GRel2 R B C g g' → ∀ a a', R a a' →
    SRel2 R B C (start defs top0 pf g a) (start defs' top0' pf g' a') ∨
      BadS top top' B (start defs top0 pf g a) (start defs' top0' pf g' a') := by
  intro g g' h
  induction h with
  | succeed => intro a a' ha; exact .inl (.unit ha)
  | fail => intro a a' _; exact .inl .empty
  | @atom f f' hf =>
    intro a a' ha
    rw [start_atom, start_atom]
    rcases hf a a' ha with r | ⟨p, hp, e | e⟩
    · exact .inl (optrel_strm2 r)
    · exact .inr ⟨p, hp, .inl (by rw [e]; exact .unit p)⟩
    · exact .inr ⟨p, hp, .inr (by rw [e]; exact .unit p)⟩
  | conj h1 h2 nf nf' _ _ => intro a a' ha; exact .inl (lazyBind_rel2 (.pause ha h1) h2 nf nf')
  | alt h1 h2 ih1 ih2 =>
    intro a a' ha
    rcases ih1 a a' ha with r1 | b
    · rcases ih2 a a' ha with r2 | b
      · exact .inl (mplus_rel2 r1 (.delay r2))
      · exact .inr (b.imp (fun _ m => mem_mplus_iff.2 (.inr (.delay m))) (fun _ m => mem_mplus_iff.2 (.inr (.delay m))))
    · exact .inr (b.imp (fun _ m => mem_mplus_iff.2 (.inl m)) (fun _ m => mem_mplus_iff.2 (.inl m)))
  | fresh h1 _ => intro a a' ha; exact .inl (.lazy (.pause ha h1))
  | @call k hk =>
    intro a a' ha
    exact htop0 _ _ _ _ (hdefs k hk a a' ha).2 (hdefs k hk a a' ha).1

end Start

theorem solveAt_rel2 {defs defs' : K → St → St × Goal St K} {top top' : Goal St K → St → Strm St K} (pf : Nat)
    (hdefs : ∀ k, C k → ∀ a a', R a a' → R (defs k a).1 (defs' k a').1 ∧ GRel2 R B C (defs k a).2 (defs' k a').2) :
    ∀ (n : Nat) (g g' : Goal St K) (a a' : St), GRel2 R B C g g' → R a a' →
      SRel2 R B C (solveAt defs pf n g a) (solveAt defs' pf n g' a') ∨
        BadS top top' B (solveAt defs pf n g a) (solveAt defs' pf n g' a')
  | 0, _, _, _, _, hg, ha => .inl (.lazy (.pause ha hg))
  | n + 1, g, g', a, a', hg, ha =>
    start_rel2 hdefs (fun g g' a a' hg ha => solveAt_rel2 pf hdefs n g g' a a' hg ha) g g' hg a a' ha

theorem engine_rel2 (defs defs' : K → St → St × Goal St K) (pf M : Nat)
    (hdefs : ∀ k, C k → ∀ a a', R a a' → R (defs k a).1 (defs' k a').1 ∧ GRel2 R B C (defs k a).2 (defs' k a').2)
    (hflow : ∀ g, NF B C g → ∀ p, B p → ∃ p', B p' ∧ MemS (solveAt defs pf (M + 1)) p' (solveAt defs pf (M + 1) g p))
    (hflow' : ∀ g, NF B C g → ∀ p, B p → ∃ p', B p' ∧ MemS (solveAt defs' pf (M + 1)) p' (solveAt defs' pf (M + 1) g p))
    {g g' : Goal St K} {a a' : St} (hg : GRel2 R B C g g') (ha : R a a') (n : Nat) :
    Pointwise R (runF (solveAt defs pf (M + 1)) n (solveAt defs pf (M + 1) g a))
        (runF (solveAt defs' pf (M + 1)) n (solveAt defs' pf (M + 1) g' a')) ∨
      BadS (solveAt defs pf (M + 1)) (solveAt defs' pf (M + 1)) B (solveAt defs pf (M + 1) g a)
        (solveAt defs' pf (M + 1) g' a') := by
  have htop := fun g g' a a' (hg : GRel2 R B C g g') (ha : R a a') =>
    solveAt_rel2 (top := solveAt defs pf (M + 1)) (top' := solveAt defs' pf (M + 1)) pf hdefs (M + 1) g g' a a' hg ha
  rcases htop g g' a a' hg ha with r | b
  · exact runF_rel2 (topOK_solveAt defs pf M) (topOK_solveAt defs' pf M) hflow hflow' htop n _ _ r
  · exact .inr b

section Pass
variable {defs : K → St → St × Goal St K} {top0 top : Goal St K → St → Strm St K} {pf : Nat}
  (htopEq : ∀ g a, top g a = start defs top0 pf g a)
include htopEq

theorem pass_start {g : Goal St K} (hg : NF B (fun _ => False) g) : ∀ p, B p → MemS top p (start defs top0 pf g p) := by
  induction hg with
  | succeed => intro p _; exact .unit p
  | atom hf => intro p hp; rw [start_atom, hf p hp]; exact .unit p
  | @conj g1 g2 h1 h2 i1 i2 =>
    intro p hp
    simp only [start]
    unfold Strm.lazyBind
    rw [h2.notFail]
    have m1 : MemL top p (.pause p g1) := .pause (by rw [htopEq]; exact i1 p hp)
    split
    · exact .lazy m1
    · exact .lazy (.bind m1 (by rw [htopEq]; exact i2 p hp))
  | alt _ i1 => intro p hp; exact mem_mplus_iff.2 (.inl (i1 p hp))
  | fresh _ i => intro p hp; exact .lazy (.pause (by rw [htopEq]; exact i p hp))
  | call hk => exact hk.elim

end Pass

theorem engine_rel (defs defs' : K → St → St × Goal St K) (pf M : Nat) {g g' : Goal St K} {a a' : St}
    (hg : GRel R B g g') (ha : R a a') (n : Nat) :
    Pointwise R (runF (solveAt defs pf (M + 1)) n (solveAt defs pf (M + 1) g a))
        (runF (solveAt defs' pf (M + 1)) n (solveAt defs' pf (M + 1) g' a')) ∨
      BadS (solveAt defs pf (M + 1)) (solveAt defs' pf (M + 1)) B (solveAt defs pf (M + 1) g a)
        (solveAt defs' pf (M + 1) g' a') :=
  engine_rel2 (C := fun _ => False) defs defs' pf M (fun _ hk => hk.elim)
    (fun g hg p hp => ⟨p, hp, pass_start (top0 := solveAt defs pf M) (fun _ _ => rfl) hg p hp⟩)
    (fun g hg p hp => ⟨p, hp, pass_start (top0 := solveAt defs' pf M) (fun _ _ => rfl) hg p hp⟩) hg.grel2 ha n

end
end Pv
