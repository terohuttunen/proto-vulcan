/-
  The bodies of the library relations (`relBody`, Model/Goals.lean) seen at once: each is the reading, in the hash order
  and the variant (interleaving / depth-first) of the call, of one syntax tree `Sk` made of `==`, `!=`, recursive calls,
  `fresh`, conjunction and `conde`. A fact about all bodies is an induction over `Sk`.
-/
import PvModel.Model.Goals
import PvModel.Spec.Tree
import PvModel.Proofs.Builders
namespace Pv
open Goal Term

/-- a call of a library relation with the right number of arguments -/
def Call.Valid (c : Call) : Prop :=
  match c.rel, c.args with
  | .member, [_, _] | .member1, [_, _] | .append, [_, _, _] | .rember, [_, _, _] | .permute, [_, _] | .distinct, [_] => True
  | _, _ => False

/-- the goal that posts a tree atom: `eqG` and `diseqG` are its two cases -/
abbrev atomG (ord : Order) (t : TAtom) : G := .atom (liftRes fun st => postAtom ord st t)

theorem eqG_eq_atomG (ord : Order) (u v : Term) : eqG ord u v = atomG ord (.eq u v) := rfl

theorem diseqG_eq_atomG (ord : Order) (u v : Term) : diseqG ord u v = atomG ord (.neq u v) := rfl

@[elab_as_elim] theorem Call.Valid.elim {P : Call → Prop} {c : Call} (hv : c.Valid)
    (member : ∀ x l d, P ⟨.member, [x, l], d⟩) (member1 : ∀ x l d, P ⟨.member1, [x, l], d⟩)
    (append : ∀ l s ls d, P ⟨.append, [l, s, ls], d⟩) (rember : ∀ x ls out d, P ⟨.rember, [x, ls, out], d⟩)
    (permute : ∀ xl yl d, P ⟨.permute, [xl, yl], d⟩) (distinct : ∀ l d, P ⟨.distinct, [l], d⟩) : P c := by
  obtain ⟨rel, args, d⟩ := c
  unfold Call.Valid at hv
  dsimp only at hv
  split at hv
  · exact member _ _ _
  · exact member1 _ _ _
  · exact append _ _ _ _
  · exact rember _ _ _ _
  · exact permute _ _ _
  · exact distinct _ _
  · exact hv.elim

/-- the body shape of every library relation: one `conde` of clauses (interleaving or depth-first) -/
def oneOf (dfs : Bool) (clauses : List (List G)) : G :=
  if dfs then Goal.conjDOfList [Goal.condeDOfClauses clauses] else Goal.conjOfList [Goal.condeOfClauses clauses]

def conjLOf (dfs : Bool) (gs : List G) : G := if dfs then Goal.conjDOfList gs else Goal.conjOfList gs

theorem oneOf_false (cs : List (List G)) : oneOf false cs = Goal.conjOfList [Goal.condeOfClauses cs] := rfl
theorem oneOf_true (cs : List (List G)) : oneOf true cs = Goal.conjDOfList [Goal.condeDOfClauses cs] := rfl
theorem conjLOf_false (gs : List G) : conjLOf false gs = Goal.conjOfList gs := rfl
theorem conjLOf_true (gs : List G) : conjLOf true gs = Goal.conjDOfList gs := rfl

/-- The syntax of a body, apart from the hash order and the variant it is read in. `v` says that the call whose body
    it is has the right number of arguments: then so have the calls in the body (the bad-call atom is the body of the
    others). A `conde` has at least one clause. -/
inductive Sk (v : Prop)
  | eq (a b : Term)
  | neq (a b : Term)
  | call (r : Rel) (as : List Term) (h : v → Call.Valid ⟨r, as, false⟩)
  | fresh (s : Sk v)
  | conjL (ss : List (Sk v))
  | one (c : List (Sk v)) (cs : List (List (Sk v)))
  | bad (h : ¬ v)

theorem Sk.ind {v : Prop} {P : Sk v → Prop} (eq : ∀ a b, P (.eq a b)) (neq : ∀ a b, P (.neq a b))
    (call : ∀ r as h, P (.call r as h)) (fresh : ∀ {s}, P s → P (.fresh s)) (conjL : ∀ {ss}, (∀ s ∈ ss, P s) → P (.conjL ss))
    (one : ∀ {c cs}, (∀ c' ∈ c :: cs, ∀ s ∈ c', P s) → P (.one c cs)) (bad : ∀ h, P (.bad h)) (s : Sk v) : P s :=
  Sk.rec (motive_1 := P) (motive_2 := fun ss => ∀ s ∈ ss, P s) (motive_3 := fun cs => ∀ c ∈ cs, ∀ s ∈ c, P s)
    eq neq call (fun _ => fresh) (fun _ => conjL) (fun _ _ hc hcs => one (List.forall_mem_cons.2 ⟨hc, hcs⟩)) bad
    (fun _ h => nomatch h) (fun _ _ hs hss => List.forall_mem_cons.2 ⟨hs, hss⟩)
    (fun _ h => nomatch h) (fun _ _ hc hcs => List.forall_mem_cons.2 ⟨hc, hcs⟩) s

section
variable {v : Prop} (ord : Order) (d : Bool)

mutual
/-- the goal a body is, read under the order `ord` in the variant `d` -/
def Sk.interp : Sk v → G
  | .eq a b => eqG ord a b
  | .neq a b => diseqG ord a b
  | .call r as _ => .call ⟨r, as, d⟩
  | .fresh s => .fresh s.interp
  | .conjL ss => conjLOf d (Sk.interpL ss)
  | .one c cs => oneOf d (Sk.interpL c :: Sk.interpLL cs)
  | .bad _ => .atom (liftRes fun _ => .panic "bad-call")
def Sk.interpL : List (Sk v) → List G
  | [] => []
  | s :: ss => s.interp :: Sk.interpL ss
def Sk.interpLL : List (List (Sk v)) → List (List G)
  | [] => []
  | c :: cs => Sk.interpL c :: Sk.interpLL cs
end

theorem Sk.interpL_eq : ∀ ss : List (Sk v), Sk.interpL ord d ss = ss.map (Sk.interp ord d)
  | [] => rfl
  | _ :: ss => congrArg _ (Sk.interpL_eq ss)

theorem Sk.interp_conjL (ss : List (Sk v)) : (Sk.conjL ss).interp ord d = conjLOf d (ss.map (Sk.interp ord d)) :=
  congrArg _ (Sk.interpL_eq ord d ss)

theorem Sk.interpLL_eq : ∀ cs : List (List (Sk v)), Sk.interpLL ord d cs = cs.map (List.map (Sk.interp ord d))
  | [] => rfl
  | c :: cs => by rw [List.map_cons, ← Sk.interpLL_eq cs, ← Sk.interpL_eq]; rfl

theorem Sk.interp_one (c : List (Sk v)) (cs : List (List (Sk v))) :
    (Sk.one c cs).interp ord d = oneOf d ((c :: cs).map (List.map (Sk.interp ord d))) := by
  rw [List.map_cons, ← Sk.interpLL_eq, ← Sk.interpL_eq]; rfl

end

section
variable {ord : Order}

theorem body_member (x l : Term) (d : Bool) (n : Nat) :
    relBody ord ⟨.member, [x, l], d⟩ n = (4, oneOf d
      [[eqG ord l (.cons (.var (n + 0)) (.var (n + 1))), eqG ord (.var (n + 0)) x],
       [eqG ord l (.cons (.var (n + 3)) (.var (n + 2))), .call ⟨.member, [x, .var (n + 2)], d⟩]]) := rfl

theorem body_member1 (x l : Term) (d : Bool) (n : Nat) :
    relBody ord ⟨.member1, [x, l], d⟩ n = (5, oneOf d
      [[eqG ord l (.cons (.var (n + 0)) (.var (n + 1))), eqG ord (.var (n + 0)) x],
       [eqG ord l (.cons (.var (n + 3)) (.var (n + 2))),
        conjLOf d [diseqG ord (.var (n + 3)) x, .call ⟨.member1, [x, .var (n + 2)], d⟩]]]) := rfl

theorem body_append (l s ls : Term) (d : Bool) (n : Nat) :
    relBody ord ⟨.append, [l, s, ls], d⟩ n = (5, oneOf d
      [[eqG ord (ofList [l, s, ls]) (ofList [.nil, .var (n + 0), .var (n + 0)])],
       [eqG ord (ofList [l, s, ls]) (ofList [.cons (.var (n + 1)) (.var (n + 2)), .var (n + 4), .cons (.var (n + 1)) (.var (n + 3))]),
        .call ⟨.append, [.var (n + 2), .var (n + 4), .var (n + 3)], d⟩]]) := rfl

theorem body_rember (x ls out : Term) (d : Bool) (n : Nat) :
    relBody ord ⟨.rember, [x, ls, out], d⟩ n = (5, oneOf d
      [[eqG ord (ofList [ls, out]) (ofList [.nil, .nil])],
       [eqG ord (ofList [ls, out]) (ofList [.cons (.var (n + 0)) (.var (n + 1)), .var (n + 1)]), eqG ord (.var (n + 0)) x],
       [eqG ord (ofList [ls, out]) (ofList [.cons (.var (n + 2)) (.var (n + 3)), .cons (.var (n + 2)) (.var (n + 4))]),
        diseqG ord (.var (n + 2)) x, .call ⟨.rember, [x, .var (n + 3), .var (n + 4)], d⟩]]) := rfl

theorem body_permute (xl yl : Term) (d : Bool) (n : Nat) :
    relBody ord ⟨.permute, [xl, yl], d⟩ n = (4, oneOf d
      [[eqG ord (ofList [xl, yl]) (ofList [.nil, .nil])],
       [eqG ord (ofList [xl, yl]) (ofList [.cons (.var (n + 1)) (.var (n + 0)), .var (n + 2)]),
        .fresh (conjLOf d [.call ⟨.permute, [.var (n + 0), .var (n + 3)], d⟩, .call ⟨.rember, [.var (n + 1), yl, .var (n + 3)], d⟩])]]) := rfl

theorem body_distinct (l : Term) (d : Bool) (n : Nat) :
    relBody ord ⟨.distinct, [l], d⟩ n = (4, oneOf d
      [[eqG ord l .nil],
       [eqG ord l (.cons (.var (n + 0)) .nil)],
       [eqG ord l (.cons (.var (n + 3)) (.cons (.var (n + 2)) (.var (n + 1)))), diseqG ord (.var (n + 3)) (.var (n + 2)),
        .call ⟨.distinct, [.cons (.var (n + 3)) (.var (n + 1))], d⟩, .call ⟨.distinct, [.cons (.var (n + 2)) (.var (n + 1))], d⟩]]) := rfl

theorem body_spin0 (d : Bool) (n : Nat) : relBody ord ⟨.spin, [], d⟩ n = (0, conjLOf d [.call ⟨.spin, [], d⟩]) := rfl

theorem body_spin1 (a : Term) (d : Bool) (n : Nat) :
    relBody ord ⟨.spin, [a], d⟩ n = (1, conjLOf d [.fresh (conjLOf d [.call ⟨.spin, [a], d⟩])]) := rfl

theorem relBody_sk (r : Rel) (as : List Term) (n : Nat) :
    ∃ (k : Nat) (s : Sk (Call.Valid ⟨r, as, false⟩)), ∀ ord d, relBody ord ⟨r, as, d⟩ n = (k, s.interp ord d) := by
  cases r <;> rcases as with _ | ⟨a1, _ | ⟨a2, _ | ⟨a3, _ | ⟨a4, rest⟩⟩⟩⟩
  case member.cons.cons.nil =>
    exact ⟨_, .one [.eq _ _, .eq _ _] [[.eq _ _, .call _ _ (by intro; trivial)]], fun _ _ => body_member _ _ _ _⟩
  case member1.cons.cons.nil =>
    exact ⟨_, .one [.eq _ _, .eq _ _] [[.eq _ _, .conjL [.neq _ _, .call _ _ (by intro; trivial)]]], fun _ _ => body_member1 _ _ _ _⟩
  case append.cons.cons.cons.nil =>
    exact ⟨_, .one [.eq _ _] [[.eq _ _, .call _ _ (by intro; trivial)]], fun _ _ => body_append _ _ _ _ _⟩
  case rember.cons.cons.cons.nil =>
    exact ⟨_, .one [.eq _ _] [[.eq _ _, .eq _ _], [.eq _ _, .neq _ _, .call _ _ (by intro; trivial)]], fun _ _ => body_rember _ _ _ _ _⟩
  case permute.cons.cons.nil =>
    exact ⟨_, .one [.eq _ _] [[.eq _ _, .fresh (.conjL [.call _ _ (by intro; trivial), .call _ _ (by intro; trivial)])]],
      fun _ _ => body_permute _ _ _ _⟩
  case distinct.cons.nil =>
    exact ⟨_, .one [.eq _ _] [[.eq _ _], [.eq _ _, .neq _ _, .call _ _ (by intro; trivial), .call _ _ (by intro; trivial)]],
      fun _ _ => body_distinct _ _ _⟩
  case spin.nil => exact ⟨_, .conjL [.call _ _ id], fun _ _ => rfl⟩
  case spin.cons.nil => exact ⟨_, .conjL [.fresh (.conjL [.call _ _ id])], fun _ _ => rfl⟩
  all_goals exact ⟨_, .bad id, fun _ _ => rfl⟩

/-- goals built the way the body of the call `c` is: in its variant, and calling, when `c` has the right number of
    arguments, only calls that have it too -/
def BodyG (ord : Order) (c : Call) (g : G) : Prop := ∃ s : Sk c.Valid, s.interp ord c.dfs = g

theorem relBody_bodyG (c : Call) (n : Nat) : BodyG ord c (relBody ord c n).2 := by
  obtain ⟨r, as, d⟩ := c
  obtain ⟨_, s, h⟩ := relBody_sk r as n
  exact ⟨s, (congrArg Prod.snd (h ord d)).symm⟩

theorem BodyG.elim {P : G → Prop} {c : Call} (succeed : P .succeed) (fail : P .fail)
    (conj : c.dfs = false → ∀ {g1 g2}, P g1 → P g2 → P (.conj g1 g2))
    (alt : c.dfs = false → ∀ {g1 g2}, P g1 → P g2 → P (.alt g1 g2))
    (conjD : c.dfs = true → ∀ {g1 g2}, P g1 → P g2 → P (.conjD g1 g2))
    (altD : c.dfs = true → ∀ {g1 g2}, P g1 → P g2 → P (.altD g1 g2))
    (fresh : ∀ {g}, P g → P (.fresh g)) (eq : ∀ u v, P (eqG ord u v)) (neq : ∀ u v, P (diseqG ord u v))
    (call : ∀ r as, (c.Valid → Call.Valid ⟨r, as, c.dfs⟩) → P (.call ⟨r, as, c.dfs⟩))
    (bad : ¬ c.Valid → P (.atom (liftRes fun _ => .panic "bad-call"))) {g : G} (h : BodyG ord c g) : P g := by
  obtain ⟨s, rfl⟩ := h
  induction s using Sk.ind with
  | eq a b => exact eq a b
  | neq a b => exact neq a b
  | call r as hv => exact call r as hv
  | fresh ih => exact fresh ih
  | bad hv => exact bad hv
  | conjL ih =>
    rw [Sk.interp_conjL]
    unfold conjLOf
    split
    · rename_i hd; exact conjDOfList_closed succeed fail (conjD hd) _ (List.forall_mem_map.2 ih)
    · rename_i hd; exact conjOfList_closed succeed fail (conj (Bool.eq_false_iff.2 hd)) _ (List.forall_mem_map.2 ih)
  | one ih =>
    rw [Sk.interp_one]
    unfold oneOf
    split
    · rename_i hd
      refine conjDOfList_closed succeed fail (conjD hd) _ (List.forall_mem_singleton.2 ?_)
      refine altDOfList_closed fail (altD hd) _ (List.forall_mem_map.2 fun cl hcl => ?_)
      obtain ⟨cl', hcl', rfl⟩ := List.mem_map.1 hcl
      exact conjDOfList_closed succeed fail (conjD hd) _ (List.forall_mem_map.2 (ih cl' hcl'))
    · rename_i hd
      have hd := Bool.eq_false_iff.2 hd
      refine conjOfList_closed succeed fail (conj hd) _ (List.forall_mem_singleton.2 ?_)
      refine altOfList_closed fail (alt hd) _ (List.forall_mem_map.2 fun cl hcl => ?_)
      obtain ⟨cl', hcl', rfl⟩ := List.mem_map.1 hcl
      exact conjOfList_closed succeed fail (conj hd) _ (List.forall_mem_map.2 (ih cl' hcl'))

end
end Pv
