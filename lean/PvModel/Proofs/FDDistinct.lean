/-
  `distinctfd`, semantically: `DistinctFdConstraint::run` (partition of the list into variables and
  constants, duplicate check on the sorted constants, hand-over to the worker), the worker
  `DistinctFd2Constraint::run` (move newly bound elements into the sorted constants by binary insertion,
  fail on a duplicate, exclude the constants from the domains of the remaining variables) and
  `State::exclude_from_domain` (which reads the domain store once, before its loop — also entries of
  variables that a unification has just bound).
  All three keep the described valuations exactly; the three panic sites (an element that is neither a
  variable nor an integer, or a variable bound to something that is not an integer) are reachable only
  from a state in which the constraint has no solution.
-/
import PvModel.Proofs.FDGlobal
namespace Pv
open State Term FD

theorem perm_sortedInsert (k : Int) : ∀ l : List Int, (sortedInsert k l).Perm (k :: l)
  | [] => by simp [sortedInsert]
  | y :: ys => by
    unfold sortedInsert
    split
    · exact List.Perm.refl _
    · exact ((perm_sortedInsert k ys).cons y).trans (List.Perm.swap k y ys)

theorem mem_sortedInsert (k m : Int) (l : List Int) : m ∈ sortedInsert k l ↔ m = k ∨ m ∈ l :=
  (perm_sortedInsert k l).mem_iff.trans List.mem_cons

theorem pwle_sortedInsert (k : Int) : ∀ l : List Int, l.Pairwise (· ≤ ·) → (sortedInsert k l).Pairwise (· ≤ ·)
  | [], _ => by simp [sortedInsert]
  | y :: ys, h => by
    unfold sortedInsert
    have hy := List.pairwise_cons.1 h
    split
    · rename_i hk
      refine List.pairwise_cons.2 ⟨fun a ha => ?_, h⟩
      rcases List.mem_cons.1 ha with rfl | ha
      · exact hk
      · exact Int.le_trans hk (hy.1 a ha)
    · rename_i hk
      refine List.pairwise_cons.2 ⟨fun a ha => ?_, pwle_sortedInsert k ys hy.2⟩
      rcases (mem_sortedInsert k a ys).1 ha with rfl | ha
      · omega
      · exact hy.1 a ha

theorem pwlt_of_pwle_nodup : ∀ l : List Int, l.Pairwise (· ≤ ·) → l.Nodup → l.Pairwise (· < ·)
  | [], _, _ => List.Pairwise.nil
  | a :: l, h, hn => by
    have h1 := List.pairwise_cons.1 h
    have h2 := List.nodup_cons.1 hn
    refine List.pairwise_cons.2 ⟨fun b hb => ?_, pwlt_of_pwle_nodup l h1.2 h2.2⟩
    have : a ≠ b := fun e => h2.1 (e ▸ hb)
    have := h1.1 b hb
    omega

theorem nodup_of_pwlt : ∀ l : List Int, l.Pairwise (· < ·) → l.Nodup
  | [], _ => List.nodup_nil
  | a :: l, h => by
    have h1 := List.pairwise_cons.1 h
    refine List.nodup_cons.2 ⟨fun ha => ?_, nodup_of_pwlt l h1.2⟩
    have := h1.1 a ha
    omega

theorem hasAdjDup_false : ∀ l : List Int, l.Pairwise (· ≤ ·) → (hasAdjDup l = false ↔ l.Nodup)
  | [], _ => by simp [hasAdjDup]
  | [a], _ => by simp [hasAdjDup]
  | a :: b :: t, h => by
    have h1 := List.pairwise_cons.1 h
    have ih := hasAdjDup_false (b :: t) h1.2
    have h2 := List.pairwise_cons.1 h1.2
    simp only [hasAdjDup, Bool.or_eq_false_iff, ih, List.nodup_cons (a := a)]
    constructor
    · rintro ⟨hab, hn⟩
      refine ⟨fun ha => ?_, hn⟩
      rcases List.mem_cons.1 ha with e | ha
      · simp [e] at hab
      · have := h1.1 b (List.mem_cons_self ..)
        have := h2.1 a ha
        have : a = b := by omega
        simp [this] at hab
    · rintro ⟨ha, hn⟩
      refine ⟨?_, hn⟩
      have : a ≠ b := fun e => ha (e ▸ List.mem_cons_self ..)
      simpa using this

theorem foldr_sortedInsert_perm : ∀ cs : List Int, (cs.foldr sortedInsert []).Perm cs
  | [] => List.Perm.refl _
  | c :: cs => (perm_sortedInsert c _).trans ((foldr_sortedInsert_perm cs).cons c)

theorem foldr_sortedInsert_pwle : ∀ cs : List Int, (cs.foldr sortedInsert []).Pairwise (· ≤ ·)
  | [] => List.Pairwise.nil
  | c :: cs => pwle_sortedInsert c _ (foldr_sortedInsert_pwle cs)

theorem strictSorted_sortedInsert {k : Int} {n : List Int} (hs : StrictSorted n) (hk : k ∉ n) :
    StrictSorted (sortedInsert k n) := by
  rw [ss_iff] at *
  refine pwlt_of_pwle_nodup _ (pwle_sortedInsert k n (hs.imp fun h => Int.le_of_lt h)) ?_
  exact (perm_sortedInsert k n).nodup_iff.2 (List.nodup_cons.2 ⟨hk, nodup_of_pwlt n hs⟩)

/-- the elements of `l` denote pairwise different integers, none of them in `n` -/
def DVals (γ : Subst) (l : List Term) (n : List Int) : Prop :=
  (∀ e ∈ l, ∃ k, apply γ e = Term.num k) ∧ (l.map (apply γ)).Nodup ∧
    ∀ e ∈ l, ∀ k, apply γ e = Term.num k → k ∉ n

theorem num_inj {a b : Int} (h : Term.num a = Term.num b) : a = b := by
  simpa [Term.num] using h

theorem map_num_of_all {γ : Subst} : ∀ l : List Term, (∀ e ∈ l, ∃ k, apply γ e = Term.num k) →
    ∃ ms : List Int, l.map (apply γ) = ms.map Term.num
  | [], _ => ⟨[], rfl⟩
  | e :: l, h => by
    obtain ⟨k, hk⟩ := h e (List.mem_cons_self ..)
    obtain ⟨ms, hms⟩ := map_num_of_all l fun e he => h e (List.mem_cons_of_mem _ he)
    exact ⟨k :: ms, by simp [hk, hms]⟩

theorem cstSem_d2_iff (γ : Subst) (u : Term) (y : List Term) (n : List Int) :
    CstSem γ (.distinctfd2 u y n) ↔ DVals γ y n := by
  unfold CstSem DVals
  constructor
  · rintro ⟨ms, hm, hnd, hn⟩
    have hmem : ∀ e ∈ y, ∃ k ∈ ms, Term.num k = apply γ e := fun e he => by
      have : apply γ e ∈ ms.map Term.num := hm ▸ List.mem_map_of_mem he
      exact List.mem_map.1 this
    refine ⟨fun e he => ?_, ?_, fun e he k hk => ?_⟩
    · obtain ⟨k, _, hk⟩ := hmem e he; exact ⟨k, hk.symm⟩
    · rw [hm]
      exact hnd.map _ fun a b hab e => hab (num_inj e)
    · obtain ⟨k', hk', e'⟩ := hmem e he
      have : k' = k := num_inj (e'.trans hk)
      subst this; exact hn _ hk'
  · rintro ⟨hall, hnd, hn⟩
    obtain ⟨ms, hms⟩ := map_num_of_all y hall
    refine ⟨ms, hms, ?_, fun k hk => ?_⟩
    · rw [hms] at hnd
      exact List.Pairwise.of_map Term.num (fun a b h e => h (e ▸ rfl)) hnd
    · have : Term.num k ∈ y.map (apply γ) := hms ▸ List.mem_map_of_mem hk
      obtain ⟨e, he, hek⟩ := List.mem_map.1 this
      exact hn e he k hek

theorem cstSem_d1_iff (γ : Subst) (l : List Term) :
    CstSem γ (.distinctfd (Term.ofList l)) ↔ DVals γ l [] := by
  rw [← cstSem_d2_iff γ .nil l []]
  simp only [CstSem]
  rw [apply_ofList]
  constructor
  · rintro ⟨ms, hm, hnd⟩
    exact ⟨ms, ofList_inj hm, hnd, fun _ _ h => nomatch h⟩
  · rintro ⟨ms, hm, hnd, _⟩
    exact ⟨ms, by rw [hm], hnd⟩

theorem DVals.perm {γ : Subst} {l l' : List Term} {n : List Int} (hp : l.Perm l') :
    DVals γ l n ↔ DVals γ l' n := by
  unfold DVals
  rw [(hp.map (apply γ)).nodup_iff]
  constructor <;> rintro ⟨a, b, c⟩
  · exact ⟨fun e he => a e (hp.mem_iff.2 he), b, fun e he => c e (hp.mem_iff.2 he)⟩
  · exact ⟨fun e he => a e (hp.mem_iff.1 he), b, fun e he => c e (hp.mem_iff.1 he)⟩

theorem DVals.congr_mem {γ : Subst} {l : List Term} {n n' : List Int} (h : ∀ k, k ∈ n ↔ k ∈ n') :
    DVals γ l n ↔ DVals γ l n' := by
  unfold DVals
  constructor <;> rintro ⟨a, b, c⟩
  · exact ⟨a, b, fun e he k hk hm => c e he k hk ((h k).2 hm)⟩
  · exact ⟨a, b, fun e he k hk hm => c e he k hk ((h k).1 hm)⟩

theorem dvals_cons {γ : Subst} {a : Term} {k : Int} (ha : apply γ a = Term.num k) (L : List Term) (n : List Int) :
    DVals γ (a :: L) n ↔ (k ∉ n ∧ DVals γ L (k :: n)) := by
  unfold DVals
  simp only [List.map_cons, List.nodup_cons, List.mem_cons, ha]
  constructor
  · rintro ⟨h1, ⟨h2, h3⟩, h4⟩
    refine ⟨h4 a (.inl rfl) k ha, fun e he => h1 e (.inr he), h3, fun e he k' hk' hm => ?_⟩
    rcases hm with rfl | hm
    · exact h2 (hk' ▸ List.mem_map_of_mem he)
    · exact h4 e (.inr he) k' hk' hm
  · rintro ⟨h0, h1, h3, h4⟩
    refine ⟨fun e he => ?_, ⟨fun hm => ?_, h3⟩, fun e he k' hk' hm => ?_⟩
    · rcases he with rfl | he
      · exact ⟨k, ha⟩
      · exact h1 e he
    · obtain ⟨e, he, hek⟩ := List.mem_map.1 hm
      exact h4 e he k hek (.inl rfl)
    · rcases he with rfl | he
      · have : k' = k := num_inj (hk'.symm.trans ha)
        subst this; exact h0 hm
      · exact h4 e he k' hk' (.inr hm)

theorem dvals_middle {γ : Subst} {a : Term} {k : Int} (ha : apply γ a = Term.num k) (x r : List Term) (n : List Int) :
    DVals γ (x ++ a :: r) n ↔ (k ∉ n ∧ DVals γ (x ++ r) (k :: n)) := by
  rw [DVals.perm List.perm_middle, dvals_cons ha]

theorem dvals_consts {γ : Subst} (xs : List Term) : ∀ (cs n : List Int),
    DVals γ (cs.map Term.num ++ xs) n ↔ (cs.Nodup ∧ (∀ k ∈ cs, k ∉ n) ∧ DVals γ xs (cs ++ n))
  | [], n => by simp
  | c :: cs, n => by
    have ha : apply γ (Term.num c) = Term.num c := rfl
    simp only [List.map_cons, List.cons_append]
    rw [dvals_cons ha, dvals_consts xs cs (c :: n)]
    have hcm : DVals γ xs (cs ++ c :: n) ↔ DVals γ xs (c :: (cs ++ n)) :=
      DVals.congr_mem fun k => by simp only [List.mem_append, List.mem_cons]; constructor <;> rintro (a | a | a) <;> simp [a]
    rw [hcm, List.nodup_cons]
    constructor
    · rintro ⟨h0, h1, h2, h3⟩
      refine ⟨⟨fun hc => h2 c hc (List.mem_cons_self ..), h1⟩, fun k hk hm => ?_, h3⟩
      rcases List.mem_cons.1 hk with rfl | hk
      · exact h0 hm
      · exact h2 k hk (List.mem_cons_of_mem _ hm)
    · rintro ⟨⟨h0, h1⟩, h2, h3⟩
      refine ⟨h2 c (List.mem_cons_self ..), h1, fun k hk hm => ?_, h3⟩
      rcases List.mem_cons.1 hm with rfl | hm
      · exact h0 hk
      · exact h2 k (List.mem_cons_of_mem _ hk) hm

theorem not_dvals_of_elem {γ : Subst} {l : List Term} {n : List Int} {e : Term} (he : e ∈ l)
    (h : ∀ k, apply γ e ≠ Term.num k) : ¬ DVals γ l n := by
  rintro ⟨a, _, _⟩
  obtain ⟨k, hk⟩ := a e he
  exact h k hk

/-- the loop body of `DistinctFd2Constraint::run` -/
def d2step (σ : Subst) (acc : Res (List Term × List Int)) (yi : Term) : Res (List Term × List Int) :=
  acc.bind fun (x, n) =>
    match walk σ yi with
    | .var _ => .ok (x ++ [yi], n)
    | .val (.num k) => if n.contains k then .fail else .ok (x, sortedInsert k n)
    | .val _ => .panic "distinctfd-value"
    | _ => .panic "distinctfd-term"

theorem d2fold_fail (σ : Subst) : ∀ l : List Term, l.foldl (d2step σ) .fail = .fail
  | [] => rfl
  | _ :: l => by simp only [List.foldl_cons, d2step, Res.bind]; exact d2fold_fail σ l

theorem d2fold_panic (σ : Subst) (s : String) : ∀ l : List Term, l.foldl (d2step σ) (.panic s) = .panic s
  | [] => rfl
  | _ :: l => by simp only [List.foldl_cons, d2step, Res.bind]; exact d2fold_panic σ s l

/-- what the scan computes: the elements still unbound and the extended constants describe the same
    valuations as the elements and constants it started from -/
def D2Spec (σ : Subst) (l : List Term) (n : List Int) : Res (List Term × List Int) → Prop
  | .ok p => StrictSorted p.2 ∧ ∀ γ, Ext σ γ → (DVals γ l n ↔ DVals γ p.1 p.2)
  | .fail => ∀ γ, Ext σ γ → ¬ DVals γ l n
  | .fuel => True
  | .panic s => DP s ∧ ∀ γ, Ext σ γ → ¬ DVals γ l n

theorem d2fold_spec {σ : Subst} (hs : Solved σ) : ∀ (y x : List Term) (n : List Int), StrictSorted n →
    D2Spec σ (x ++ y) n (y.foldl (d2step σ) (.ok (x, n)))
  | [], x, n, hn => by
    simp only [List.foldl_nil, List.append_nil]
    exact ⟨hn, fun _ _ => Iff.rfl⟩
  | yi :: rest, x, n, hn => by
    simp only [List.foldl_cons]
    have hstep : d2step σ (.ok (x, n)) yi = (match walk σ yi with
      | .var _ => .ok (x ++ [yi], n)
      | .val (.num k) => if n.contains k then .fail else .ok (x, sortedInsert k n)
      | .val _ => .panic "distinctfd-value"
      | _ => .panic "distinctfd-term") := rfl
    rw [hstep]
    have happ : ∀ γ, Ext σ γ → apply γ yi = apply γ (walk σ yi) := fun γ hx => (ext_walk hs hx yi).symm
    have hpanic : ∀ s, DP s → (walk σ yi).isVar = false → (walk σ yi).isNum = false →
        D2Spec σ (x ++ yi :: rest) n (rest.foldl (d2step σ) (.panic s)) := fun s hs' hv hn => by
      rw [d2fold_panic]
      exact ⟨hs', fun γ hx => not_dvals_of_elem (e := yi) (by simp) fun k e =>
        not_numAt_of_shape hv hn k ((happ γ hx).symm.trans e)⟩
    cases hw : walk σ yi with
    | var v =>
      have ih := d2fold_spec hs rest (x ++ [yi]) n hn
      have e : (x ++ [yi]) ++ rest = x ++ yi :: rest := by simp
      rw [e] at ih
      exact ih
    | val c =>
      cases c with
      | num k =>
        have hk : ∀ γ, Ext σ γ → apply γ yi = Term.num k := fun γ hx => by rw [happ γ hx, hw]; rfl
        simp only
        split
        · rename_i hc
          rw [d2fold_fail]
          intro γ hx hd
          have := ((dvals_middle (hk γ hx) x rest n).1 hd).1
          exact this (by simpa using hc)
        · rename_i hc
          have hkn : k ∉ n := by simpa using hc
          have ih := d2fold_spec hs rest x (sortedInsert k n) (strictSorted_sortedInsert hn hkn)
          have key : ∀ γ, Ext σ γ → (DVals γ (x ++ yi :: rest) n ↔ DVals γ (x ++ rest) (sortedInsert k n)) := fun γ hx => by
            rw [dvals_middle (hk γ hx) x rest n]
            have : DVals γ (x ++ rest) (k :: n) ↔ DVals γ (x ++ rest) (sortedInsert k n) :=
              DVals.congr_mem fun m => by rw [mem_sortedInsert]; simp
            rw [this]
            exact ⟨fun a => a.2, fun a => ⟨hkn, a⟩⟩
          cases hf : rest.foldl (d2step σ) (.ok (x, sortedInsert k n)) with
          | ok p => rw [hf] at ih; exact ⟨ih.1, fun γ hx => (key γ hx).trans (ih.2 γ hx)⟩
          | fail => rw [hf] at ih; exact fun γ hx hd => ih γ hx ((key γ hx).1 hd)
          | fuel => trivial
          | panic s => rw [hf] at ih; exact ⟨ih.1, fun γ hx hd => ih.2 γ hx ((key γ hx).1 hd)⟩
      | bool b => exact hpanic _ (.inr (.inr rfl)) (congrArg Term.isVar hw) (congrArg Term.isNum hw)
      | chr b => exact hpanic _ (.inr (.inr rfl)) (congrArg Term.isVar hw) (congrArg Term.isNum hw)
      | str b => exact hpanic _ (.inr (.inr rfl)) (congrArg Term.isVar hw) (congrArg Term.isNum hw)
    | nil => exact hpanic _ (.inr (.inl rfl)) (congrArg Term.isVar hw) (congrArg Term.isNum hw)
    | cons a b => exact hpanic _ (.inr (.inl rfl)) (congrArg Term.isVar hw) (congrArg Term.isNum hw)
    | comp a b => exact hpanic _ (.inr (.inl rfl)) (congrArg Term.isVar hw) (congrArg Term.isNum hw)

variable {I : Nat → Prop} [Mode]

theorem Ref.of_fresh {S : Subst → Prop} {st : State} {r : Res State}
    (h : Ref I S { st with nextId := st.nextId + 1 } r) (w : WFS st) : Ref I S st r :=
  Ref.base (st0 := { st with nextId := st.nextId + 1 }) (Keeps.same w.solved rfl rfl)
    (fun γ => and_congr_left' (sem_same rfl rfl rfl γ)) h

theorem wfs_fresh {st : State} (w : WFS st) : WFS { st with nextId := st.nextId + 1 } :=
  w.same rfl rfl fun _ hp => .inl hp

theorem withNew_semG (ord : Order) {st : State} {c : Cst} (w : WFS st) (hi : Inv st)
    (hd : c.isDiseq = false) (hok : CstOK c) :
    Ref I (fun γ => CstSem γ c) st (.ok (st.withNewConstraint ord c)) :=
  Ref.of_fresh (with_semG ord (wfs_fresh w) (fresh_fr hi) hd hok) w

section WithRC
variable {rc : State → Res State} (hrc : RcOK rc) (hrs : RcSem rc) (ord : Order)
include hrc hrs

/-- `exclude_from_domain`: sound whenever the excluded numbers are excluded by the state already -/
theorem excludeFromDomain_sem {st : State} (hI : IOK I st) (w : WFS st) (hi : Inv st) (xs : List Term) (ex : FD)
    (hex : WF ex) (hent : ∀ γ, Sem I γ st → ∀ y ∈ xs, ∀ k, NumAt γ y k → ¬ ex.Mem k) :
    Ref I (fun _ => True) st (excludeFromDomain rc st xs ex) := by
  unfold excludeFromDomain
  refine fold_ref (fun cur => (∀ γ, Sem I γ cur → Sem I γ st)) (fun (cur : State) (y : Term) =>
      match y with
      | .var yv => match st.dget yv with
        | some d => match d.diff ex with
          | some d' => processDomain rc cur y d'
          | none => .fail
        | none => .ok cur
      | _ => .ok cur) xs (fun cur y hyx hP wc hic => ?_) (fun _ h => h) w hi
  have hsame : Ref I (fun _ => True) cur (.ok cur) ∧ ∀ cur', Res.ok cur = .ok cur' → Inv cur' ∧ ∀ γ, Sem I γ cur' → Sem I γ st :=
    ⟨Ref.entailed wc fun _ _ => trivial, fun cur' e => by cases e; exact ⟨hic, hP⟩⟩
  split
  · rename_i yv
    split
    · rename_i d hd
      have hwd : WF d := w.dwf _ (dget_mem hd)
      -- under the running state, the variable lies in its snapshot domain and outside the excluded set
      have hin : ∀ γ, Sem I γ cur → ∃ k, NumAt γ (.var yv) k ∧ d.Mem k ∧ ¬ ex.Mem k := fun γ hs => by
        have hs0 := hP γ hs
        obtain ⟨k, hk, hkd⟩ := hs0.2.2 (yv, d) (dget_mem hd) (hI yv)
        exact ⟨k, hk, hkd, hent γ hs0 _ hyx k hk⟩
      split
      · rename_i d' hdiff
        obtain ⟨hwd', hmd'⟩ := diff_some d ex d' hwd hex hdiff
        have p := processDomain_sem (I := I) (st := cur) hrs hI wc hic (x := .var yv) (WFI.of_wf hwd') (.inl hwd')
        refine ⟨p.congr fun γ hs => ⟨fun _ => trivial, fun _ => ?_⟩, fun cur' h => ?_⟩
        · obtain ⟨k, hk, hkd, hke⟩ := hin γ hs
          exact ⟨k, hk, (hmd' k).2 ⟨hkd, hke⟩⟩
        · refine ⟨(processDomain_step hrc hic h).inv, fun γ hs' => ?_⟩
          rw [h] at p
          exact hP γ ((p.2.2 γ).1 hs').1
      · rename_i hdiff
        refine ⟨Ref.refuted fun γ hs _ => ?_, fun cur' h => by cases h⟩
        obtain ⟨k, _, hkd, hke⟩ := hin γ hs
        exact hke (diff_none d ex hwd hex hdiff k hkd)
    · exact hsame
  · exact hsame

omit hrc hrs in
theorem runDistinctFd2_eq (u : Term) (y : List Term) (n : List Int) (st : State) :
    runDistinctFd2 rc ord u y n st =
      (y.foldl (d2step st.σ) (.ok ([], n))).bind fun p =>
        if p.2.isEmpty then .ok (st.withNewConstraint ord (.distinctfd2 u p.1 p.2))
        else excludeFromDomain rc (st.withNewConstraint ord (.distinctfd2 u p.1 p.2)) p.1 (.sparse p.2) := rfl

theorem runDistinctFd2_sem {u : Term} {y : List Term} {n : List Int} {st : State} (hI : IOK I st) (ws : WFS st)
    (hi : Inv st) (hok : CstOK (.distinctfd2 u y n)) :
    Ref I (fun γ => CstSem γ (.distinctfd2 u y n)) st (runDistinctFd2 rc ord u y n st) := by
  rw [runDistinctFd2_eq]
  have spec := d2fold_spec ws.solved y [] n hok.2
  simp only [List.nil_append] at spec
  cases hf : y.foldl (d2step st.σ) (.ok ([], n)) with
  | ok p =>
    rw [hf] at spec
    simp only [Res.bind]
    have hok' : CstOK (.distinctfd2 u p.1 p.2) := ⟨hok.1, spec.1⟩
    have h1 : Ref I (fun γ => CstSem γ (.distinctfd2 u y n)) st (.ok (st.withNewConstraint ord (.distinctfd2 u p.1 p.2))) :=
      (withNew_semG (I := I) ord ws hi rfl hok').congr fun γ hs => by
        show CstSem γ (.distinctfd2 u p.1 p.2) ↔ CstSem γ (.distinctfd2 u y n)
        rw [cstSem_d2_iff, cstSem_d2_iff]; exact (spec.2 γ hs.1).symm
    split
    · exact h1
    · rename_i hne
      have i1 : Inv (st.withNewConstraint ord (.distinctfd2 u p.1 p.2)) := (withNew_step (i := none) ord st _ hi).inv
      have hwf : WF (.sparse p.2) := ⟨fun e => hne (by simp [e]), spec.1⟩
      have h2 := excludeFromDomain_sem hrc hrs hI.any h1.1 i1 p.1 (.sparse p.2) hwf
        (fun γ hs e he k hk hm => by
          have hc : CstSem γ (.distinctfd2 u y n) := ((h1.2.2 γ).1 hs).2
          have hs0 : Sem I γ st := ((h1.2.2 γ).1 hs).1
          rw [cstSem_d2_iff, spec.2 γ hs0.1] at hc
          exact hc.2.2 e he k hk hm)
      exact (Ref.bind (f := fun s => excludeFromDomain rc s p.1 (.sparse p.2)) h1 fun s e _ _ _ => by cases e; exact h2).congr
        fun γ _ => ⟨fun a => a.1, fun a => ⟨a, trivial⟩⟩
  | fail =>
    rw [hf] at spec
    exact Ref.refuted fun γ hs hc => spec γ hs.1 ((cstSem_d2_iff γ u y n).1 hc)
  | fuel => trivial
  | panic s =>
    rw [hf] at spec
    exact ⟨hok.1, spec.1, fun γ ⟨hs, hc⟩ => spec.2 γ hs.1 ((cstSem_d2_iff γ u y n).1 hc)⟩

end WithRC

theorem listElems_ofList : ∀ l : List Term, (Term.ofList l).listElems = (l, .nil)
  | [] => rfl
  | e :: l => by simp [Term.ofList, Term.listElems, listElems_ofList l]

theorem iterItems_ofList (l : List Term) : (Term.ofList l).iterItems = l := by
  simp [Term.iterItems, listElems_ofList]

theorem filter_num_eq : ∀ l : List Term, l.all Term.isNum = true → l = (l.filterMap Term.getNum?).map Term.num
  | [], _ => rfl
  | e :: l, h => by
    simp only [List.all_cons, Bool.and_eq_true] at h
    cases e with
    | val c =>
      cases c with
      | num k => simp only [List.filterMap_cons, Term.getNum?, List.map_cons, Term.num]; rw [← filter_num_eq l h.2]
      | _ => cases h.1
    | _ => cases h.1

section WithSelf
variable {ord : Order}

theorem runDistinctFd_sem {self : Nat → Cst → State → Res State} (hss : SelfSem self) {i : Nat} {u : Term} {st : State}
    (hI : IOK I st) (ws : WFS st) (f : Fr i st) (hok : CstOK (.distinctfd u)) :
    Ref I (fun γ => CstSem γ (.distinctfd u)) st (runDistinctFd ord self i u st) := by
  obtain ⟨hallow, l, rfl⟩ := hok
  have hself : ∀ (xs : List Term) (n : List Int), StrictSorted n →
      (∀ γ, Sem I γ st → (DVals γ l [] ↔ DVals γ xs n)) →
      Ref I (fun γ => CstSem γ (.distinctfd (Term.ofList l))) st
        (self st.nextId (.distinctfd2 (Term.ofList l) xs n) { st with nextId := st.nextId + 1 }) := fun xs n hn hiff => by
    have r := hss I st.nextId (.distinctfd2 (Term.ofList l) xs n) { st with nextId := st.nextId + 1 } hI.any
      (wfs_fresh ws) (fresh_fr f.1) rfl ⟨hallow, hn⟩
    exact (Ref.of_fresh r ws).congr fun γ hs => by
      show CstSem γ (.distinctfd2 (Term.ofList l) xs n) ↔ CstSem γ (.distinctfd (Term.ofList l))
      rw [cstSem_d1_iff, cstSem_d2_iff]; exact (hiff γ hs).symm
  cases l with
  | nil =>
    show Ref I _ st (self st.nextId (.distinctfd2 .nil [] []) { st with nextId := st.nextId + 1 })
    exact hself [] [] trivial fun _ _ => Iff.rfl
  | cons h t =>
    have hwalk : walk st.σ (Term.ofList (h :: t)) = .cons h (Term.ofList t) := rfl
    unfold runDistinctFd
    rw [hwalk]
    simp only
    have hit : (Term.cons h (Term.ofList t)).iterItems = h :: t := iterItems_ofList (h :: t)
    rw [hit]
    generalize hl : h :: t = l at *
    have hperm : (l.filter (fun e => !e.isVar) ++ l.filter Term.isVar).Perm l := by
      have := List.filter_append_perm (fun e : Term => !e.isVar) l
      simpa using this
    by_cases hall : (l.filter (fun e => !e.isVar)).all Term.isNum = true
    · rw [if_pos hall]
      have hns := filter_num_eq _ hall
      generalize hcs : (l.filter (fun e => !e.isVar)).filterMap Term.getNum? = cs at *
      have hpw := foldr_sortedInsert_pwle cs
      have hpm := foldr_sortedInsert_perm cs
      have key : ∀ γ, DVals γ l [] ↔ (cs.Nodup ∧ DVals γ (l.filter Term.isVar) (cs.foldr sortedInsert [])) := fun γ => by
        rw [← DVals.perm hperm, hns, dvals_consts]
        have : DVals γ (l.filter Term.isVar) (cs ++ []) ↔ DVals γ (l.filter Term.isVar) (cs.foldr sortedInsert []) :=
          DVals.congr_mem fun k => by rw [List.append_nil]; exact hpm.mem_iff.symm
        rw [this]
        exact ⟨fun a => ⟨a.1, a.2.2⟩, fun a => ⟨a.1, (fun _ _ h => nomatch h), a.2⟩⟩
      split
      · rename_i hdup
        refine Ref.refuted fun γ _ hc => ?_
        have hnd := ((key γ).1 ((cstSem_d1_iff γ l).1 hc)).1
        have : hasAdjDup (cs.foldr sortedInsert []) = false := (hasAdjDup_false _ hpw).2 (hpm.nodup_iff.2 hnd)
        rw [this] at hdup
        cases hdup
      · rename_i hdup
        have hnd : (cs.foldr sortedInsert []).Nodup := (hasAdjDup_false _ hpw).1 (by simpa using hdup)
        refine hself _ _ ((ss_iff _).2 (pwlt_of_pwle_nodup _ hpw hnd)) fun γ _ => ?_
        rw [key γ]
        exact ⟨fun a => a.2, fun a => ⟨hpm.nodup_iff.1 hnd, a⟩⟩
    · rw [if_neg hall]
      refine ⟨hallow, .inl rfl, fun γ ⟨_, hc⟩ => ?_⟩
      have hd := (cstSem_d1_iff γ l).1 hc
      have : ∃ e ∈ l.filter (fun e => !e.isVar), e.isNum = false :=
        Classical.byContradiction fun hne => hall (List.all_eq_true.2 fun e he => by
          cases h : e.isNum with
          | true => rfl
          | false => exact absurd ⟨e, he, h⟩ hne)
      obtain ⟨e, he, hen⟩ := this
      have hel := List.mem_filter.1 he
      refine not_dvals_of_elem hel.1 (fun k hk => ?_) hd
      exact not_numAt_of_shape (γ := γ) (by simpa using hel.2) hen k hk

end WithSelf
end Pv
