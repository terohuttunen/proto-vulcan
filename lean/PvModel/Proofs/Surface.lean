/-
  Lemmas about the macro elaboration model (Model/Surface.lean): the counter only grows, every variable
  of an elaborated goal is either the image of a name in scope or was allocated by this elaboration,
  elaboration depends only on the environment at the names a goal mentions, and consistently renaming a
  bound name does not change the elaborated goal at all (it contains ids, no names).
-/
import PvModel.Model.Surface
namespace Pv
namespace Surface
open STerm SGoal

theorem Env.bind_self (env : Env) (x : Name) (k : Nat) : env.bind x k x = k := if_pos rfl

theorem Env.bind_ne {env : Env} {x y : Name} {k : Nat} (h : y ≠ x) : env.bind x k y = env y := if_neg h

theorem Env.bind_bind (env : Env) (x : Name) (a b : Nat) : (env.bind x a).bind x b = env.bind x b := by
  funext w
  by_cases e : w = x
  · rw [e, Env.bind_self, Env.bind_self]
  · rw [Env.bind_ne e, Env.bind_ne e, Env.bind_ne e]

theorem Env.bind_comm (env : Env) (x y : Name) (a b : Nat) (h : x ≠ y) :
    (env.bind x a).bind y b = (env.bind y b).bind x a := by
  funext w
  simp only [Env.bind]
  by_cases h1 : w = y <;> by_cases h2 : w = x <;> simp_all

theorem elabT_cons (env : Env) (h t : STerm) (n : Nat) :
    elabT env (.cons h t) n =
      (.cons (elabT env h n).1 (elabT env t (elabT env h n).2).1, (elabT env t (elabT env h n).2).2) := rfl

theorem elabT_comp (env : Env) (g : Nat) (a : STerm) (n : Nat) :
    elabT env (.comp g a) n = (.comp g (elabT env a n).1, (elabT env a n).2) := rfl

theorem elabG_eq (env : Env) (a b : STerm) (n : Nat) :
    elabG env (.eq a b) n =
      (.eq (elabT env a n).1 (elabT env b (elabT env a n).2).1, (elabT env b (elabT env a n).2).2) := rfl

theorem elabG_neq (env : Env) (a b : STerm) (n : Nat) :
    elabG env (.neq a b) n =
      (.neq (elabT env a n).1 (elabT env b (elabT env a n).2).1, (elabT env b (elabT env a n).2).2) := rfl

theorem elabG_conj (env : Env) (g1 g2 : SGoal) (n : Nat) :
    elabG env (.conj g1 g2) n =
      (.conj (elabG env g1 n).1 (elabG env g2 (elabG env g1 n).2).1, (elabG env g2 (elabG env g1 n).2).2) := rfl

theorem elabG_disj (env : Env) (g1 g2 : SGoal) (n : Nat) :
    elabG env (.disj g1 g2) n =
      (.disj (elabG env g1 n).1 (elabG env g2 (elabG env g1 n).2).1, (elabG env g2 (elabG env g1 n).2).2) := rfl

theorem elabG_fresh (env : Env) (x : Name) (g : SGoal) (n : Nat) :
    elabG env (.fresh x g) n = (.fresh (elabG (env.bind x n) g (n + 1)).1, (elabG (env.bind x n) g (n + 1)).2) := rfl

theorem elabG_mtch (env : Env) (t p : STerm) (body rest : SGoal) (n : Nat) :
    let rt := elabT env t n
    let env' := bindAll env p.names rt.2
    let rp := elabT env' p (rt.2 + p.names.length)
    let rb := elabG env' body rp.2
    elabG env (.mtch t p body rest) n =
      (.disj (.conj (.eq rt.1 rp.1) rb.1) (elabG env rest rb.2).1, (elabG env rest rb.2).2) := rfl

theorem elabT_congr (env env' : Env) (t : STerm) (n : Nat) (h : ∀ x, t.mentions x = true → env x = env' x) :
    elabT env t n = elabT env' t n := by
  induction t generalizing n with
  | var x => exact congrArg (fun k => (Term.var k, n)) (h x (beq_self_eq_true x))
  | any | val _ | nil => rfl
  | cons a b iha ihb =>
    rw [elabT_cons, elabT_cons, iha n fun x hx => h x (Bool.or_eq_true_iff.2 (.inl hx)),
      ihb _ fun x hx => h x (Bool.or_eq_true_iff.2 (.inr hx))]
  | comp g a ih => rw [elabT_comp, elabT_comp, ih n h]

theorem elabT_rename (env : Env) (x z : Name) (k : Nat) (t : STerm) (n : Nat) (h : t.mentions z = false) :
    elabT (env.bind z k) (t.rename x z) n = elabT (env.bind x k) t n := by
  induction t generalizing n with
  | var y =>
    have hyz : y ≠ z := ne_of_beq_false h
    rw [STerm.rename]
    split
    · next hy => rw [hy]; show (Term.var _, n) = (Term.var _, n); rw [Env.bind_self, Env.bind_self]
    · next hy => show (Term.var _, n) = (Term.var _, n); rw [Env.bind_ne hyz, Env.bind_ne hy]
  | any | val _ | nil => rfl
  | cons a b iha ihb =>
    have h := Bool.or_eq_false_iff.1 h
    rw [STerm.rename, elabT_cons, elabT_cons, iha n h.1, ihb _ h.2]
  | comp g a ih => rw [STerm.rename, elabT_comp, elabT_comp, ih n h]

theorem mem_names (x : Name) (t : STerm) : x ∈ t.names ↔ t.mentions x = true := by
  induction t with
  | var y => exact List.mem_singleton.trans (eq_comm.trans beq_iff_eq.symm)
  | any | val _ | nil => exact ⟨nofun, nofun⟩
  | cons a b iha ihb =>
    rw [names, mentions, List.mem_eraseDups, List.mem_append, Bool.or_eq_true, iha, ihb]
  | comp g a ih => exact ih

theorem mentions_eq_false {z : Name} {t : STerm} (h : z ∉ t.names) : t.mentions z = false :=
  Bool.eq_false_iff.2 fun hm => h ((mem_names z t).2 hm)

theorem bindAll_notin (env : Env) (ns : List Name) (n : Nat) (y : Name) (h : y ∉ ns) : bindAll env ns n y = env y := by
  induction ns generalizing env n with
  | nil => rfl
  | cons x xs ih =>
    rw [bindAll, ih _ (n + 1) (List.not_mem_of_not_mem_cons h), Env.bind_ne (List.ne_of_not_mem_cons h)]

theorem bindAll_congr (env env' : Env) (ns : List Name) (n : Nat) (y : Name) (h : y ∉ ns → env y = env' y) :
    bindAll env ns n y = bindAll env' ns n y := by
  induction ns generalizing env env' n with
  | nil => exact h List.not_mem_nil
  | cons x xs ih =>
    refine ih (env.bind x n) (env'.bind x n) (n + 1) fun hy => ?_
    by_cases e : y = x
    · rw [e, Env.bind_self, Env.bind_self]
    · rw [Env.bind_ne e, Env.bind_ne e]
      exact h fun hm => (List.mem_cons.1 hm).elim e hy

theorem elabG_congr (g : SGoal) (env env' : Env) (n : Nat) (h : ∀ x ∈ g.allNames, env x = env' x) :
    elabG env g n = elabG env' g n := by
  induction g generalizing env env' n with
  | eq a b =>
    rw [elabG_eq, elabG_eq,
      elabT_congr env env' a n fun x hx => h x (List.mem_append_left _ ((mem_names x a).2 hx)),
      elabT_congr env env' b _ fun x hx => h x (List.mem_append_right _ ((mem_names x b).2 hx))]
  | neq a b =>
    rw [elabG_neq, elabG_neq,
      elabT_congr env env' a n fun x hx => h x (List.mem_append_left _ ((mem_names x a).2 hx)),
      elabT_congr env env' b _ fun x hx => h x (List.mem_append_right _ ((mem_names x b).2 hx))]
  | tt | ff => rfl
  | conj g1 g2 ih1 ih2 =>
    rw [elabG_conj, elabG_conj, ih1 env env' n fun x hx => h x (List.mem_append_left _ hx),
      ih2 env env' _ fun x hx => h x (List.mem_append_right _ hx)]
  | disj g1 g2 ih1 ih2 =>
    rw [elabG_disj, elabG_disj, ih1 env env' n fun x hx => h x (List.mem_append_left _ hx),
      ih2 env env' _ fun x hx => h x (List.mem_append_right _ hx)]
  | fresh y g ih =>
    rw [elabG_fresh, elabG_fresh, ih (env.bind y n) (env'.bind y n) (n + 1) fun x hx => ?_]
    by_cases e : x = y
    · rw [e, Env.bind_self, Env.bind_self]
    · rw [Env.bind_ne e, Env.bind_ne e]; exact h x (List.mem_cons_of_mem _ hx)
  | mtch t p body rest ihb ihr =>
    simp only [allNames, List.mem_append] at h
    have he : ∀ n1 x, (x ∈ p.names ∨ x ∈ body.allNames) → bindAll env p.names n1 x = bindAll env' p.names n1 x :=
      fun n1 x hx => bindAll_congr env env' p.names n1 x fun hn => h x (.inl (.inr (hx.resolve_left hn)))
    simp only [elabG_mtch]
    rw [elabT_congr env env' t n fun x hx => h x (.inl (.inl (.inl ((mem_names x t).2 hx)))),
      elabT_congr _ _ p _ fun x hx => he _ x (.inl ((mem_names x p).2 hx)),
      ihb _ _ _ fun x hx => he _ x (.inr hx), ihr env env' _ fun x hx => h x (.inr hx)]

theorem bindAll_bind (env : Env) (z : Name) (k : Nat) (ns : List Name) (n : Nat) (h : z ∉ ns) :
    bindAll (env.bind z k) ns n = (bindAll env ns n).bind z k := by
  induction ns generalizing env n with
  | nil => rfl
  | cons x xs ih =>
    rw [bindAll, Env.bind_comm env z x k n (List.ne_of_not_mem_cons h), ih _ (n + 1) (List.not_mem_of_not_mem_cons h)]
    rfl

theorem bindAll_shadow (env : Env) {x : Name} (k : Nat) {ns : List Name} (n : Nat) (h : x ∈ ns) :
    bindAll (env.bind x k) ns n = bindAll env ns n :=
  funext fun w => bindAll_congr _ _ ns n w fun hn => Env.bind_ne fun e => hn (e ▸ h)

theorem elabG_bind_notin (g : SGoal) (env : Env) (z : Name) (k n : Nat) (h : z ∉ g.allNames) :
    elabG (env.bind z k) g n = elabG env g n :=
  elabG_congr g _ _ n fun _ hw => Env.bind_ne fun e => h (e ▸ hw)

/-- alpha-renaming: consistently renaming the free occurrences of `x` to a name `z` used nowhere in the goal, while
    the environment binds `z` instead of `x`, gives literally the same elaborated goal and counter -/
theorem elabG_rename (g : SGoal) (env : Env) (x z : Name) (k n : Nat) (h : z ∉ g.allNames) :
    elabG (env.bind z k) (g.rename x z) n = elabG (env.bind x k) g n := by
  induction g generalizing env n with
  | eq a b =>
    rw [SGoal.rename, elabG_eq, elabG_eq,
      elabT_rename env x z k a n (mentions_eq_false fun hm => h (List.mem_append_left _ hm)),
      elabT_rename env x z k b _ (mentions_eq_false fun hm => h (List.mem_append_right _ hm))]
  | neq a b =>
    rw [SGoal.rename, elabG_neq, elabG_neq,
      elabT_rename env x z k a n (mentions_eq_false fun hm => h (List.mem_append_left _ hm)),
      elabT_rename env x z k b _ (mentions_eq_false fun hm => h (List.mem_append_right _ hm))]
  | tt | ff => rfl
  | conj g1 g2 ih1 ih2 =>
    rw [SGoal.rename, elabG_conj, elabG_conj, ih1 env n fun hm => h (List.mem_append_left _ hm),
      ih2 env _ fun hm => h (List.mem_append_right _ hm)]
  | disj g1 g2 ih1 ih2 =>
    rw [SGoal.rename, elabG_disj, elabG_disj, ih1 env n fun hm => h (List.mem_append_left _ hm),
      ih2 env _ fun hm => h (List.mem_append_right _ hm)]
  | fresh y g ih =>
    have hzy : z ≠ y := List.ne_of_not_mem_cons h
    have hg : z ∉ g.allNames := List.not_mem_of_not_mem_cons h
    by_cases e : y = x
    · -- the binder rebinds x: nothing is renamed below it, and neither x's nor z's outer binding is seen
      rw [SGoal.rename, if_pos e, ← e, elabG_fresh, elabG_fresh, Env.bind_comm env z y k n hzy,
        elabG_bind_notin g _ z k _ hg, Env.bind_bind]
    · rw [SGoal.rename, if_neg e, elabG_fresh, elabG_fresh, Env.bind_comm env z y k n hzy,
        Env.bind_comm env x y k n (Ne.symm e), ih (env.bind y n) (n + 1) hg]
  | mtch t p body rest ihb ihr =>
    simp only [allNames, List.mem_append, not_or] at h
    obtain ⟨⟨⟨ht, hzp⟩, hb⟩, hr⟩ := h
    -- the pattern is elaborated under its own binders, which hide the binding of `x` or `z`
    have hpe : ∀ n1, elabT (bindAll (env.bind z k) p.names n1) p (n1 + p.names.length)
                   = elabT (bindAll (env.bind x k) p.names n1) p (n1 + p.names.length) := fun n1 =>
      elabT_congr _ _ p _ fun w hw => bindAll_congr _ _ p.names n1 w fun hn => absurd ((mem_names w p).2 hw) hn
    have hbody : ∀ n1 n2, elabG (bindAll (env.bind z k) p.names n1) (if p.names.contains x then body else body.rename x z) n2
                        = elabG (bindAll (env.bind x k) p.names n1) body n2 := fun n1 n2 => by
      by_cases hx : x ∈ p.names
      · -- the pattern rebinds x: the body is untouched and does not mention z
        rw [if_pos (List.contains_iff_mem.2 hx), bindAll_bind env z k p.names n1 hzp, elabG_bind_notin body _ z k n2 hb,
          bindAll_shadow env k n1 hx]
      · rw [if_neg (mt List.contains_iff_mem.1 hx), bindAll_bind env z k p.names n1 hzp, bindAll_bind env x k p.names n1 hx]
        exact ihb _ n2 hb
    simp only [SGoal.rename, elabG_mtch]
    rw [elabT_rename env x z k t n (mentions_eq_false ht), hpe, hbody, ihr env _ hr]

theorem bindAll_range (env : Env) (ns : List Name) (n : Nat) (y : Name) :
    bindAll env ns n y = env y ∨ (n ≤ bindAll env ns n y ∧ bindAll env ns n y < n + ns.length) := by
  induction ns generalizing env n with
  | nil => exact .inl rfl
  | cons x xs ih =>
    simp only [bindAll, List.length_cons]
    rcases ih (env.bind x n) (n + 1) with h | ⟨h1, h2⟩
    · rw [h]
      by_cases e : y = x
      · rw [e, Env.bind_self]; exact .inr ⟨Nat.le_refl _, by omega⟩
      · exact .inl (Env.bind_ne e)
    · exact .inr ⟨by omega, by omega⟩

/-- what is elaborated from counter `n` to counter `n'`, mentioning the names `xs`, has the ids `vs`: the counter only
    grows, and each id is the image of one of those names or was allocated on the way (an id in `[n, n')`) -/
def Scoped (env : Env) (xs : List Name) (n n' : Nat) (vs : List Nat) : Prop :=
  n ≤ n' ∧ ∀ v ∈ vs, (∃ x ∈ xs, v = env x) ∨ (n ≤ v ∧ v < n')

namespace Scoped
variable {env : Env} {xs ys : List Name} {n n1 n2 n' : Nat} {vs ws : List Nat}

theorem nil (env : Env) (n : Nat) : Scoped env [] n n [] := ⟨Nat.le_refl n, fun _ hv => nomatch hv⟩

theorem name (env : Env) (x : Name) (n : Nat) : Scoped env [x] n n [env x] :=
  ⟨Nat.le_refl n, fun _ hv => .inl ⟨x, List.mem_singleton_self x, List.mem_singleton.1 hv⟩⟩

theorem alloc (env : Env) (n : Nat) : Scoped env [] n (n + 1) [n] :=
  ⟨Nat.le_succ n, fun v hv => .inr (by rw [List.mem_singleton.1 hv]; exact ⟨Nat.le_refl n, Nat.lt_succ_self n⟩)⟩

theorem names (h : Scoped env xs n n' vs) (hs : ∀ x ∈ xs, x ∈ ys) : Scoped env ys n n' vs :=
  ⟨h.1, fun v hv => (h.2 v hv).imp_left fun ⟨x, hx, e⟩ => ⟨x, hs x hx, e⟩⟩

theorem append (h1 : Scoped env xs n n1 vs) (h2 : Scoped env ys n1 n2 ws) : Scoped env (xs ++ ys) n n2 (vs ++ ws) := by
  refine ⟨Nat.le_trans h1.1 h2.1, fun v hv => ?_⟩
  rcases List.mem_append.1 hv with hv | hv
  · exact (h1.2 v hv).imp (fun ⟨x, hx, e⟩ => ⟨x, List.mem_append_left _ hx, e⟩) fun ⟨a, b⟩ => ⟨a, Nat.lt_of_lt_of_le b h2.1⟩
  · exact (h2.2 v hv).imp (fun ⟨x, hx, e⟩ => ⟨x, List.mem_append_right _ hx, e⟩) fun ⟨a, b⟩ => ⟨Nat.le_trans h1.1 a, b⟩

theorem unbindAll {ns : List Name} (h : Scoped (bindAll env ns n) xs (n + ns.length) n' vs) : Scoped env xs n n' vs := by
  have hle : n ≤ n + ns.length := Nat.le_add_right n _
  refine ⟨Nat.le_trans hle h.1, fun v hv => ?_⟩
  rcases h.2 v hv with ⟨x, hx, rfl⟩ | ⟨a, b⟩
  · rcases bindAll_range env ns n x with e | ⟨a, b⟩
    · exact .inl ⟨x, hx, e⟩
    · exact .inr ⟨a, Nat.lt_of_lt_of_le b h.1⟩
  · exact .inr ⟨Nat.le_trans hle a, b⟩

theorem below (h : Scoped env xs n n' vs) (henv : ∀ x ∈ xs, env x < n) : ∀ v ∈ vs, v < n' := fun v hv => by
  rcases h.2 v hv with ⟨x, hx, rfl⟩ | ⟨_, b⟩
  · exact Nat.lt_of_lt_of_le (henv x hx) h.1
  · exact b

end Scoped

theorem elabT_scope (env : Env) (t : STerm) (n : Nat) :
    Scoped env t.names n (elabT env t n).2 (elabT env t n).1.vars := by
  induction t generalizing n with
  | var x => exact .name env x n
  | any => exact .alloc env n
  | val _ | nil => exact .nil env n
  | cons a b iha ihb => exact ((iha n).append (ihb _)).names fun _ hx => List.mem_eraseDups.2 hx
  | comp _ a ih => exact ih n

/-- freshness: the counter only grows, and every variable of the elaborated goal is the image of a name the goal
    mentions or was allocated by this very elaboration (an id in `[n, n')`) -/
theorem elabG_scope (g : SGoal) (env : Env) (n : Nat) :
    Scoped env g.allNames n (elabG env g n).2 (elabG env g n).1.vars := by
  induction g generalizing env n with
  | eq a b | neq a b => exact (elabT_scope env a n).append (elabT_scope env b _)
  | tt | ff => exact .nil env n
  | conj g1 g2 ih1 ih2 | disj g1 g2 ih1 ih2 => exact (ih1 env n).append (ih2 env _)
  -- a binder is a one-name pattern
  | fresh x g ih =>
    exact (Scoped.unbindAll (ns := [x]) (ih (env.bind x n) (n + 1))).names fun _ hx => List.mem_cons_of_mem x hx
  | mtch t p body rest ihb ihr =>
    have hp := ((elabT_scope _ p _).append (ihb (bindAll env p.names (elabT env t n).2) _)).unbindAll
    have := ((elabT_scope env t n).append hp).append (ihr env _)
    rw [← List.append_assoc, ← List.append_assoc] at this
    exact this

end Surface
end Pv
