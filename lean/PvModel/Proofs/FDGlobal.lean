/-
  Global semantics of the CLP(FD)/CLP(Z) state machine: every operation of Model/State.lean — through the
  re-entrant `run_constraints → c.run → process_domain → resolve_storable_domain → run_constraints`
  loop — yields a state that describes exactly the valuations of the old state that satisfy the posted
  condition (`Ref`, Spec/FDSem.lean): propagation neither loses a solution nor admits a non-solution,
  whatever the iteration order of the hash-based stores.
-/
import PvModel.Spec.FDSem
import PvModel.Proofs.CntGlobal
import PvModel.Proofs.FDLocal
import PvModel.Proofs.FD
namespace Pv
open State Term FD
variable {I : Nat → Prop} [Mode]

theorem Keeps.same {st st' : State} (h : Solved st.σ) (hσ : st'.σ = st.σ) (hd : st'.dstore = st.dstore) :
    Keeps st st' :=
  ⟨by rw [hσ]; exact Ext.refl _ h, fun _ hy => .inl (by rw [hσ]; exact hy),
   fun y _ _ hh => by unfold dget at *; rw [hd]; exact hh,
   fun y hy => by rw [hσ] at hy; exact hy,
   fun y hh => .inl (by unfold dget at *; rw [hd] at hh; exact hh),
   fun y _ => by unfold dget; rw [hd],
   fun y d _ hh => .inl ⟨d, by unfold dget at *; rw [hd]; exact hh, fun _ h => h⟩⟩

theorem Keeps.refl {st : State} (h : Solved st.σ) : Keeps st st := Keeps.same h rfl rfl

theorem keeps_num {st st' : State} (k : Keeps st st') {y : Nat} {n : Int} (h : st.σ y = Term.num n) :
    st'.σ y = Term.num n := by
  have := k.ext (.var y)
  simp only [apply] at this
  rw [h] at this
  simpa [Term.num, apply] using this.symm

theorem Keeps.trans {st st1 st2 : State} (h1 : Keeps st st1) (h2 : Keeps st1 st2) : Keeps st st2 := by
  have num2 : ∀ y n, st1.σ y = Term.num n → st2.σ y = Term.num n := fun y n => keeps_num h2
  refine ⟨Ext.trans h1.ext h2.ext, fun y hy => ?_, fun y hy hy2 hd => ?_, fun y hy => h1.mono y (h2.mono y hy),
    fun y hh => ?_, fun y hy => ?_, fun y d hy hd => ?_⟩
  · rcases h1.numonly y hy with a | ⟨n, a⟩
    · exact h2.numonly y a
    · exact .inr ⟨n, num2 y n a⟩
  · rcases h1.numonly y hy with a | ⟨n, a⟩
    · exact h2.dom y a hy2 (h1.dom y hy a hd)
    · have := num2 y n a
      rw [hy2] at this
      simp [Term.num] at this
  · rcases h2.keys y hh with a | a
    · exact h1.keys y a
    · exact .inr (h1.mono y a)
  · have hb1 : st1.σ y ≠ .var y := fun e => hy (h1.mono y e)
    rw [h2.bound y hb1, h1.bound y hy]
  · rcases h1.shrink y d hy hd with ⟨d1, hd1, hs1⟩ | ⟨n, hn, hm⟩
    · by_cases hy1 : st1.σ y = .var y
      · rcases h2.shrink y d1 hy1 hd1 with ⟨d2, hd2, hs2⟩ | ⟨n, hn, hm⟩
        · exact .inl ⟨d2, hd2, fun n h => hs1 n (hs2 n h)⟩
        · exact .inr ⟨n, hn, hs1 n hm⟩
      · exact .inl ⟨d1, by rw [h2.bound y hy1]; exact hd1, hs1⟩
    · exact .inr ⟨n, num2 y n hn, hm⟩

/-- the shape of `Ref` with the relation `Φ` between the old and the new state left open -/
def RefP (Φ : State → State → Prop) (I : Nat → Prop) (S : Subst → Prop) (st : State) : Res State → Prop
  | .ok st' => Φ st st' ∧ ∀ γ, Sem I γ st' ↔ (Sem I γ st ∧ S γ)
  | .fail => ∀ γ, ¬ (Sem I γ st ∧ S γ)
  | .fuel => True
  | .panic s => Mode.allow ∧ DP s ∧ ∀ γ, ¬ (Sem I γ st ∧ S γ)

theorem RefP.bind {Φ Ψ Θ : State → State → Prop} {S T : Subst → Prop} {st : State} {r : Res State}
    {f : State → Res State} (h1 : RefP Φ I S st r)
    (h2 : ∀ st1, r = .ok st1 → Φ st st1 → (∀ γ, Sem I γ st1 ↔ (Sem I γ st ∧ S γ)) → RefP Ψ I T st1 (f st1))
    (hΘ : ∀ st1 st2, Φ st st1 → Ψ st1 st2 → Θ st st2) :
    RefP Θ I (fun γ => S γ ∧ T γ) st (r.bind f) := by
  cases r with
  | ok st1 =>
    have h2' := h2 st1 rfl h1.1 h1.2
    have back : ∀ γ, Sem I γ st ∧ S γ ∧ T γ → Sem I γ st1 ∧ T γ := fun γ a => ⟨(h1.2 γ).2 ⟨a.1, a.2.1⟩, a.2.2⟩
    simp only [Res.bind]
    cases hf : f st1 with
    | ok st2 =>
      rw [hf] at h2'
      exact ⟨hΘ st1 st2 h1.1 h2'.1, fun γ => by rw [h2'.2 γ, h1.2 γ, and_assoc]⟩
    | fail => rw [hf] at h2'; exact fun γ a => h2' γ (back γ a)
    | fuel => trivial
    | panic s => rw [hf] at h2'; exact ⟨h2'.1, h2'.2.1, fun γ a => h2'.2.2 γ (back γ a)⟩
  | fail => exact fun γ a => h1 γ ⟨a.1, a.2.1⟩
  | fuel => trivial
  | panic s => exact ⟨h1.1, h1.2.1, fun γ a => h1.2.2 γ ⟨a.1, a.2.1⟩⟩

/-- change of the state the outcome is measured from, and of the condition: `st0` with `S` describes the
    valuations that `st` with `T` describes -/
theorem RefP.base {Φ Ψ : State → State → Prop} {S T : Subst → Prop} {st0 st : State} {r : Res State}
    (h : RefP Φ I S st0 r) (hΦ : ∀ st', r = .ok st' → Φ st0 st' → Ψ st st')
    (h0 : ∀ γ, (Sem I γ st0 ∧ S γ) ↔ (Sem I γ st ∧ T γ)) : RefP Ψ I T st r := by
  cases r with
  | ok st' => exact ⟨hΦ st' rfl h.1, fun γ => (h.2 γ).trans (h0 γ)⟩
  | fail => exact fun γ a => h γ ((h0 γ).2 a)
  | fuel => trivial
  | panic s => exact ⟨h.1, h.2.1, fun γ a => h.2.2 γ ((h0 γ).2 a)⟩

theorem RefP.congr {Φ : State → State → Prop} {S T : Subst → Prop} {st : State} {r : Res State}
    (h : RefP Φ I S st r) (hST : ∀ γ, Sem I γ st → (S γ ↔ T γ)) : RefP Φ I T st r :=
  h.base (fun _ _ a => a) fun γ => and_congr_right (hST γ)

theorem ref_iff {S : Subst → Prop} {st : State} {r : Res State} :
    Ref I S st r ↔ RefP (fun st st' => WFS st' ∧ Keeps st st') I S st r := by
  cases r with
  | ok st' => exact and_assoc.symm
  | _ => exact Iff.rfl

theorem Ref.bind {S T : Subst → Prop} {st : State} {r : Res State} {f : State → Res State} (h1 : Ref I S st r)
    (h2 : ∀ st1, r = .ok st1 → WFS st1 → Keeps st st1 → (∀ γ, Sem I γ st1 ↔ (Sem I γ st ∧ S γ)) → Ref I T st1 (f st1)) :
    Ref I (fun γ => S γ ∧ T γ) st (r.bind f) :=
  ref_iff.2 ((ref_iff.1 h1).bind (fun st1 e a hs => ref_iff.1 (h2 st1 e a.1 a.2 hs)) fun _ _ a b => ⟨b.1, a.2.trans b.2⟩)

theorem Ref.base {S T : Subst → Prop} {st st0 : State} {r : Res State} (k0 : Keeps st st0)
    (h0 : ∀ γ, (Sem I γ st0 ∧ S γ) ↔ (Sem I γ st ∧ T γ)) (h : Ref I S st0 r) : Ref I T st r :=
  ref_iff.2 ((ref_iff.1 h).base (fun _ _ a => ⟨a.1, k0.trans a.2⟩) h0)

theorem Ref.congr {S T : Subst → Prop} {st : State} {r : Res State} (h : Ref I S st r)
    (hST : ∀ γ, Sem I γ st → (S γ ↔ T γ)) : Ref I T st r :=
  ref_iff.2 ((ref_iff.1 h).congr hST)

theorem Ref.entailed {S : Subst → Prop} {st : State} (w : WFS st) (h : ∀ γ, Sem I γ st → S γ) : Ref I S st (.ok st) :=
  ⟨w, Keeps.refl w.solved, fun γ => ⟨fun a => ⟨a, h γ a⟩, fun a => a.1⟩⟩

theorem Ref.refuted {S : Subst → Prop} {st : State} (h : ∀ γ, Sem I γ st → ¬ S γ) : Ref I S st .fail :=
  fun γ ⟨a, b⟩ => h γ a b

theorem Ref.ok_step {S : Subst → Prop} {st st' : State} (w : WFS st') (k : Keeps st st')
    (h : ∀ γ, Sem I γ st' ↔ (Sem I γ st ∧ S γ)) : Ref I S st (.ok st') := ⟨w, k, h⟩

theorem IOK.any {st st' : State} (h : IOK I st) : IOK I st' := h

theorem numAt_num (γ : Subst) (n m : Int) : NumAt γ (Term.num n) m ↔ n = m := by
  simp [NumAt, Term.num, apply]

theorem numAt_val (γ : Subst) (n m : Int) : NumAt γ (.val (.num n)) m ↔ n = m := numAt_num γ n m

theorem numAt_walk {σ γ : Subst} (hs : Solved σ) (hx : Ext σ γ) (t : Term) (n : Int) :
    NumAt γ (walk σ t) n ↔ NumAt γ t n := by
  unfold NumAt; rw [ext_walk hs hx]

theorem numAt_unique {γ : Subst} {t : Term} {n m : Int} (h1 : NumAt γ t n) (h2 : NumAt γ t m) : n = m := by
  unfold NumAt at h1 h2; rw [h1] at h2; simpa [Term.num] using h2

omit [Mode] in
theorem numAt_shape {γ : Subst} {t : Term} {n : Int} (h : NumAt γ t n) :
    (∃ x, t = .var x) ∨ t = .val (.num n) := by
  unfold NumAt at h
  cases t with
  | var x => exact .inl ⟨x, rfl⟩
  | val c =>
    cases c <;> simp_all [apply, Term.num]
  | _ => simp_all [apply, Term.num]

omit [Mode] in
theorem not_numAt_of_shape {γ : Subst} {t : Term} (hv : t.isVar = false) (hn : t.isNum = false) (n : Int) :
    ¬ NumAt γ t n := fun h => by
  rcases numAt_shape h with ⟨x, rfl⟩ | rfl
  · cases hv
  · cases hn

theorem dget_mem {st : State} {x : Nat} {d : FD} (h : st.dget x = some d) : (x, d) ∈ st.dstore := by
  unfold dget at h
  cases hf : st.dstore.find? (fun p => p.1 == x) with
  | none => rw [hf] at h; cases h
  | some p =>
    rw [hf] at h
    simp only [Option.map_some, Option.some.injEq] at h
    have hp := List.find?_some hf
    have hm := List.mem_of_find?_eq_some hf
    simp only [beq_iff_eq] at hp
    obtain ⟨a, b⟩ := p
    simp only at hp h
    subst hp; subst h; exact hm

theorem dget_none {st : State} {x : Nat} (h : st.dget x = none) : ∀ p ∈ st.dstore, p.1 ≠ x := by
  unfold dget at h
  intro p hp e
  cases hf : st.dstore.find? (fun p => p.1 == x) with
  | none =>
    have := List.find?_eq_none.1 hf p hp
    simp [e] at this
  | some q => rw [hf] at h; cases h

theorem nodup_fst_unique {l : List (Nat × FD)} (hn : (l.map (·.1)).Nodup) {x : Nat} {d d' : FD}
    (h1 : (x, d) ∈ l) (h2 : (x, d') ∈ l) : d = d' := by
  induction l with
  | nil => cases h1
  | cons a l ih =>
    simp only [List.map_cons, List.nodup_cons] at hn
    rcases List.mem_cons.1 h1 with e1 | m1 <;> rcases List.mem_cons.1 h2 with e2 | m2
    · rw [← e2] at e1; cases e1; rfl
    · subst e1; exact (hn.1 (List.mem_map_of_mem (f := (·.1)) m2)).elim
    · subst e2; exact (hn.1 (List.mem_map_of_mem (f := (·.1)) m1)).elim
    · exact ih hn.2 m1 m2

theorem dget_of_mem {st : State} (hn : (st.dstore.map (·.1)).Nodup) {x : Nat} {d : FD}
    (h : (x, d) ∈ st.dstore) : st.dget x = some d := by
  cases hg : st.dget x with
  | none => exact absurd rfl (dget_none hg _ h)
  | some d' => rw [nodup_fst_unique hn (dget_mem hg) h]

theorem dget_isSome_iff {st : State} {y : Nat} : (st.dget y).isSome ↔ ∃ p ∈ st.dstore, p.1 = y := by
  unfold dget
  rw [Option.isSome_map, List.find?_isSome]
  simp

theorem WFS.same {st st' : State} (w : WFS st) (hσ : st'.σ = st.σ) (hd : st'.dstore = st.dstore)
    (hs : ∀ p ∈ st'.store, p ∈ st.store ∨ CstOK p.2) : WFS st' :=
  ⟨by rw [hσ]; exact w.solved, by rw [hd]; exact w.dnodup, by rw [hd]; exact w.dwf,
   fun p hp => (hs p hp).elim (w.nodist p) id⟩

theorem WFS.dremove {st : State} (w : WFS st) (x : Nat) : WFS (st.dremove x) :=
  ⟨w.solved, (List.Sublist.map (fun q : Nat × FD => q.1) List.filter_sublist).nodup w.dnodup,
   fun p hp => w.dwf p (List.mem_filter.1 hp).1, w.nodist⟩

theorem sem_same {st st' : State} (hσ : st'.σ = st.σ) (hs : st'.store = st.store) (hd : st'.dstore = st.dstore)
    (γ : Subst) : Sem I γ st' ↔ Sem I γ st := by
  unfold Sem DomSem; rw [hσ, hs, hd]

theorem bindS_bound {σ : Subst} {x : Nat} {n : Int} (hs : Solved σ) (y : Nat)
    (h : bindS x (Term.num n) σ y = .var y) : σ y = .var y :=
  bind_unbound hs (by simp [Term.num, apply]) y h

theorem WFS.bindNum {st : State} (w : WFS st) {x : Nat} (hx : st.σ x = .var x) (n : Int) :
    WFS { st with σ := bindS x (Term.num n) st.σ } :=
  ⟨(bind_ok (t := Term.num n) w.solved hx (by simp [Term.num, apply]) (by simp [Term.num, occurs])).1,
   w.dnodup, w.dwf, w.nodist⟩

theorem find_filter_ne (l : List (Nat × FD)) {x y : Nat} (h : y ≠ x) :
    (l.filter (fun p => p.1 != x)).find? (fun p => p.1 == y) = l.find? (fun p => p.1 == y) := by
  induction l with
  | nil => rfl
  | cons a l ih =>
    by_cases hax : a.1 = x
    · have hay : (a.1 == y) = false := by
        simp only [beq_eq_false_iff_ne, ne_eq]; exact fun e => h (e ▸ hax)
      have hf : (a.1 != x) = false := by simp [hax]
      rw [List.filter_cons, hf, List.find?_cons, hay]
      simpa using ih
    · have hf : (a.1 != x) = true := by simp [hax]
      rw [List.filter_cons, hf]
      simp only [if_true, List.find?_cons]
      rw [ih]

theorem dget_dremove_ne (st : State) {x y : Nat} (h : y ≠ x) : (st.dremove x).dget y = st.dget y := by
  unfold dget dremove; simp only; rw [find_filter_ne _ h]

theorem dget_dinsert_ne (st : State) (d : FD) {x y : Nat} (h : y ≠ x) : (st.dinsert x d).dget y = st.dget y := by
  unfold dget dinsert
  simp only [List.find?_append, find_filter_ne _ h]
  have : ([(x, d)] : List (Nat × FD)).find? (fun p => p.1 == y) = none := by simp [Ne.symm h]
  rw [this, Option.or_none]

theorem dget_dinsert_self (st : State) (x : Nat) (d : FD) : (st.dinsert x d).dget x = some d := by
  unfold dget dinsert
  have h1 : (st.dstore.filter (fun p => p.1 != x)).find? (fun p => p.1 == x) = none := by
    rw [List.find?_eq_none]
    intro p hp
    have := (List.mem_filter.1 hp).2
    simpa using this
  simp [List.find?_append, h1]

/-- the nested `run_constraints` keeps the described valuations exactly -/
def RcSem (rc : State → Res State) : Prop :=
  ∀ (I : Nat → Prop) st, IOK I st → WFS st → Inv st → Ref I (fun _ => True) st (rc st)

def InDom (x : Term) (d : FD) (γ : Subst) : Prop := ∃ n, NumAt γ x n ∧ d.Mem n

theorem numAt_of_bound {σ γ : Subst} (e : Ext σ γ) {x : Nat} {n : Int} (h : σ x = Term.num n) :
    NumAt γ (.var x) n := by
  have := e (.var x)
  simp only [apply] at this
  rw [h] at this
  simpa [NumAt, Term.num, apply] using this.symm

theorem sem_dremove {st : State} {x : Nat} {γ : Subst}
    (h : Sem I γ (st.dremove x) → ∀ d, (x, d) ∈ st.dstore → InDom (.var x) d γ) :
    Sem I γ (st.dremove x) ↔ Sem I γ st := by
  refine ⟨fun hs => ⟨hs.1, hs.2.1, fun p hp hnI => ?_⟩,
    fun ⟨e, c, dm⟩ => ⟨e, c, fun p hp hn => dm p (List.mem_filter.1 hp).1 hn⟩⟩
  by_cases hpx : p.1 = x
  · obtain ⟨y, d⟩ := p
    cases hpx
    exact h hs d hp
  · exact hs.2.2 p (List.mem_filter.2 ⟨hp, by simpa using hpx⟩) hnI

theorem sem_bindNum {st : State} (ws : WFS st) {z : Nat} (hz : st.σ z = .var z) (n : Int) (γ : Subst) :
    Sem I γ { st with σ := bindS z (Term.num n) st.σ } ↔ (Sem I γ st ∧ NumAt γ (.var z) n) := by
  have hbo := bind_ok (t := Term.num n) ws.solved hz (by simp [Term.num, apply]) (by simp [Term.num, occurs])
  constructor
  · rintro ⟨e, c, dm⟩
    have e' : Ext st.σ γ := Ext.trans hbo.2.1 e
    have hzn : NumAt γ (.var z) n := by
      have := (bind_ext_iff (t := Term.num n) hz e').1 e (z, Term.num n) (by simp)
      simpa [NumAt, apply, Term.num] using this
    exact ⟨⟨e', c, dm⟩, hzn⟩
  · rintro ⟨⟨e, c, dm⟩, hm⟩
    exact ⟨ext_bind e (by simpa [NumAt, apply, Term.num] using hm), c, dm⟩

theorem bindS_numonly {σ : Subst} {x y : Nat} (n : Int) (hy : σ y = .var y) :
    bindS x (Term.num n) σ y = .var y ∨ ∃ m, bindS x (Term.num n) σ y = Term.num m := by
  by_cases hyx : y = x
  · subst hyx; exact .inr ⟨n, by simp [bindS, hy, apply, sub1]⟩
  · exact .inl (by simp [bindS, hy, apply, sub1, hyx])

theorem Keeps.bindNum {st : State} (w : WFS st) {z : Nat} (hz : st.σ z = .var z) (n : Int) :
    Keeps st { st with σ := bindS z (Term.num n) st.σ } :=
  ⟨(bind_ok (t := Term.num n) w.solved hz (by simp [Term.num, apply]) (by simp [Term.num, occurs])).2.1,
   fun _ hy => bindS_numonly n hy, fun _ _ _ hh => hh, fun y hy => bindS_bound w.solved y hy, fun _ hh => .inl hh,
   fun _ _ => rfl, fun _ d _ hh => .inl ⟨d, hh, fun _ h => h⟩⟩

theorem Keeps.bindNum_dremove {st : State} (w : WFS st) {x : Nat} (hx : st.σ x = .var x) {n : Int}
    (hn : ∀ old, st.dget x = some old → old.Mem n) :
    Keeps st ({ st with σ := bindS x (Term.num n) st.σ }.dremove x) := by
  have hσx : bindS x (Term.num n) st.σ x = Term.num n := by simp [bindS, hx, apply, sub1]
  have hdget : ∀ y, y ≠ x → ({ st with σ := bindS x (Term.num n) st.σ }.dremove x).dget y = st.dget y :=
    fun y hyx => dget_dremove_ne _ hyx
  refine ⟨(bind_ok (t := Term.num n) w.solved hx (by simp [Term.num, apply]) (by simp [Term.num, occurs])).2.1,
    fun _ hy => bindS_numonly n hy, fun y _ hy2 hh => ?_, fun y hy => bindS_bound w.solved y hy, fun y hh => ?_,
    fun y hy => hdget y fun e => hy (e ▸ hx), fun y d' hy hh => ?_⟩
  · have hyx : y ≠ x := fun e => by subst e; have := hσx.symm.trans hy2; simp [Term.num] at this
    rw [hdget y hyx]; exact hh
  · by_cases hyx : y = x
    · exact .inr (hyx ▸ hx)
    · rw [hdget y hyx] at hh; exact .inl hh
  · by_cases hyx : y = x
    · subst hyx; exact .inr ⟨n, hσx, hn d' hh⟩
    · exact .inl ⟨d', by rw [hdget y hyx]; exact hh, fun _ h => h⟩

theorem WFS.dinsert {st : State} (w : WFS st) (x : Nat) {d : FD} (hd : WF d) : WFS (st.dinsert x d) := by
  refine ⟨w.solved, ?_, ?_, w.nodist⟩
  · simp only [State.dinsert, List.map_append, List.map_cons, List.map_nil]
    refine List.nodup_append.2 ⟨(List.Sublist.map (fun q : Nat × FD => q.1) List.filter_sublist).nodup w.dnodup, by simp, ?_⟩
    intro a ha b hb
    simp only [List.mem_singleton] at hb
    subst hb
    obtain ⟨q, hq, rfl⟩ := List.mem_map.1 ha
    have := (List.mem_filter.1 hq).2
    simpa using this
  · intro p hp
    simp only [State.dinsert, List.mem_append, List.mem_singleton] at hp
    rcases hp with hp | rfl
    · exact w.dwf p (List.mem_filter.1 hp).1
    · exact hd

theorem Keeps.dinsert {st : State} (w : WFS st) {x : Nat} (hx : st.σ x = .var x) {d : FD}
    (hsub : ∀ old, st.dget x = some old → ∀ n, d.Mem n → old.Mem n) : Keeps st (st.dinsert x d) := by
  have hdget : ∀ y, y ≠ x → (st.dinsert x d).dget y = st.dget y := fun y hyx => dget_dinsert_ne st d hyx
  refine ⟨Ext.refl _ w.solved, fun y hy => .inl hy, fun y _ _ hh => ?_, fun y hy => hy, fun y hh => ?_,
    fun y hy => hdget y fun e => hy (e ▸ hx), fun y d' hy hh => ?_⟩
  · by_cases hyx : y = x
    · exact dget_isSome_iff.2 ⟨(x, d), by simp [State.dinsert], hyx.symm⟩
    · rw [hdget y hyx]; exact hh
  · by_cases hyx : y = x
    · exact .inr (hyx ▸ hx)
    · rw [hdget y hyx] at hh; exact .inl hh
  · by_cases hyx : y = x
    · subst hyx
      exact .inl ⟨d, dget_dinsert_self st y d, hsub d' hh⟩
    · exact .inl ⟨d', by rw [hdget y hyx]; exact hh, fun _ h => h⟩

section Nested
variable {rc : State → Res State} (hrs : RcSem rc)
include hrs

theorem resolveStorable_sem {st : State} {x : Nat} {d : FD} (hI : IOK I st) (w : WFS st) (hi : Inv st)
    (hx : st.σ x = .var x) (hd : WF d)
    (hsub : ∀ old, st.dget x = some old → ∀ n, d.Mem n → old.Mem n) :
    Ref I (InDom (.var x) d) st (resolveStorable rc st x d) := by
  have hnIx : ¬ I x := hI x
  unfold resolveStorable
  split
  · rename_i n hsv
    have hsing := (singletonValue_spec d hd n).1 hsv
    have hn : ∀ old, st.dget x = some old → old.Mem n := fun old ho => hsub old ho n ((hsing n).2 rfl)
    refine Ref.base (Keeps.bindNum_dremove w hx hn) (fun γ => ?_)
      (hrs I _ hI.any ((w.bindNum hx n).dremove x) (SameStore.inv ⟨rfl, rfl, rfl, rfl, rfl⟩ hi))
    have hrem := sem_dremove (I := I) (st := { st with σ := bindS x (Term.num n) st.σ }) (x := x) (γ := γ)
      fun hs old hm => ⟨n, numAt_of_bound hs.1 (by simp [dremove, bindS, hx, apply, sub1]),
        hn old (dget_of_mem w.dnodup hm)⟩
    rw [and_true, hrem, sem_bindNum w hx n γ]
    refine and_congr_right fun _ => ⟨fun h => ⟨n, h, (hsing n).2 rfl⟩, ?_⟩
    rintro ⟨m, hm, hmd⟩
    rw [← (hsing m).1 hmd]; exact hm
  · refine Ref.ok_step (w.dinsert x hd) (Keeps.dinsert w hx hsub) fun γ => ?_
    unfold Sem DomSem InDom
    simp only [dinsert]
    constructor
    · rintro ⟨e, c, dm⟩
      obtain ⟨n, hn, hnd⟩ := dm (x, d) (by simp) hnIx
      refine ⟨⟨e, c, fun p hp hnI => ?_⟩, n, hn, hnd⟩
      by_cases hpx : p.1 = x
      · have hg : st.dget x = some p.2 := dget_of_mem w.dnodup (by rw [← hpx]; exact hp)
        exact ⟨n, by rw [hpx]; exact hn, hsub _ hg n hnd⟩
      · exact dm p (List.mem_append.2 (.inl (List.mem_filter.2 ⟨hp, by simpa using hpx⟩))) hnI
    · rintro ⟨⟨e, c, dm⟩, n, hn, hnd⟩
      refine ⟨e, c, fun p hp hnI => ?_⟩
      rcases List.mem_append.1 hp with hp | hp
      · exact dm p (List.mem_filter.1 hp).1 hnI
      · simp only [List.mem_singleton] at hp; subst hp; exact ⟨n, hn, hnd⟩

theorem updateVarDomain_sem {st : State} {x : Nat} {d : FD} (hI : IOK I st) (w : WFS st) (hi : Inv st)
    (hx : st.σ x = .var x) (hd : WFI d) (hdv : WF d ∨ (st.dget x).isSome) :
    Ref I (InDom (.var x) d) st (updateVarDomain rc st x d) := by
  have hnIx : ¬ I x := hI x
  unfold updateVarDomain
  split
  · rename_i old hold
    have hwo : WF old := w.dwf _ (dget_mem hold)
    split
    · rename_i i hint
      obtain ⟨hwi, hmi⟩ := intersect_some old d i hwo hd hint
      refine (resolveStorable_sem hrs hI w hi hx hwi fun o ho n hn => ?_).congr fun γ hs => ?_
      · rw [hold] at ho; cases ho; exact ((hmi n).1 hn).1
      · unfold InDom
        constructor
        · rintro ⟨n, hn, hni⟩; exact ⟨n, hn, ((hmi n).1 hni).2⟩
        · rintro ⟨n, hn, hnd⟩
          obtain ⟨m, hm, hmo⟩ := hs.2.2 (x, old) (dget_mem hold) hnIx
          have : m = n := numAt_unique hm hn
          subst this
          exact ⟨m, hn, (hmi m).2 ⟨hmo, hnd⟩⟩
    · rename_i hint
      refine Ref.refuted fun γ hs => ?_
      rintro ⟨n, hn, hnd⟩
      obtain ⟨m, hm, hmo⟩ := hs.2.2 (x, old) (dget_mem hold) hnIx
      have : m = n := numAt_unique hm hn
      subst this
      exact intersect_none old d hwo hd hint m ⟨hmo, hnd⟩
  · rename_i hnone
    have hd' : WF d := by
      rcases hdv with h | h
      · exact h
      · rw [hnone] at h; cases h
    exact resolveStorable_sem hrs hI w hi hx hd' fun o ho => by rw [hnone] at ho; cases ho

theorem processDomain_sem {st : State} {x : Term} {d : FD} (hI : IOK I st) (w : WFS st) (hi : Inv st)
    (hd : WFI d) (hdv : WF d ∨ ∀ y, walk st.σ x = .var y → (st.dget y).isSome) :
    Ref I (InDom x d) st (processDomain rc st x d) := by
  unfold processDomain
  split
  · rename_i y hy
    have hyu : st.σ y = .var y := walk_normal w.solved x y hy
    refine (updateVarDomain_sem hrs hI w hi hyu hd (hdv.imp id fun h => h y hy)).congr fun γ hs => ?_
    unfold InDom
    constructor <;> rintro ⟨n, hn, hnd⟩
    · exact ⟨n, by rw [← numAt_walk w.solved hs.1, hy]; exact hn, hnd⟩
    · exact ⟨n, by rw [← hy, numAt_walk w.solved hs.1]; exact hn, hnd⟩
  · rename_i v hv
    have key : ∀ γ, Sem I γ st → (InDom x d γ ↔ d.Mem v) := fun γ hs => by
      unfold InDom
      constructor
      · rintro ⟨n, hn, hnd⟩
        rw [← numAt_walk w.solved hs.1, hv] at hn
        have : v = n := (numAt_num γ v n).1 hn
        subst this; exact hnd
      · intro h
        exact ⟨v, by rw [← numAt_walk w.solved hs.1, hv]; exact (numAt_num γ v v).2 rfl, h⟩
    split
    · rename_i hc
      exact Ref.entailed w fun γ hs => (key γ hs).2 ((contains_spec d v).1 hc)
    · rename_i hc
      exact Ref.refuted fun γ hs h => hc ((contains_spec d v).2 ((key γ hs).1 h))
  · rename_i hnv hnn
    refine Ref.refuted fun γ hs ⟨n, hn, _⟩ => ?_
    rw [← numAt_walk w.solved hs.1] at hn
    rcases numAt_shape hn with ⟨y, hy⟩ | hy
    · exact hnv y hy
    · exact hnn n hy

theorem narrow_sem {S : Subst → Prop} {st : State} {t : Term} {d : FD} {k : State → Res State} (hI : IOK I st)
    (w : WFS st) (hi : Inv st) (hd : WF d) (hin : ∀ γ, Sem I γ st → S γ → InDom t d γ)
    (hk : ∀ s1, processDomain rc st t d = .ok s1 → WFS s1 → Keeps st s1 → (∀ γ, Sem I γ s1 → Sem I γ st) →
      Ref I S s1 (k s1)) :
    Ref I S st ((processDomain rc st t d).bind k) :=
  (Ref.bind (processDomain_sem hrs hI w hi (WFI.of_wf hd) (.inl hd)) fun s1 e w1 k1 h1 =>
    hk s1 e w1 k1 fun γ hs => ((h1 γ).1 hs).1).congr fun γ hs => ⟨fun a => a.2, fun a => ⟨hin γ hs a, a⟩⟩

end Nested

theorem with_semG (ord : Order) {st : State} {i : Nat} {c : Cst} (w : WFS st) (f : Fr i st)
    (hd : c.isDiseq = false) (hnd : CstOK c) :
    Ref I (fun γ => CstSem γ c) st (.ok (st.withConstraint ord i c)) := by
  have hs : (st.withConstraint ord i c).store = st.store ++ [(i, c)] ∧
      (st.withConstraint ord i c).σ = st.σ ∧ (st.withConstraint ord i c).dstore = st.dstore := by
    rw [withConstraint_other ord st i hd]
    exact ⟨congrArg (· ++ [(i, c)]) (filter_ne_self f.2.2), rfl, rfl⟩
  refine Ref.ok_step (w.same hs.2.1 hs.2.2 fun p hp => ?_) (Keeps.same w.solved hs.2.1 hs.2.2) fun γ => ?_
  · rw [hs.1] at hp
    rcases List.mem_append.1 hp with hp | hp
    · exact .inl hp
    · simp only [List.mem_singleton] at hp; subst hp; exact .inr hnd
  unfold Sem DomSem
  rw [hs.1, hs.2.1, hs.2.2]
  constructor
  · rintro ⟨e, cs, dm⟩
    exact ⟨⟨e, fun p hp => cs p (List.mem_append.2 (.inl hp)), dm⟩, cs (i, c) (by simp)⟩
  · rintro ⟨⟨e, cs, dm⟩, hc⟩
    refine ⟨e, fun p hp => ?_, dm⟩
    rcases List.mem_append.1 hp with hp | hp
    · exact cs p hp
    · simp only [List.mem_singleton] at hp; subst hp; exact hc

theorem with_sem (ord : Order) {st : State} {i : Nat} {c : Cst} (w : WFS st) (f : Fr i st)
    (hd : c.isDiseq = false) (hnd : c.isDistinct = false) :
    Ref I (fun γ => CstSem γ c) st (.ok (st.withConstraint ord i c)) :=
  with_semG ord w f hd (CstOK.of_not_distinct hnd)

theorem take_sem {st : State} {i : Nat} {c : Cst} (hi : Inv st) (hm : (i, c) ∈ st.store) (γ : Subst) :
    Sem I γ st ↔
      (Sem I γ { st with store := st.store.filter (fun p => p.1 != i), takes := st.takes + 1 } ∧ CstSem γ c) := by
  unfold Sem DomSem
  constructor
  · rintro ⟨e, cs, dm⟩
    exact ⟨⟨e, fun p hp => cs p (List.mem_filter.1 hp).1, dm⟩, cs (i, c) hm⟩
  · rintro ⟨⟨e, cs, dm⟩, hc⟩
    refine ⟨e, fun p hp => ?_, dm⟩
    by_cases hpi : p.1 = i
    · have : p = (i, c) := nodup_fst_eq hi.2.1 hp hm (by simpa using hpi)
      subst this; exact hc
    · exact cs p (List.mem_filter.2 ⟨hp, by simpa using hpi⟩)

theorem withNew_diseq_sem {ord : Order} (ho : OrderOK ord) {st : State} (w : WFS st) (hi : Inv st)
    (ps : Ext1) : Ref I (fun γ => DiseqHolds γ ps) st (.ok (st.withNewConstraint ord (.diseq ps))) := by
  unfold State.withNewConstraint
  rw [withConstraint_diseq_eq]
  simp only []
  split
  · rename_i hany
    refine Ref.ok_step (w.same rfl rfl fun p hp => .inl hp) (Keeps.same w.solved rfl rfl) fun γ => ?_
    rw [sem_same (st := st) rfl rfl rfl]
    refine ⟨fun a => ⟨a, ?_⟩, fun a => a.1⟩
    obtain ⟨p, hp, hsub⟩ := List.any_eq_true.mp hany
    obtain ⟨ps', he, hs⟩ := subBy_true hsub
    have := a.2.1 p hp
    rw [he] at this
    exact subsumes_sound ho hs γ this
  · generalize hst0 : ({ st with nextId := st.nextId + 1 } : State) = st0
    have hstore0 : st0.store = st.store := by subst hst0; rfl
    have hσ0 : st0.σ = st.σ := by subst hst0; rfl
    have hd0 : st0.dstore = st.dstore := by subst hst0; rfl
    generalize hred : (ord.cs st.store).filter (subOf ord ps) = red
    obtain ⟨t1, t2, t3, t4, t5⟩ := takes_fields red st0
    have hmem : ∀ q, q ∈ (takes red st0).store → q ∈ st.store := fun q hq => by
      rw [← hstore0]; exact ((t5 q).mp hq).1
    refine Ref.ok_step (w.same (t1.trans hσ0) (t2.trans hd0) fun p hp => ?_) (Keeps.same w.solved (t1.trans hσ0) (t2.trans hd0)) fun γ => ?_
    · rcases List.mem_append.mp hp with hp | hp
      · exact .inl (hmem p hp)
      · simp only [List.mem_singleton] at hp; subst hp; exact .inr trivial
    unfold Sem DomSem
    show (Ext (takes red st0).σ γ ∧ (∀ p ∈ (takes red st0).store ++ [(st.nextId, Cst.diseq ps)], CstSem γ p.2) ∧
      ∀ p ∈ (takes red st0).dstore, _) ↔ _
    rw [t1, t2, hσ0, hd0]
    constructor
    · rintro ⟨e, a, dm⟩
      have hnew : DiseqHolds γ ps :=
        a (st.nextId, .diseq ps) (List.mem_append.mpr (Or.inr (List.mem_singleton.mpr rfl)))
      refine ⟨⟨e, fun q hq => ?_, dm⟩, hnew⟩
      by_cases hin : q ∈ (takes red st0).store
      · exact a q (List.mem_append.mpr (Or.inl hin))
      · have hq0 : q ∈ st0.store := by rw [hstore0]; exact hq
        have : ¬ ∀ p ∈ red, q.1 ≠ p.1 := fun hall => hin ((t5 q).mpr ⟨hq0, hall⟩)
        have : ∃ p ∈ red, q.1 = p.1 := by
          apply Classical.byContradiction
          intro hne; apply this; intro p hp heq; exact hne ⟨p, hp, heq⟩
        obtain ⟨p, hp, hqp⟩ := this
        rw [← hred, List.mem_filter] at hp
        have hp0 : p ∈ st.store := (ho.1 st.store).mem_iff.mp hp.1
        have : q = p := nodup_fst_eq hi.2.1 hq hp0 hqp
        subst this
        obtain ⟨ps', he', hs⟩ := subOf_true hp.2
        rw [he']
        exact subsumes_sound ho hs γ hnew
    · rintro ⟨⟨e, a, dm⟩, b⟩
      refine ⟨e, fun q hq => ?_, dm⟩
      rcases List.mem_append.mp hq with hq | hq
      · exact a q (hmem q hq)
      · simp only [List.mem_singleton] at hq; subst hq; exact b

theorem runDiseq_sem {ord : Order} (ho : OrderOK ord) {st : State} (w : WFS st) (hi : Inv st) (ps : Ext1) :
    Ref I (fun γ => DiseqHolds γ ps) st (runDiseq ord st ps) := by
  unfold runDiseq
  split
  · trivial
  · rename_i h
    exact Ref.entailed w fun γ hs => reunify_fail ho w.solved h γ hs.1
  · rename_i σ' e h
    have hk := (reunify_ok ho w.solved h).1
    split
    · rename_i he
      have : e = [] := by simpa using he
      subst this
      exact Ref.refuted fun γ hs hp => not_diseqHolds_nil γ ((hk γ hs.1).2 hp)
    · exact (withNew_diseq_sem ho w hi e).congr fun γ hs => hk γ hs.1

/-- a re-run one level down adds exactly its constraint -/
def SelfSem (self : Nat → Cst → State → Res State) : Prop :=
  ∀ (I : Nat → Prop) i c st, IOK I st → WFS st → Fr i st → c.isDiseq = false → CstOK c →
    Ref I (fun γ => CstSem γ c) st (self i c st)

theorem selfSem_fuel : SelfSem (fun _ _ _ => .fuel) := fun _ _ _ _ _ _ _ _ _ => trivial

/-- the term is a walked operand: if it is a variable, that variable is unbound and has a domain -/
def HasDomIf (st : State) (t : Term) : Prop := ∀ y, t = .var y → st.σ y = .var y ∧ (st.dget y).isSome

theorem HasDomIf.keep {st s1 : State} {t : Term} (h : HasDomIf st t) (k : Keeps st s1) :
    ∀ y, walk s1.σ t = .var y → (s1.dget y).isSome := by
  intro y hy
  cases t with
  | var y0 =>
    obtain ⟨hu, hd⟩ := h y0 rfl
    simp only [walk] at hy
    rcases k.numonly y0 hu with a | ⟨n, a⟩
    · rw [a] at hy; cases hy; exact k.dom y hu a hd
    · rw [a] at hy; simp [Term.num] at hy
  | _ => simp [walk] at hy

theorem HasDomIf.trans {st s1 : State} {t : Term} (h : HasDomIf st t) (k : Keeps st s1) (hs : Solved s1.σ) :
    HasDomIf s1 (walk s1.σ t) := by
  intro y hy
  exact ⟨walk_normal hs t y hy, h.keep k y hy⟩

theorem opDomain_sem {st : State} (hI : IOK I st) (w : WFS st) {t : Term} {d : FD} (h : opDomain st t = some d) :
    WF d ∧ (∀ γ, Sem I γ st → ∀ n, NumAt γ t n → d.Mem n) ∧ (∀ y, t = .var y → (st.dget y).isSome) := by
  unfold opDomain at h
  split at h
  · rename_i x
    refine ⟨w.dwf _ (dget_mem h), fun γ hs n hn => ?_, fun y hy => by cases hy; rw [h]; rfl⟩
    obtain ⟨m, hm, hmd⟩ := hs.2.2 _ (dget_mem h) (hI x)
    rw [numAt_unique hn hm]; exact hmd
  · rename_i k
    cases h
    refine ⟨Int.le_refl _, fun γ _ n hn => ?_, fun y hy => by cases hy⟩
    have : k = n := (numAt_num γ k n).1 hn
    subst this
    exact ⟨Int.le_refl _, Int.le_refl _⟩
  · cases h

theorem opDomain_num {st : State} (hI : IOK I st) {t : Term} {d : FD} (h : opDomain st t = some d)
    {γ : Subst} (hs : Sem I γ st) :
    ∃ a, NumAt γ t a ∧ d.Mem a := by
  cases t with
  | var x =>
    simp only [opDomain] at h
    obtain ⟨n, hn, hnd⟩ := hs.2.2 _ (dget_mem h) (hI x)
    exact ⟨n, hn, hnd⟩
  | val c =>
    cases c with
    | num k =>
      simp only [opDomain, Option.some.injEq] at h
      subst h
      exact ⟨k, (numAt_val γ k k).2 rfl, ⟨Int.le_refl _, Int.le_refl _⟩⟩
    | _ => simp [opDomain] at h
  | _ => simp [opDomain] at h

theorem opDomain_walk_sem {st : State} (hI : IOK I st) (w : WFS st) (u : Term) {d : FD}
    (h : opDomain st (walk st.σ u) = some d) :
    WF d ∧ (∀ γ, Sem I γ st → ∀ n, NumAt γ (walk st.σ u) n → d.Mem n) ∧
      (∀ y, walk st.σ u = .var y → (st.dget y).isSome) :=
  opDomain_sem hI w h

theorem interval_wfi (lo hi : Int) : WFI (.interval lo hi) := trivial

theorem minmax_some {d : FD} (hd : WF d) :
    ∃ lo hi, d.min? = some lo ∧ d.max? = some hi ∧ ∀ n, d.Mem n → lo ≤ n ∧ n ≤ hi := by
  obtain ⟨m, e1, _, hmin⟩ := min_spec d hd
  obtain ⟨M, e2, _, hmax⟩ := max_spec d hd
  exact ⟨m, M, e1, e2, fun n hn => ⟨hmin n hn, hmax n hn⟩⟩

theorem tri_walk {σ γ : Subst} (hs : Solved σ) (hx : Ext σ γ) (u v w : Term) (R : Int → Int → Int → Prop) :
    (∃ a b c, NumAt γ u a ∧ NumAt γ v b ∧ NumAt γ w c ∧ R a b c) ↔
    (∃ a b c, NumAt γ (walk σ u) a ∧ NumAt γ (walk σ v) b ∧ NumAt γ (walk σ w) c ∧ R a b c) := by
  simp only [numAt_walk hs hx]

theorem tri_ground {γ : Subst} {a b c : Int} (R : Int → Int → Int → Prop) :
    (∃ a' b' c', NumAt γ (Term.num a) a' ∧ NumAt γ (Term.num b) b' ∧ NumAt γ (Term.num c) c' ∧ R a' b' c') ↔ R a b c := by
  simp only [numAt_num]
  constructor
  · rintro ⟨_, _, _, rfl, rfl, rfl, h⟩; exact h
  · intro h; exact ⟨a, b, c, rfl, rfl, rfl, h⟩

theorem hasDomIf_walk {st : State} (w : WFS st) (u : Term) {d : FD} (h : opDomain st (walk st.σ u) = some d) :
    HasDomIf st (walk st.σ u) := fun y hy =>
  ⟨walk_normal w.solved u y hy, by
    rw [hy] at h; simp only [opDomain] at h; rw [h]; rfl⟩

/-- the domain `ltefd` reads for an operand: only a variable's stored domain -/
theorem varDom_some {st : State} {t : Term} {d : FD}
    (h : (match t with | .var x => st.dget x | _ => none) = some d) : ∃ x, t = .var x ∧ st.dget x = some d := by
  cases t with
  | var x => exact ⟨x, rfl, h⟩
  | _ => cases h

theorem two_walk {σ γ : Subst} (hs : Solved σ) (hx : Ext σ γ) (u v : Term) (R : Int → Int → Prop) :
    (∃ a b, NumAt γ u a ∧ NumAt γ v b ∧ R a b) ↔
    (∃ a b, NumAt γ (walk σ u) a ∧ NumAt γ (walk σ v) b ∧ R a b) := by
  simp only [numAt_walk hs hx]

/-- an operand `t` whose value the condition `S` puts in the part of `d` on which `p` holds: without such a
    part the condition is refuted; otherwise `t` lies in it -/
theorem part_sem {S : Subst → Prop} {st : State} (t : Term) {d : FD} {p : Int → Prop} {o : Option FD}
    (ho : Part d p o) (hent : ∀ γ, Sem I γ st → S γ → ∃ n, NumAt γ t n ∧ d.Mem n ∧ p n) {r : FD → Res State}
    (hr : ∀ d', WF d' → (∀ n, d'.Mem n ↔ (d.Mem n ∧ p n)) → (∀ γ, Sem I γ st → S γ → InDom t d' γ) →
      Ref I S st (r d')) :
    Ref I S st (match (generalizing := false) o with | none => .fail | some d' => r d') := by
  cases o with
  | none =>
    refine Ref.refuted fun γ hs hc => ?_
    obtain ⟨n, _, hm, hp⟩ := hent γ hs hc
    exact ho n hm hp
  | some d' =>
    refine hr d' ho.1 ho.2 fun γ hs hc => ?_
    obtain ⟨n, hn, hm, hp⟩ := hent γ hs hc
    exact ⟨n, hn, (ho.2 n).2 ⟨hm, hp⟩⟩

/-- the same, for a `match` whose alternatives stand in the other order -/
theorem part_sem' {S : Subst → Prop} {st : State} (t : Term) {d : FD} {p : Int → Prop} {o : Option FD}
    (ho : Part d p o) (hent : ∀ γ, Sem I γ st → S γ → ∃ n, NumAt γ t n ∧ d.Mem n ∧ p n) {r : FD → Res State}
    (hr : ∀ d', WF d' → (∀ n, d'.Mem n ↔ (d.Mem n ∧ p n)) → (∀ γ, Sem I γ st → S γ → InDom t d' γ) →
      Ref I S st (r d')) :
    Ref I S st (match (generalizing := false) o with | some d' => r d' | none => .fail) := by
  have h := part_sem t ho hent hr
  cases o with
  | none => exact h
  | some d' => exact h

theorem varDom_sem {st : State} (hI : IOK I st) (ws : WFS st) {t : Term} {d : FD}
    (h : (match t with | .var x => st.dget x | _ => none) = some d) :
    WF d ∧ ∀ γ, Sem I γ st → ∀ n, NumAt γ t n → d.Mem n := by
  obtain ⟨x, rfl, hxd⟩ := varDom_some h
  refine ⟨ws.dwf _ (dget_mem hxd), fun γ hs n hn => ?_⟩
  obtain ⟨m, hm, hmd⟩ := hs.2.2 _ (dget_mem hxd) (hI x)
  rw [numAt_unique hn hm]; exact hmd

/-- three operands that denote numbers are, each, a variable or a literal: one of the eight patterns that
    `runPlusZ` and `runTimesZ` tell apart applies -/
theorem vn3 {γ : Subst} {tu tv tw : Term} {a b c : Int} (ha : NumAt γ tu a) (hb : NumAt γ tv b) (hc : NumAt γ tw c)
    (nnn : ∀ a b c, tu = .val (.num a) → tv = .val (.num b) → tw = .val (.num c) → False)
    (nnv : ∀ a b z, tu = .val (.num a) → tv = .val (.num b) → tw = .var z → False)
    (nvn : ∀ a y c, tu = .val (.num a) → tv = .var y → tw = .val (.num c) → False)
    (vnn : ∀ x b c, tu = .var x → tv = .val (.num b) → tw = .val (.num c) → False)
    (vvv : ∀ x y z, tu = .var x → tv = .var y → tw = .var z → False)
    (vvn : ∀ x y c, tu = .var x → tv = .var y → tw = .val (.num c) → False)
    (vnv : ∀ x b z, tu = .var x → tv = .val (.num b) → tw = .var z → False)
    (nvv : ∀ a y z, tu = .val (.num a) → tv = .var y → tw = .var z → False) : False := by
  rcases numAt_shape ha with ⟨x, hx⟩ | hx <;> rcases numAt_shape hb with ⟨y, hy⟩ | hy <;>
    rcases numAt_shape hc with ⟨z, hz⟩ | hz
  · exact vvv _ _ _ hx hy hz
  · exact vvn _ _ _ hx hy hz
  · exact vnv _ _ _ hx hy hz
  · exact vnn _ _ _ hx hy hz
  · exact nvv _ _ _ hx hy hz
  · exact nvn _ _ _ hx hy hz
  · exact nnv _ _ _ hx hy hz
  · exact nnn _ _ _ hx hy hz

theorem mul_eq_iff_tdiv {a b c : Int} (ha : a ≠ 0) (hm : c.tmod a = 0) : a * b = c ↔ b = c.tdiv a := by
  constructor
  · intro h; rw [← h, Int.mul_tdiv_cancel_left b ha]
  · intro h; rw [h]; exact Int.mul_tdiv_cancel' (Int.dvd_of_tmod_eq_zero hm)

theorem tri_ground_sem {c : Cst} {u v w : Term} {st : State} (ws : WFS st) (R : Int → Int → Int → Prop)
    [∀ a b c, Decidable (R a b c)]
    (hc : ∀ γ, CstSem γ c ↔ ∃ a b c', NumAt γ u a ∧ NumAt γ v b ∧ NumAt γ w c' ∧ R a b c')
    {a b c' : Int} (hu : walk st.σ u = Term.num a) (hv : walk st.σ v = Term.num b) (hw : walk st.σ w = Term.num c') :
    Ref I (fun γ => CstSem γ c) st (if R a b c' then .ok st else .fail) := by
  have key : ∀ γ, Sem I γ st → (CstSem γ c ↔ R a b c') := fun γ hs => by
    rw [hc γ, tri_walk ws.solved hs.1 u v w R, hu, hv, hw, tri_ground]
  split
  · rename_i h; exact Ref.entailed ws fun γ hs => (key γ hs).2 h
  · rename_i h; exact Ref.refuted fun γ hs hcs => h ((key γ hs).1 hcs)

theorem timesBounds_wfi (a b c d e g : Int) :
    WFI (timesBounds a b c d e g).1 ∧ WFI (timesBounds a b c d e g).2.1 ∧ WFI (timesBounds a b c d e g).2.2 := by
  simp only [timesBounds]; exact ⟨trivial, trivial, trivial⟩

section Fd
variable {rc : State → Res State} (hrc : RcOK rc) (hrs : RcSem rc) (ord : Order)
include hrc hrs

theorem tail_sem {self : Nat → Cst → State → Res State} (hss : SelfSem self) {i : Nat} {c : Cst}
    {s : State} {ws : List Term} (hI : IOK I s) (w : WFS s) (f : Fr i s) (hd : c.isDiseq = false) (hnd : c.isDistinct = false) :
    Ref I (fun γ => CstSem γ c) s (if operandBound s ws then self i c s else .ok (s.withConstraint ord i c)) := by
  split
  · exact hss I i c s hI w f hd (CstOK.of_not_distinct hnd)
  · exact with_sem ord w f hd hnd

theorem narrow3_sem {self : Nat → Cst → State → Res State} (hss : SelfSem self) {i : Nat} {c : Cst}
    {uw vw ww : Term} {wi ui vi : FD} {st : State} (hI : IOK I st) (w : WFS st) (f : Fr i st) (hd : c.isDiseq = false)
    (hnd : c.isDistinct = false) (hwi : WFI wi) (hui : WFI ui) (hvi : WFI vi)
    (hu : HasDomIf st uw) (hv : HasDomIf st vw) (hw : HasDomIf st ww)
    (hent : ∀ γ, Sem I γ st → CstSem γ c → InDom ww wi γ ∧ InDom uw ui γ ∧ InDom vw vi γ) :
    Ref I (fun γ => CstSem γ c) st (narrow3 rc ord self i c uw vw ww wi ui vi st) := by
  unfold narrow3
  have hwalk : ∀ {t : Term}, HasDomIf st t → walk st.σ t = t := by
    intro t ht
    cases t with
    | var y => simp only [walk]; exact (ht y rfl).1
    | _ => rfl
  refine Ref.congr (S := fun γ => InDom ww wi γ ∧ (InDom uw ui γ ∧ (InDom vw vi γ ∧ CstSem γ c))) ?_
    fun γ hs => ⟨fun a => a.2.2.2, fun a => ⟨(hent γ hs a).1, (hent γ hs a).2.1, (hent γ hs a).2.2, a⟩⟩
  refine Ref.bind (processDomain_sem hrs hI w f.1 hwi (.inr fun y hy => by rw [hwalk hw] at hy; exact (hw y hy).2))
    fun s1 e1 w1 k1 _ => ?_
  have f1 : Fr i s1 := f.step (processDomain_step hrc f.1 e1)
  refine Ref.bind (processDomain_sem hrs hI.any w1 f1.1 hui (.inr (hu.keep k1))) fun s2 e2 w2 k2 _ => ?_
  have f2 : Fr i s2 := f1.step (processDomain_step hrc f1.1 e2)
  refine Ref.bind (processDomain_sem hrs hI.any w2 f2.1 hvi (.inr (hv.keep (k1.trans k2)))) fun s3 e3 w3 k3 _ => ?_
  have f3 : Fr i s3 := f2.step (processDomain_step hrc f2.1 e3)
  exact tail_sem hrc hrs ord hss hI.any w3 f3 hd hnd

/-- the part shared by `plusfd`, `minusfd`, `timesfd` after the ground check: `B` computes the three
    intervals from the bounds of the operands' domains; without three domains the constraint is stored.
    Bounds of well-formed domains are defined, so the `fd-minmax` panic site is unreachable. -/
theorem tri_rest_sem {self : Nat → Cst → State → Res State} (hss : SelfSem self) {i : Nat} {c : Cst}
    {u v w : Term} {st : State} (hI : IOK I st) (ws : WFS st) (f : Fr i st) (hd : c.isDiseq = false) (hnd : c.isDistinct = false)
    (R : Int → Int → Int → Prop)
    (hc : ∀ γ, CstSem γ c ↔ ∃ a b c', NumAt γ u a ∧ NumAt γ v b ∧ NumAt γ w c' ∧ R a b c')
    (B : Int → Int → Int → Int → Int → Int → FD × FD × FD)
    (hB : ∀ a b c d e g, WFI (B a b c d e g).1 ∧ WFI (B a b c d e g).2.1 ∧ WFI (B a b c d e g).2.2)
    (hR : ∀ x y z umin umax vmin vmax wmin wmax, umin ≤ x ∧ x ≤ umax → vmin ≤ y ∧ y ≤ vmax → wmin ≤ z ∧ z ≤ wmax →
      R x y z → (B umin umax vmin vmax wmin wmax).1.Mem z ∧ (B umin umax vmin vmax wmin wmax).2.1.Mem x ∧
        (B umin umax vmin vmax wmin wmax).2.2.Mem y) :
    Ref I (fun γ => CstSem γ c) st
      (match opDomain st (walk st.σ u), opDomain st (walk st.σ v), opDomain st (walk st.σ w) with
      | some ud, some vd, some wd =>
        match ud.min?, ud.max?, vd.min?, vd.max?, wd.min?, wd.max? with
        | some umin, some umax, some vmin, some vmax, some wmin, some wmax =>
          narrow3 rc ord self i c (walk st.σ u) (walk st.σ v) (walk st.σ w)
            (B umin umax vmin vmax wmin wmax).1 (B umin umax vmin vmax wmin wmax).2.1
            (B umin umax vmin vmax wmin wmax).2.2 st
        | _, _, _, _, _, _ => .panic "fd-minmax"
      | _, _, _ => .ok (st.withConstraint ord i c)) := by
  split
  · rename_i ud vd wd hud hvd hwd
    obtain ⟨hwu, mu, _⟩ := opDomain_sem hI ws hud
    obtain ⟨hwv, mv, _⟩ := opDomain_sem hI ws hvd
    obtain ⟨hww, mw, _⟩ := opDomain_sem hI ws hwd
    obtain ⟨umin, umax, e1, e2, bu⟩ := minmax_some hwu
    obtain ⟨vmin, vmax, e3, e4, bv⟩ := minmax_some hwv
    obtain ⟨wmin, wmax, e5, e6, bw⟩ := minmax_some hww
    rw [e1, e2, e3, e4, e5, e6]
    have hb3 := hB umin umax vmin vmax wmin wmax
    refine narrow3_sem hrc hrs ord hss hI ws f hd hnd hb3.1 hb3.2.1 hb3.2.2 (hasDomIf_walk ws u hud)
      (hasDomIf_walk ws v hvd) (hasDomIf_walk ws w hwd) fun γ hs hcs => ?_
    obtain ⟨x, y, z, hx, hy, hz, hr⟩ := (tri_walk ws.solved hs.1 u v w R).1 ((hc γ).1 hcs)
    obtain ⟨h1, h2, h3⟩ := hR x y z umin umax vmin vmax wmin wmax (bu x (mu γ hs x hx)) (bv y (mv γ hs y hy))
      (bw z (mw γ hs z hz)) hr
    exact ⟨⟨z, hz, h1⟩, ⟨x, hx, h2⟩, ⟨y, hy, h3⟩⟩
  · exact with_sem ord ws f hd hnd

theorem runPlusFd_sem {self : Nat → Cst → State → Res State} (hss : SelfSem self) {i : Nat}
    {u v w : Term} {st : State} (hI : IOK I st) (ws : WFS st) (f : Fr i st) :
    Ref I (fun γ => CstSem γ (.plusfd u v w)) st (runPlusFd rc ord self i u v w st) := by
  unfold runPlusFd
  dsimp only
  split
  · rename_i a b c hu hv hw
    exact tri_ground_sem ws (fun a b c => a + b = c) (fun γ => Iff.rfl) hu hv hw
  · exact tri_rest_sem hrc hrs ord hss hI ws f (c := .plusfd u v w) rfl rfl (fun a b c => a + b = c) (fun γ => Iff.rfl)
      (fun a b c d e g => (.interval (a + c) (b + d), .interval (e - d) (g - c), .interval (e - b) (g - a)))
      (fun _ _ _ _ _ _ => ⟨trivial, trivial, trivial⟩) plus_bounds

theorem runMinusFd_sem {self : Nat → Cst → State → Res State} (hss : SelfSem self) {i : Nat}
    {u v w : Term} {st : State} (hI : IOK I st) (ws : WFS st) (f : Fr i st) :
    Ref I (fun γ => CstSem γ (.minusfd u v w)) st (runMinusFd rc ord self i u v w st) := by
  unfold runMinusFd
  dsimp only
  split
  · rename_i a b c hu hv hw
    exact tri_ground_sem ws (fun a b c => a - b = c) (fun γ => Iff.rfl) hu hv hw
  · exact tri_rest_sem hrc hrs ord hss hI ws f (c := .minusfd u v w) rfl rfl (fun a b c => a - b = c) (fun γ => Iff.rfl)
      (fun a b c d e g => (.interval (a - d) (b - c), .interval (e + c) (g + d), .interval (a - g) (b - e)))
      (fun _ _ _ _ _ _ => ⟨trivial, trivial, trivial⟩) minus_bounds

theorem runTimesFd_sem {self : Nat → Cst → State → Res State} (hss : SelfSem self) {i : Nat}
    {u v w : Term} {st : State} (hI : IOK I st) (ws : WFS st) (f : Fr i st) :
    Ref I (fun γ => CstSem γ (.timesfd u v w)) st (runTimesFd rc ord self i u v w st) := by
  unfold runTimesFd
  dsimp only
  split
  · rename_i a b c hu hv hw
    exact tri_ground_sem ws (fun a b c => a * b = c) (fun γ => Iff.rfl) hu hv hw
  · exact tri_rest_sem hrc hrs ord hss hI ws f (c := .timesfd u v w) rfl rfl (fun a b c => a * b = c) (fun γ => Iff.rfl)
      timesBounds timesBounds_wfi timesBounds_sound

theorem runLteFd_sem {self : Nat → Cst → State → Res State} (hss : SelfSem self) {i : Nat}
    {u v : Term} {st : State} (hI : IOK I st) (ws : WFS st) (f : Fr i st) :
    Ref I (fun γ => CstSem γ (.ltefd u v)) st (runLteFd rc ord self i u v st) := by
  unfold runLteFd
  dsimp only
  have hsem : ∀ γ, Sem I γ st → (CstSem γ (.ltefd u v) ↔
      ∃ a b, NumAt γ (walk st.σ u) a ∧ NumAt γ (walk st.σ v) b ∧ a ≤ b) := fun γ hs =>
    two_walk ws.solved hs.1 u v (fun a b => a ≤ b)
  split
  · -- both operands are variables with domains: `u` is cut at the greatest `v`, then `v` at the least `u`
    rename_i udom vdom hu hv
    obtain ⟨hwu, mu⟩ := varDom_sem hI ws hu
    obtain ⟨hwv, mv⟩ := varDom_sem hI ws hv
    obtain ⟨umin, _, en, _, bu⟩ := minmax_some hwu
    obtain ⟨_, vmax, _, em, bv⟩ := minmax_some hwv
    rw [em, en]
    have hent : ∀ γ, Sem I γ st → CstSem γ (.ltefd u v) →
        ∃ a b, NumAt γ (walk st.σ u) a ∧ NumAt γ (walk st.σ v) b ∧ a ≤ b ∧ udom.Mem a ∧ vdom.Mem b := fun γ hs hc => by
      obtain ⟨a, b, ha, hb, hab⟩ := (hsem γ hs).1 hc
      exact ⟨a, b, ha, hb, hab, mu γ hs a ha, mv γ hs b hb⟩
    refine part_sem (walk st.σ u) (copyBefore_le udom hwu vmax) (fun γ hs hc => ?_) fun ud' hud' _ hin => ?_
    · obtain ⟨a, b, ha, _, hab, ma, mb⟩ := hent γ hs hc
      exact ⟨a, ha, ma, Int.le_trans hab (bv b mb).2⟩
    refine narrow_sem hrs hI ws f.1 hud' hin fun s1 e1 w1 k1 hs1 => ?_
    have f1 : Fr i s1 := f.step (processDomain_step hrc f.1 e1)
    refine part_sem (walk st.σ v) (dropBefore_ge vdom hwv umin) (fun γ hs hc => ?_) fun vd' hvd' _ hin' => ?_
    · obtain ⟨a, b, _, hb, hab, ma, mb⟩ := hent γ (hs1 γ hs) hc
      exact ⟨b, hb, mb, Int.le_trans (bu a ma).1 hab⟩
    refine narrow_sem hrs hI.any w1 f1.1 hvd' hin' fun s2 e2 w2 k2 _ => ?_
    exact tail_sem hrc hrs ord hss hI.any w2 (f1.step (processDomain_step hrc f1.1 e2)) rfl rfl
  · -- u has a domain, v has none
    rename_i udom hu hv
    obtain ⟨hwu, mu⟩ := varDom_sem hI ws hu
    split
    · rename_i b hvb
      have key : ∀ γ, Sem I γ st → (CstSem γ (.ltefd u v) ↔ ∃ a, NumAt γ (walk st.σ u) a ∧ a ≤ b) := fun γ hs => by
        rw [hsem γ hs, hvb]
        constructor
        · rintro ⟨a, b', ha, hb, hab⟩
          cases (numAt_val γ b b').1 hb
          exact ⟨a, ha, hab⟩
        · rintro ⟨a, ha, hab⟩
          exact ⟨a, b, ha, (numAt_val γ b b).2 rfl, hab⟩
      refine part_sem (walk st.σ u) (copyBefore_le udom hwu b) (fun γ hs hc => ?_) fun ud' hud' mud' hin => ?_
      · obtain ⟨a, ha, hab⟩ := (key γ hs).1 hc
        exact ⟨a, ha, mu γ hs a ha, hab⟩
      exact (processDomain_sem hrs hI ws f.1 (WFI.of_wf hud') (.inl hud')).congr fun γ hs =>
        ⟨fun ⟨a, ha, ma⟩ => (key γ hs).2 ⟨a, ha, ((mud' a).1 ma).2⟩, hin γ hs⟩
    · exact with_sem ord ws f rfl rfl
  · -- v has a domain, u has none
    rename_i vdom hu hv
    obtain ⟨hwv, mv⟩ := varDom_sem hI ws hv
    split
    · rename_i a hua
      have key : ∀ γ, Sem I γ st → (CstSem γ (.ltefd u v) ↔ ∃ b, NumAt γ (walk st.σ v) b ∧ a ≤ b) := fun γ hs => by
        rw [hsem γ hs, hua]
        constructor
        · rintro ⟨a', b, ha, hb, hab⟩
          cases (numAt_val γ a a').1 ha
          exact ⟨b, hb, hab⟩
        · rintro ⟨b, hb, hab⟩
          exact ⟨a, b, (numAt_val γ a a).2 rfl, hb, hab⟩
      refine part_sem (walk st.σ v) (dropBefore_ge vdom hwv a) (fun γ hs hc => ?_) fun vd' hvd' mvd' hin => ?_
      · obtain ⟨b, hb, hab⟩ := (key γ hs).1 hc
        exact ⟨b, hb, mv γ hs b hb, hab⟩
      exact (processDomain_sem hrs hI ws f.1 (WFI.of_wf hvd') (.inl hvd')).congr fun γ hs =>
        ⟨fun ⟨b, hb, mb⟩ => (key γ hs).2 ⟨b, hb, ((mvd' b).1 mb).2⟩, hin γ hs⟩
    · exact with_sem ord ws f rfl rfl
  · -- neither has a domain
    split
    · rename_i a b hua hvb
      have key : ∀ γ, Sem I γ st → (CstSem γ (.ltefd u v) ↔ a ≤ b) := fun γ hs => by
        rw [hsem γ hs, hua, hvb]
        simp only [numAt_val]
        constructor
        · rintro ⟨_, _, rfl, rfl, h⟩; exact h
        · intro h; exact ⟨a, b, rfl, rfl, h⟩
      split
      · rename_i h; exact Ref.entailed ws fun γ hs => (key γ hs).2 h
      · rename_i h; exact Ref.refuted fun γ hs hc => h ((key γ hs).1 hc)
    · exact with_sem ord ws f rfl rfl

theorem runDiseqFd_sem {i : Nat} {u v : Term} {st : State} (hI : IOK I st) (ws : WFS st) (f : Fr i st) :
    Ref I (fun γ => CstSem γ (.diseqfd u v)) st (runDiseqFd rc ord i u v st) := by
  unfold runDiseqFd
  dsimp only
  have hsem : ∀ γ, Sem I γ st → (CstSem γ (.diseqfd u v) ↔
      ∃ a b, NumAt γ (walk st.σ u) a ∧ NumAt γ (walk st.σ v) b ∧ a ≠ b) := fun γ hs =>
    two_walk ws.solved hs.1 u v (fun a b => a ≠ b)
  split
  · rename_i ud vd hud hvd
    have hwu := (opDomain_sem hI ws hud).1
    have hwv := (opDomain_sem hI ws hvd).1
    -- both operands have domains, hence denote numbers of them: the condition says that these differ
    have hval : ∀ γ, Sem I γ st → ∃ a b, NumAt γ (walk st.σ u) a ∧ NumAt γ (walk st.σ v) b ∧ ud.Mem a ∧ vd.Mem b ∧
        (CstSem γ (.diseqfd u v) ↔ a ≠ b) := fun γ hs => by
      obtain ⟨a, ha, ma⟩ := opDomain_num hI hud hs
      obtain ⟨b, hb, mb⟩ := opDomain_num hI hvd hs
      refine ⟨a, b, ha, hb, ma, mb, (hsem γ hs).trans ⟨?_, fun h => ⟨a, b, ha, hb, h⟩⟩⟩
      rintro ⟨a', b', ha', hb', h⟩
      rw [numAt_unique ha ha', numAt_unique hb hb']; exact h
    by_cases hsing : (ud.isSingleton && vd.isSingleton) = true
    · rw [if_pos hsing]
      rw [Bool.and_eq_true] at hsing
      obtain ⟨p, _, hpu⟩ := (isSingleton_spec ud hwu).1 hsing.1
      obtain ⟨q, _, hqu⟩ := (isSingleton_spec vd hwv).1 hsing.2
      obtain ⟨m1, e1, hm1, _⟩ := min_spec ud hwu
      obtain ⟨m2, e2, hm2, _⟩ := min_spec vd hwv
      have key : ∀ γ, Sem I γ st → (CstSem γ (.diseqfd u v) ↔ m1 ≠ m2) := fun γ hs => by
        obtain ⟨a, b, _, _, ma, mb, hiff⟩ := hval γ hs
        rw [hiff, hpu a ma, hqu b mb, ← hpu m1 hm1, ← hqu m2 hm2]
      rw [e1, e2]
      by_cases heq : (some m1 == some m2) = true
      · rw [if_pos heq]
        exact Ref.refuted fun γ hs hc => (key γ hs).1 hc (by simpa using heq)
      · rw [if_neg heq]
        exact Ref.entailed ws fun γ hs => (key γ hs).2 (by simpa using heq)
    · rw [if_neg hsing]
      obtain ⟨r, er, hr⟩ := isDisjoint_spec ud vd hwu hwv
      rw [er]
      cases r with
      | true =>
        refine Ref.entailed ws fun γ hs => ?_
        obtain ⟨a, b, _, _, ma, mb, hiff⟩ := hval γ hs
        exact hiff.2 fun e => hr.1 rfl a ⟨ma, e ▸ mb⟩
      | false =>
        -- the constraint is stored, then a singleton side is removed from the other domain
        dsimp only
        have hent : ∀ γ, Sem I γ st → CstSem γ (.diseqfd u v) →
            ∃ a b, NumAt γ (walk st.σ u) a ∧ NumAt γ (walk st.σ v) b ∧ a ≠ b ∧ ud.Mem a ∧ vd.Mem b := fun γ hs hc => by
          obtain ⟨a, b, ha, hb, ma, mb, hiff⟩ := hval γ hs
          exact ⟨a, b, ha, hb, hiff.1 hc, ma, mb⟩
        obtain ⟨w1, k1, s1⟩ := with_sem (I := I) ord ws f (c := .diseqfd u v) rfl rfl
        have st1inv := (with_step ord st i (.diseqfd u v) f.1 f.2.1 f.2.2).inv
        have narrow : ∀ (t : Term) (d : FD), WF d → (∀ γ, Sem I γ st → CstSem γ (.diseqfd u v) → InDom t d γ) →
            Ref I (fun γ => CstSem γ (.diseqfd u v)) st (processDomain rc (st.withConstraint ord i (.diseqfd u v)) t d) :=
          fun t d hwd hin =>
          (Ref.bind (f := fun s => processDomain rc s t d) (r := .ok _) ⟨w1, k1, s1⟩
            fun s e _ _ _ => by cases e; exact processDomain_sem hrs hI.any w1 st1inv (WFI.of_wf hwd) (.inl hwd)).congr
            fun γ hs => ⟨fun a => a.1, fun a => ⟨a, hin γ hs a⟩⟩
        by_cases hsu : ud.isSingleton = true
        · rw [if_pos hsu]
          obtain ⟨p, _, hpu⟩ := (isSingleton_spec ud hwu).1 hsu
          refine part_sem' (walk st.σ v) (diff_part vd ud hwv hwu) (fun γ hs hc => ?_) fun d hwd _ hin => narrow _ d hwd hin
          obtain ⟨a, b, _, hb, hab, ma, mb⟩ := hent γ hs hc
          exact ⟨b, hb, mb, fun h => hab (by rw [hpu a ma, hpu b h])⟩
        · rw [if_neg hsu]
          by_cases hsv : vd.isSingleton = true
          · rw [if_pos hsv]
            obtain ⟨q, _, hqu⟩ := (isSingleton_spec vd hwv).1 hsv
            refine part_sem' (walk st.σ u) (diff_part ud vd hwu hwv) (fun γ hs hc => ?_) fun d hwd _ hin => narrow _ d hwd hin
            obtain ⟨a, b, ha, _, hab, ma, mb⟩ := hent γ hs hc
            exact ⟨a, ha, ma, fun h => hab (by rw [hqu a h, hqu b mb])⟩
          · rw [if_neg hsv]
            exact ⟨w1, k1, s1⟩
  · exact with_sem ord ws f rfl rfl

end Fd

section Z
variable {rc : State → Res State} (hrs : RcSem rc) (ord : Order)
include hrs

theorem bindNum_sem {st : State} (hI : IOK I st) (ws : WFS st) (hi : Inv st) {z : Nat} (hz : st.σ z = .var z) (n : Int) :
    Ref I (fun γ => NumAt γ (.var z) n) st (rc { st with σ := bindS z (Term.num n) st.σ }) :=
  Ref.base (Keeps.bindNum ws hz n) (fun γ => by rw [and_true]; exact sem_bindNum ws hz n γ)
    (hrs I _ hI.any (ws.bindNum hz n) (SameStore.inv ⟨rfl, rfl, rfl, rfl, rfl⟩ hi))

theorem runPlusZ_sem {i : Nat} {u v w : Term} {st : State} (hI : IOK I st) (ws : WFS st) (f : Fr i st) :
    Ref I (fun γ => CstSem γ (.plusz u v w)) st (runPlusZ rc ord i u v w st) := by
  unfold runPlusZ
  have hsem : ∀ γ, Sem I γ st → (CstSem γ (.plusz u v w) ↔
      ∃ a b c, NumAt γ (walk st.σ u) a ∧ NumAt γ (walk st.σ v) b ∧ NumAt γ (walk st.σ w) c ∧ a + b = c) :=
    fun γ hs => tri_walk ws.solved hs.1 u v w (fun a b c => a + b = c)
  split
  · rename_i a b c hu hv hw
    exact tri_ground_sem ws (fun a b c => a + b = c) (fun γ => Iff.rfl) hu hv hw
  · rename_i a b z hu hv hw
    refine (bindNum_sem hrs hI ws f.1 (walk_normal ws.solved w z hw) (a + b)).congr fun γ hs => ?_
    rw [hsem γ hs, hu, hv, hw]
    simp only [numAt_val]
    constructor
    · intro h; exact ⟨a, b, a + b, rfl, rfl, h, rfl⟩
    · rintro ⟨_, _, _, rfl, rfl, h, rfl⟩; exact h
  · rename_i a y c hu hv hw
    refine (bindNum_sem hrs hI ws f.1 (walk_normal ws.solved v y hv) (c - a)).congr fun γ hs => ?_
    rw [hsem γ hs, hu, hv, hw]
    simp only [numAt_val]
    constructor
    · intro h; exact ⟨a, c - a, c, rfl, h, rfl, by rw [Int.add_comm, Int.sub_add_cancel]⟩
    · rintro ⟨_, b, _, rfl, h, rfl, e⟩
      have : b = c - a := by rw [← e, Int.add_comm a b, Int.add_sub_cancel]
      rw [← this]; exact h
  · rename_i x b c hu hv hw
    refine (bindNum_sem hrs hI ws f.1 (walk_normal ws.solved u x hu) (c - b)).congr fun γ hs => ?_
    rw [hsem γ hs, hu, hv, hw]
    simp only [numAt_val]
    constructor
    · intro h; exact ⟨c - b, b, c, h, rfl, rfl, Int.sub_add_cancel c b⟩
    · rintro ⟨a, _, _, h, rfl, rfl, e⟩
      have : a = c - b := by rw [← e, Int.add_sub_cancel]
      rw [← this]; exact h
  · exact with_sem ord ws f rfl rfl
  · exact with_sem ord ws f rfl rfl
  · exact with_sem ord ws f rfl rfl
  · exact with_sem ord ws f rfl rfl
  · -- some operand is neither a variable nor a number
    rename_i nnn nnv nvn vnn vvv vvn vnv nvv
    refine Ref.refuted fun γ hs hc => ?_
    obtain ⟨a, b, c, ha, hb, hc', _⟩ := (hsem γ hs).1 hc
    exact vn3 ha hb hc' nnn nnv nvn vnn vvv vvn vnv nvv

/-- `timesz` with one unknown factor `y` and known `a`, `c`: with `a = 0` the condition holds of every `y`
    or of none; otherwise `y` is the quotient, if the division is exact -/
theorem solveFactor_sem {i : Nat} {cst : Cst} {st : State} (hI : IOK I st) (ws : WFS st) (f : Fr i st)
    (hd : cst.isDiseq = false) (hnd : cst.isDistinct = false) {y : Nat} (hy : st.σ y = .var y) (a c : Int)
    (key : ∀ γ, Sem I γ st → (CstSem γ cst ↔ ∃ b, NumAt γ (.var y) b ∧ a * b = c)) :
    Ref I (fun γ => CstSem γ cst) st
      (if a = 0 then (if c = 0 then .ok (st.withConstraint ord i cst) else .fail)
      else if Int.tmod c a ≠ 0 then .fail
      else rc { st with σ := bindS y (Term.num (Int.tdiv c a)) st.σ }) := by
  by_cases ha : a = 0
  · rw [if_pos ha]
    by_cases hc0 : c = 0
    · rw [if_pos hc0]
      exact with_sem ord ws f hd hnd
    · rw [if_neg hc0]
      refine Ref.refuted fun γ hs hc => ?_
      obtain ⟨b, _, e⟩ := (key γ hs).1 hc
      rw [ha, Int.zero_mul] at e
      exact hc0 e.symm
  · rw [if_neg ha]
    by_cases hm : c.tmod a = 0
    · rw [if_neg (not_not_intro hm)]
      refine (bindNum_sem hrs hI ws f.1 hy (c.tdiv a)).congr fun γ hs => ?_
      rw [key γ hs]
      constructor
      · intro h; exact ⟨c.tdiv a, h, (mul_eq_iff_tdiv ha hm).2 rfl⟩
      · rintro ⟨b, h, e⟩; rw [← (mul_eq_iff_tdiv ha hm).1 e]; exact h
    · rw [if_pos hm]
      refine Ref.refuted fun γ hs hc => ?_
      obtain ⟨b, _, e⟩ := (key γ hs).1 hc
      rw [← e, Int.mul_tmod_right] at hm
      exact hm rfl

theorem runTimesZ_sem {i : Nat} {u v w : Term} {st : State} (hI : IOK I st) (ws : WFS st) (f : Fr i st) :
    Ref I (fun γ => CstSem γ (.timesz u v w)) st (runTimesZ rc ord i u v w st) := by
  unfold runTimesZ
  have hsem : ∀ γ, Sem I γ st → (CstSem γ (.timesz u v w) ↔
      ∃ a b c, NumAt γ (walk st.σ u) a ∧ NumAt γ (walk st.σ v) b ∧ NumAt γ (walk st.σ w) c ∧ a * b = c) :=
    fun γ hs => tri_walk ws.solved hs.1 u v w (fun a b c => a * b = c)
  split
  · rename_i a b c hu hv hw
    exact tri_ground_sem ws (fun a b c => a * b = c) (fun γ => Iff.rfl) hu hv hw
  · rename_i a b z hu hv hw
    refine (bindNum_sem hrs hI ws f.1 (walk_normal ws.solved w z hw) (a * b)).congr fun γ hs => ?_
    rw [hsem γ hs, hu, hv, hw]
    simp only [numAt_val]
    constructor
    · intro h; exact ⟨a, b, a * b, rfl, rfl, h, rfl⟩
    · rintro ⟨_, _, _, rfl, rfl, h, rfl⟩; exact h
  · rename_i a y c hu hv hw
    refine solveFactor_sem hrs ord hI ws f rfl rfl (walk_normal ws.solved v y hv) a c fun γ hs => ?_
    rw [hsem γ hs, hu, hv, hw]
    simp only [numAt_val]
    constructor
    · rintro ⟨_, b, _, rfl, h, rfl, e⟩; exact ⟨b, h, e⟩
    · rintro ⟨b, h, e⟩; exact ⟨a, b, c, rfl, h, rfl, e⟩
  · rename_i x b c hu hv hw
    refine solveFactor_sem hrs ord hI ws f rfl rfl (walk_normal ws.solved u x hu) b c fun γ hs => ?_
    rw [hsem γ hs, hu, hv, hw]
    simp only [numAt_val]
    constructor
    · rintro ⟨a, _, _, h, rfl, rfl, e⟩; exact ⟨a, h, by rw [Int.mul_comm]; exact e⟩
    · rintro ⟨a, h, e⟩; exact ⟨a, b, c, h, rfl, rfl, by rw [Int.mul_comm]; exact e⟩
  · exact with_sem ord ws f rfl rfl
  · exact with_sem ord ws f rfl rfl
  · exact with_sem ord ws f rfl rfl
  · exact with_sem ord ws f rfl rfl
  · rename_i nnn nnv nvn vnn vvv vvn vnv nvv
    refine Ref.refuted fun γ hs hc => ?_
    obtain ⟨a, b, c, ha, hb, hc', _⟩ := (hsem γ hs).1 hc
    exact vn3 ha hb hc' nnn nnv nvn vnn vvv vvn vnv nvv

end Z

theorem foldl_bind_eq {α : Type} (g : State → α → Res State) (l : List α) (r : Res State) :
    l.foldl (fun (r : Res State) a => r.bind fun st => g st a) r =
      r.bind fun st => l.foldl (fun (r : Res State) a => r.bind fun st => g st a) (.ok st) := by
  cases r with
  | ok st => rfl
  | fail => exact foldl_bind_fail g l
  | fuel => exact foldl_bind_fuel g l
  | panic s => exact foldl_bind_panic g s l

/-- a fold of binds: every step keeps the described valuations and hands the invariant `P` (of the remaining
    list and the running state) on -/
theorem RefP.fold {α : Type} {Φ : State → State → Prop} (P : List α → State → Prop) (f : State → α → Res State)
    (hr : ∀ st, P [] st → Φ st st) (ht : ∀ {a b c}, Φ a b → Φ b c → Φ a c)
    (hf : ∀ a l cur, P (a :: l) cur →
      RefP Φ I (fun _ => True) cur (f cur a) ∧ ∀ cur', f cur a = .ok cur' → P l cur') :
    ∀ (l : List α) (st : State), P l st →
      RefP Φ I (fun _ => True) st (l.foldl (fun (r : Res State) a => r.bind fun st => f st a) (.ok st))
  | [], st, h => ⟨hr st h, fun γ => (and_iff_left trivial).symm⟩
  | a :: l, st, h => by
    obtain ⟨h1, h2⟩ := hf a l st h
    rw [List.foldl_cons, foldl_bind_eq]
    exact (h1.bind (fun s1 e _ _ => RefP.fold P f hr ht hf l s1 (h2 s1 e)) fun _ _ => ht).base (fun _ _ a => a)
      fun γ => and_congr_right fun _ => and_self_iff

theorem fold_ref {α : Type} (P : State → Prop) (f : State → α → Res State) (l : List α)
    (hf : ∀ cur a, a ∈ l → P cur → WFS cur → Inv cur →
      Ref I (fun _ => True) cur (f cur a) ∧ ∀ cur', f cur a = .ok cur' → Inv cur' ∧ P cur')
    {st : State} (hP : P st) (w : WFS st) (hi : Inv st) :
    Ref I (fun _ => True) st (l.foldl (fun (r : Res State) a => r.bind fun st => f st a) (.ok st)) := by
  refine ref_iff.2 (RefP.fold (fun l' cur => (∀ a ∈ l', a ∈ l) ∧ P cur ∧ WFS cur ∧ Inv cur) f
    (fun st h => ⟨h.2.2.1, Keeps.refl h.2.2.1.solved⟩) (fun a b => ⟨b.1, a.2.trans b.2⟩) (fun a l' cur h => ?_)
    l st ⟨fun _ h => h, hP, w, hi⟩)
  obtain ⟨h1, h2⟩ := hf cur a (h.1 a (List.mem_cons_self ..)) h.2.1 h.2.2.1 h.2.2.2
  refine ⟨ref_iff.1 h1, fun cur' e => ?_⟩
  rw [e] at h1
  exact ⟨fun b hb => h.1 b (List.mem_cons_of_mem _ hb), (h2 cur' e).2, h1.1, (h2 cur' e).1⟩

end Pv
