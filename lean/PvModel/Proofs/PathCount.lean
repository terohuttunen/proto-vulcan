/-
  Answer lists, path by path.  For programs of atoms, conjunction, `conde` and fresh (`FProg`), the reference answer list
  (to which the interleaving engine's answers are a permutation and which the depth-first engine delivers in order) is
  exactly one state per path that does not fail, in the order of the paths.  For `==`/`!=` programs a path either fails
  or ends in a satisfiable state (disequality normal form), so: swapping the two sides of a conjunction is a bijection
  between the answers under which corresponding answers describe the same valuations: the multiset statement of C04,
  not only the set statement.
-/
import PvModel.Proofs.FDProgram
import PvModel.Proofs.DiseqNF
import PvModel.Proofs.RelCount
namespace Pv
open Strm Goal State Term

/-- the atoms of the program are `==` / `!=` only -/
def FProg.TreeOnly : FProg → Prop
  | .atom (.eq _ _) => True
  | .atom (.neq _ _) => True
  | .atom _ => False
  | .conj p q => p.TreeOnly ∧ q.TreeOnly
  | .alt p q => p.TreeOnly ∧ q.TreeOnly
  | .fresh p => p.TreeOnly
  | _ => True

theorem FProg.TreeOnly.ok : ∀ (p : FProg), p.TreeOnly → @FProg.OK Mode.strict p
  | .succeed, _ => trivial
  | .fail, _ => trivial
  | .atom (.eq _ _), _ => trivial
  | .atom (.neq _ _), _ => trivial
  | .atom (.cst _), h => h.elim
  | .atom (.dom _ _), h => h.elim
  | .conj p q, h => ⟨FProg.TreeOnly.ok p h.1, FProg.TreeOnly.ok q h.2⟩
  | .alt p q, h => ⟨FProg.TreeOnly.ok p h.1, FProg.TreeOnly.ok q h.2⟩
  | .fresh p, h => FProg.TreeOnly.ok p h

section
variable (ord : Order)

/-- posting a path the way the goal layer does it: a poisoned state passes through every atom -/
def postL : State → List FAtom → Option State
  | st, [] => some st
  | st, a :: as => ((liftRes fun s => postF ord s a) st).bind fun s => postL s as

variable {ord}

theorem postL_append (x y : List FAtom) (st : State) :
    postL ord st (x ++ y) = (postL ord st x).bind fun s => postL ord s y := by
  induction x generalizing st with
  | nil => rfl
  | cons a x ih =>
    simp only [List.cons_append, postL]
    cases (liftRes fun s => postF ord s a) st with
    | none => rfl
    | some s => exact ih s

theorem flatMapM_eq_flatMap {α β : Type} {f : α → Option (List β)} {F : α → List β} (hF : ∀ s ys, f s = some ys → ys = F s)
    {xs : List α} {zs : List β} (h : flatMapM f xs = some zs) : zs = xs.flatMap F := by
  induction xs generalizing zs with
  | nil => exact (Option.some.inj h).symm
  | cons x xs ih =>
    obtain ⟨ys, ws, h1, h2, rfl⟩ := flatMapM_cons_some h
    rw [List.flatMap_cons, ← hF x ys h1, ← ih h2]

theorem filterMap_product (f : List FAtom → Option State) (g : State → List FAtom → Option State)
    (hfg : ∀ x y, f (x ++ y) = (f x).bind fun s => g s y) (Q P : List (List FAtom)) :
    (P.flatMap fun x => Q.map fun y => x ++ y).filterMap f = (P.filterMap f).flatMap fun s => Q.filterMap (g s) := by
  induction P with
  | nil => rfl
  | cons x P ih =>
    rw [List.flatMap_cons, List.filterMap_append, ih, List.filterMap_map, List.filterMap_cons]
    simp only [Function.comp_def, hfg]
    cases f x with
    | none => simp only [Option.bind_none, List.filterMap_eq_nil_iff.2 fun _ _ => rfl, List.nil_append]
    | some s => simp only [Option.bind_some, List.flatMap_cons]

theorem evalRef_pos {dfs : Call → State → State × G} {n : Nat} {g : G} {st : State} {xs : List State}
    (h : evalRef dfs n g st = some xs) : ∃ m, n = m + 1 := by
  cases n with
  | zero => cases h
  | succ m => exact ⟨m, rfl⟩

theorem evalRef_paths_exact (dfs : Call → State → State × G) (p : FProg) : ∀ (n : Nat) (st : State) (xs : List State),
    evalRef dfs n (p.goal ord) st = some xs → xs = p.paths.filterMap (postL ord st) := by
  induction p with
  | succeed =>
    intro n st xs h
    obtain ⟨n, rfl⟩ := evalRef_pos h
    exact (Option.some.inj h).symm
  | fail =>
    intro n st xs h
    obtain ⟨n, rfl⟩ := evalRef_pos h
    exact (Option.some.inj h).symm
  | atom a =>
    intro n st xs h
    obtain ⟨n, rfl⟩ := evalRef_pos h
    cases Option.some.inj h
    simp only [FProg.paths, List.filterMap_cons, List.filterMap_nil, postL]
    cases (liftRes fun s => postF ord s a) st <;> rfl
  | conj p q ihp ihq =>
    intro n st xs h
    obtain ⟨n, rfl⟩ := evalRef_pos h
    obtain ⟨xs1, h1, h2⟩ := evalRef_conj_iff.1 h
    rw [flatMapM_eq_flatMap (ihq n) h2, ihp n st xs1 h1]
    exact (filterMap_product (postL ord st) (postL ord) (fun x y => postL_append x y st) q.paths p.paths).symm
  | alt p q ihp ihq =>
    intro n st xs h
    obtain ⟨n, rfl⟩ := evalRef_pos h
    obtain ⟨xs1, xs2, h1, h2, rfl⟩ := evalRef_alt_iff.1 h
    rw [ihp n st xs1 h1, ihq n st xs2 h2]
    exact List.filterMap_append.symm
  | fresh p ih =>
    intro n st xs h
    obtain ⟨n, rfl⟩ := evalRef_pos h
    exact ih n st xs h

attribute [local instance] Mode.strict

/-- the tree atom behind a `==` / `!=` atom -/
def tOf : FAtom → TAtom
  | .eq u v => .eq u v
  | .neq u v => .neq u v
  | _ => .eq .nil .nil

def IsTree : FAtom → Prop
  | .eq _ _ => True
  | .neq _ _ => True
  | _ => False

theorem postAllF_tree (path : List FAtom) (st : State) (h : ∀ a ∈ path, IsTree a) :
    postAllF ord st path = postAll ord st (path.map tOf) := by
  induction path generalizing st with
  | nil => rfl
  | cons a as ih =>
    have e : postF ord st a = postAtom ord st (tOf a) := by
      cases a with
      | eq u v => rfl
      | neq u v => rfl
      | cst c => exact (h _ List.mem_cons_self).elim
      | dom x d => exact (h _ List.mem_cons_self).elim
    simp only [postAllF, List.map_cons, postAll, e]
    cases postAtom ord st (tOf a) with
    | ok s => exact ih s fun b hb => h b (List.mem_cons_of_mem _ hb)
    | fail => rfl
    | fuel => rfl
    | panic m => rfl

theorem treeOnly_paths (p : FProg) : p.TreeOnly → ∀ path ∈ p.paths, ∀ a ∈ path, IsTree a :=
  FProg.paths_forall (fun a h => by cases a <;> exact h) (fun _ _ h => h) (fun _ _ h => h) (fun _ h => h) p

theorem postL_of_postAllF (path : List FAtom) (st : State) (hi : Inv st) (hp : st.panic = none) :
    (∀ s, postAllF ord st path = .ok s → postL ord st path = some s) ∧
    (postAllF ord st path = .fail → postL ord st path = none) := by
  induction path generalizing st with
  | nil => exact ⟨fun s h => by cases h; rfl, fun h => nomatch h⟩
  | cons a as ih =>
    have hps : st.panic.isSome = false := by rw [hp]; rfl
    simp only [postAllF, postL, liftRes, hps, Bool.false_eq_true, if_false]
    cases hr : postF ord st a with
    | ok s1 =>
      obtain ⟨pan, inv1⟩ := postF_pan ord hi hr
      exact ih s1 inv1 (pan.trans hp)
    | fail => exact ⟨fun s h => (nomatch h), fun _ => rfl⟩
    | fuel => exact ⟨fun s h => (nomatch h), fun h => nomatch h⟩
    | panic m => exact ⟨fun s h => (nomatch h), fun h => nomatch h⟩

theorem product_swap {α β γ : Type} (f : α → β → γ) (P : List α) (Q : List β) :
    (Q.flatMap fun y => P.map fun x => f x y).Perm (P.flatMap fun x => Q.map fun y => f x y) := by
  induction P with
  | nil => exact .of_eq (List.flatMap_eq_nil_iff.2 fun _ _ => rfl)
  | cons x P ih =>
    have step : (Q.flatMap fun y => f x y :: P.map fun x' => f x' y).Perm
        (Q.map (f x) ++ Q.flatMap fun y => P.map fun x' => f x' y) := by
      clear ih
      induction Q with
      | nil => exact .refl _
      | cons y Q ihq =>
        simp only [List.flatMap_cons, List.map_cons, List.cons_append]
        refine .cons _ ((List.Perm.append_left _ ihq).trans ?_)
        simp only [← List.append_assoc]
        exact List.Perm.append_right _ List.perm_append_comm
    simp only [List.map_cons, List.flatMap_cons]
    exact step.trans (List.Perm.append_left _ ih)

/-- `p'` is `p` with the sides of some conjunctions and the clauses of some disjunctions swapped, at any depth, any
    number of times -/
inductive Reorder : FProg → FProg → Prop
  | refl (p) : Reorder p p
  | conjSwap (p q) : Reorder (.conj p q) (.conj q p)
  | altSwap (p q) : Reorder (.alt p q) (.alt q p)
  | conj {p p' q q'} : Reorder p p' → Reorder q q' → Reorder (.conj p q) (.conj p' q')
  | alt {p p' q q'} : Reorder p p' → Reorder q q' → Reorder (.alt p q) (.alt p' q')
  | fresh {p p'} : Reorder p p' → Reorder (.fresh p) (.fresh p')
  | trans {p q r} : Reorder p q → Reorder q r → Reorder p r

theorem Reorder.treeOnly {p p' : FProg} (h : Reorder p p') : p.TreeOnly → p'.TreeOnly := by
  induction h with
  | refl _ => exact id
  | conjSwap _ _ => exact fun h => ⟨h.2, h.1⟩
  | altSwap _ _ => exact fun h => ⟨h.2, h.1⟩
  | conj _ _ i1 i2 => exact fun h => ⟨i1 h.1, i2 h.2⟩
  | alt _ _ i1 i2 => exact fun h => ⟨i1 h.1, i2 h.2⟩
  | fresh _ i => exact i
  | trans _ _ i1 i2 => exact fun h => i2 (i1 h)

theorem perm_product {α : Type} {P P' Q Q' : List (List α)} (hp : P.Perm P') (hq : Q.Perm Q') :
    (P.flatMap fun x => Q.map fun y => x ++ y).Perm (P'.flatMap fun x => Q'.map fun y => x ++ y) := by
  have h1 : (P.flatMap fun x => Q.map fun y => x ++ y).Perm (P'.flatMap fun x => Q.map fun y => x ++ y) :=
    List.Perm.flatMap_right _ hp
  have h2 : (P'.flatMap fun x => Q.map fun y => x ++ y).Perm (P'.flatMap fun x => Q'.map fun y => x ++ y) := by
    clear h1 hp
    induction P' with
    | nil => exact .refl _
    | cons x P' ih => simp only [List.flatMap_cons]; exact (hq.map _).append ih
  exact h1.trans h2

theorem reorder_paths {p p' : FProg} (h : Reorder p p') : ∃ L, L.Perm p'.paths ∧ Zip2 List.Perm p.paths L := by
  induction h with
  | refl p => exact ⟨p.paths, .refl _, zip2_refl .refl _⟩
  | conjSwap p q =>
    exact ⟨p.paths.flatMap fun x => q.paths.map fun y => y ++ x, (product_swap (fun x y => y ++ x) p.paths q.paths).symm,
      zip2_product (f' := fun x y => y ++ x) (fun hx hy => (hx.append hy).trans List.perm_append_comm)
        (zip2_refl .refl _) (zip2_refl .refl _)⟩
  | altSwap p q => exact ⟨p.paths ++ q.paths, List.perm_append_comm, zip2_refl .refl _⟩
  | conj _ _ i1 i2 =>
    obtain ⟨L1, p1, z1⟩ := i1
    obtain ⟨L2, p2, z2⟩ := i2
    exact ⟨L1.flatMap fun x => L2.map fun y => x ++ y, perm_product p1 p2, zip2_product List.Perm.append z1 z2⟩
  | alt _ _ i1 i2 =>
    obtain ⟨L1, p1, z1⟩ := i1
    obtain ⟨L2, p2, z2⟩ := i2
    exact ⟨L1 ++ L2, p1.append p2, zip2_append z1 z2⟩
  | fresh _ i => exact i
  | trans _ _ i1 i2 =>
    obtain ⟨L1, p1, z1⟩ := i1
    obtain ⟨L2, p2, z2⟩ := i2
    -- transport the second zip along the permutation L1 ~ q.paths
    obtain ⟨L3, p3, z3⟩ := zip2_perm_left p1.symm z2
    exact ⟨L3, p3.trans p2, zip2_trans_perm z1 z3⟩

theorem tree_path_outcome (ho : OrderOK ord) (nv : Nat) (as : List TAtom) (hnf : postAll ord (State.empty nv) as ≠ .fuel) :
    postAll ord (State.empty nv) as = .fail ∨ ∃ s, postAll ord (State.empty nv) as = .ok s ∧ ∃ γ, StateSem γ s := by
  cases h : postAll ord (State.empty nv) as with
  | ok s =>
    have hg := (postAll_ok ord ho _ _ as (good_empty nv) h).1
    have hd := postAll_dnf ho as (State.empty nv) s (good_empty nv) (fun _ hq => nomatch hq) h
    obtain ⟨γ, hγ, _⟩ := dnf_sat hg.1 hd
    exact .inr ⟨s, rfl, γ, hγ⟩
  | fail => exact .inl rfl
  | fuel => exact (hnf h).elim
  | panic m => exact absurd h (postAll_no_panic_of_good ord ho _ _ (good_empty nv) m)

/-- Any reordering is a bijection between the answers (C04, multiset level, `==`/`!=` programs, any depth): the reference
    answer lists of a program and of any reordering of it have the same number of states, and can be matched so that
    corresponding states describe the same valuations (when no path runs out of the model's unification fuel) -/
theorem tree_reorder_bijection (ho : OrderOK ord) (dfs : Call → State → State × G) {p p' : FProg} (hr : Reorder p p')
    (hp : p.TreeOnly) (nv n m : Nat) (xs ys : List State)
    (hx : evalRef dfs n (p.goal ord) (State.empty nv) = some xs)
    (hy : evalRef dfs m (p'.goal ord) (State.empty nv) = some ys)
    (hnf : ∀ path, path ∈ p.paths ∨ path ∈ p'.paths → postAllF ord (State.empty nv) path ≠ .fuel) :
    ∃ ys', ys'.Perm ys ∧ Zip2 (fun a b => ∀ γ, StateSem γ a ↔ StateSem γ b) xs ys' := by
  obtain ⟨L, pL, zL⟩ := reorder_paths hr
  refine ⟨L.filterMap (postL ord (State.empty nv)), ?_, ?_⟩
  · rw [evalRef_paths_exact dfs p' m _ ys hy]
    exact pL.filterMap _
  · rw [evalRef_paths_exact dfs p n _ xs hx]
    -- a path `x` of `p` and the path `y` of `p'` with the same atoms in another order: both fail, or both end in
    -- states describing the same valuations (`postAll_order_free`)
    refine zip2_filterMap zL fun x y hx' hy' perm => ?_
    have hy'' : y ∈ p'.paths := pL.mem_iff.1 hy'
    have nf1 := hnf x (.inl hx')
    have nf2 := hnf y (.inr hy'')
    have l1 := postL_of_postAllF (ord := ord) x (State.empty nv) (inv_empty nv) rfl
    have l2 := postL_of_postAllF (ord := ord) y (State.empty nv) (inv_empty nv) rfl
    rw [postAllF_tree _ _ (treeOnly_paths p hp x hx')] at nf1 l1
    rw [postAllF_tree _ _ (treeOnly_paths p' (hr.treeOnly hp) y hy'')] at nf2 l2
    obtain ⟨o1, o2, o3⟩ := postAll_order_free ord ord ho ho (good_empty nv) fun _ => (perm.map tOf).mem_iff
    rcases tree_path_outcome ho nv _ nf1 with r1 | ⟨s1, r1, γ1, h1⟩
    · rcases tree_path_outcome ho nv _ nf2 with r2 | ⟨s2, r2, γ2, h2⟩
      · exact .inl ⟨l1.2 r1, l2.2 r2⟩
      · exact (o3 r1 s2 r2 γ2 h2).elim
    · rcases tree_path_outcome ho nv _ nf2 with r2 | ⟨s2, r2, _⟩
      · exact (o2 s1 r1 r2 γ1 h1).elim
      · exact .inr ⟨s1, s2, l1.1 s1 r1, l2.1 s2 r2, o1 s1 s2 r1 r2⟩

theorem paths_conjSwap {p q : FProg} {Q : List FAtom → Prop} (h : ∀ x ∈ p.paths, ∀ y ∈ q.paths, Q (x ++ y) ∧ Q (y ++ x))
    (path : List FAtom) (hpath : path ∈ (FProg.conj p q).paths ∨ path ∈ (FProg.conj q p).paths) : Q path := by
  simp only [FProg.paths, List.mem_flatMap, List.mem_map] at hpath
  rcases hpath with ⟨x, hx, y, hy, rfl⟩ | ⟨y, hy, x, hx, rfl⟩
  · exact (h x hx y hy).1
  · exact (h x hx y hy).2

/-- Swapping the sides of a conjunction is a bijection between the answers: the reference answer lists `xs` of `p, q` and
    `ys` of `q, p` from the empty state have the same number of states, and `ys` can be reordered so that corresponding
    states describe the same valuations -/
theorem tree_conj_bijection (ho : OrderOK ord) (dfs : Call → State → State × G) (p q : FProg) (hp : p.TreeOnly) (hq : q.TreeOnly)
    (nv n m : Nat) (xs ys : List State)
    (hx : evalRef dfs n ((FProg.conj p q).goal ord) (State.empty nv) = some xs)
    (hy : evalRef dfs m ((FProg.conj q p).goal ord) (State.empty nv) = some ys)
    (hnf : ∀ x ∈ p.paths, ∀ y ∈ q.paths, postAllF ord (State.empty nv) (x ++ y) ≠ .fuel ∧ postAllF ord (State.empty nv) (y ++ x) ≠ .fuel) :
    ∃ ys', ys'.Perm ys ∧ Zip2 (fun a b => ∀ γ, StateSem γ a ↔ StateSem γ b) xs ys' :=
  tree_reorder_bijection ho dfs (.conjSwap p q) ⟨hp, hq⟩ nv n m xs ys hx hy (paths_conjSwap hnf)

end
theorem FProg.mem_paths_conj {p q : FProg} {path : List FAtom} :
    path ∈ (FProg.conj p q).paths ↔ ∃ x ∈ p.paths, ∃ y ∈ q.paths, x ++ y = path := by
  simp only [FProg.paths, List.mem_flatMap, List.mem_map]

/-- the solutions of a constraint program: the valuations that satisfy every atom of one of its paths -/
def FSols (p : FProg) (γ : Subst) : Prop := ∃ path ∈ p.paths, ∀ a ∈ path, a.Sat γ

theorem FSols_conj (p q : FProg) (γ : Subst) : FSols (.conj p q) γ ↔ FSols p γ ∧ FSols q γ := by
  constructor
  · rintro ⟨_, hm, h⟩
    obtain ⟨x, hx, y, hy, rfl⟩ := FProg.mem_paths_conj.1 hm
    exact ⟨⟨x, hx, fun a ha => h a (List.mem_append_left _ ha)⟩, ⟨y, hy, fun a ha => h a (List.mem_append_right _ ha)⟩⟩
  · rintro ⟨⟨x, hx, h1⟩, ⟨y, hy, h2⟩⟩
    exact ⟨x ++ y, FProg.mem_paths_conj.2 ⟨x, hx, y, hy, rfl⟩, fun a ha => (List.mem_append.1 ha).elim (h1 a) (h2 a)⟩

theorem FSols_alt (p q : FProg) (γ : Subst) : FSols (.alt p q) γ ↔ FSols p γ ∨ FSols q γ := by
  simp only [FSols, FProg.paths, List.mem_append, or_and_right, exists_or]

theorem fd_program_sols [Mode] {ord : Order} (ho : OrderOK ord) (dfs : Call → State → State × G) (pf M nv : Nat)
    (p : FProg) (hok : p.OK) :
    ∃ k ys, drainF (solveAt dfs pf (M + 1)) k (solveAt dfs pf (M + 1) (p.goal ord) (State.empty nv)) = some ys ∧
      (∀ s ∈ ys, s.panic = none → ∀ γ, Sem NoI γ s → FSols p γ) ∧
      (∀ γ, FSols p γ → (∀ path ∈ p.paths, postAllF ord (State.empty nv) path ≠ .fuel) → ∃ s ∈ ys, Sem NoI γ s) := by
  obtain ⟨k, ys, h1, _, h3, h4⟩ := fd_program ho dfs pf M nv p hok
  refine ⟨k, ys, h1, fun s hs hp γ hγ => ?_, fun γ ⟨path, hpth, hsat⟩ hnf => h4 path hpth γ hsat (hnf path hpth)⟩
  obtain ⟨path, hpth, hsem⟩ := h3 s hs hp
  exact ⟨path, hpth, (hsem γ).1 hγ⟩

section
attribute [local instance] Mode.strict

def pathStates (ord : Order) (p : FProg) (s1 : State) : List State := p.paths.filterMap (postL ord s1)

theorem pathStates_alt (ord : Order) (p q : FProg) (s1 : State) :
    pathStates ord (.alt p q) s1 = pathStates ord p s1 ++ pathStates ord q s1 := by
  simp only [pathStates, FProg.paths, List.filterMap_append]

theorem evalRef_pathStates (ord : Order) (dfs : Call → State → State × G) (p : FProg) (s1 : State) :
    ∃ N, evalRef dfs N (p.goal ord) s1 = some (pathStates ord p s1) := by
  obtain ⟨xs, hx⟩ := evalRef_total ord dfs p 0 s1
  exact ⟨_, evalRef_paths_exact dfs p _ s1 xs hx ▸ hx⟩

theorem query_eq_state (ord : Order) (ho : OrderOK ord) {n : Nat} {qv : Term} {qs : List Term} {s1 : State}
    (h1 : postAtom ord (State.empty n) (.eq qv (Term.ofList qs)) = .ok s1) : Inv s1 ∧ s1.panic = none ∧ Good s1 :=
  have hF : postF ord (State.empty n) (.eq qv (Term.ofList qs)) = .ok s1 := h1
  have ⟨pan1, inv1⟩ := postF_pan ord (inv_empty n) hF
  ⟨inv1, pan1, (postAtom_ok ord ho _ s1 _ (good_empty n) h1).1⟩

theorem postL_tree (ord : Order) (ho : OrderOK ord) {path : List FAtom} {s1 s : State} (htree : ∀ a ∈ path, IsTree a)
    (inv1 : Inv s1) (hp1 : s1.panic = none) (hg1 : Good s1) (hnf : postAllF ord s1 path ≠ .fuel)
    (hps : postL ord s1 path = some s) : postAllF ord s1 path = .ok s := by
  obtain ⟨okc, failc⟩ := postL_of_postAllF (ord := ord) path s1 inv1 hp1
  cases hr : postAllF ord s1 path with
  | ok s' => rw [okc s' hr] at hps; cases hps; rfl
  | fail => rw [failc hr] at hps; cases hps
  | fuel => exact (hnf hr).elim
  | panic m => rw [postAllF_tree path s1 htree] at hr; exact (postAll_no_panic_of_good ord ho s1 _ hg1 m hr).elim

theorem postL_poisoned (ord : Order) : ∀ (path : List FAtom) (st : State), st.panic.isSome = true → postL ord st path = some st
  | [], _, _ => rfl
  | a :: as, st, h => by
    simp only [postL, liftRes, h, if_true, Option.bind_some]
    exact postL_poisoned ord as st h

theorem postL_unpoisoned (ord : Order) : ∀ (path : List FAtom) (st s : State), Inv st → st.panic = none →
    postL ord st path = some s → s.panic = none → postAllF ord st path = .ok s
  | [], st, s, _, _, h, _ => by simp only [postL, Option.some.injEq] at h; subst h; rfl
  | a :: as, st, s, hi, hp, h, hsp => by
    simp only [postL] at h
    obtain ⟨t, ht, h2⟩ := Option.bind_eq_some_iff.1 h
    rcases liftRes_cases ht with ⟨hq, _⟩ | ⟨_, hr | ⟨_, rfl⟩ | ⟨m, _, rfl⟩⟩
    · rw [hp] at hq; cases hq
    · obtain ⟨pan, inv2⟩ := postF_pan ord hi hr
      simp only [postAllF, hr, Res.bind]
      exact postL_unpoisoned ord as t s inv2 (pan.trans hp) h2 hsp
    · -- the path ran out of fuel here: the poisoned state flows to the end
      rw [postL_poisoned ord as _ rfl] at h2
      cases h2
      cases hsp
    · rw [postL_poisoned ord as _ rfl] at h2
      cases h2
      cases hsp

theorem query_path_postAll (ord : Order) {n : Nat} {qv : Term} {qs : List Term} {s1 s : State} {path : List FAtom}
    (h1 : postAtom ord (State.empty n) (.eq qv (Term.ofList qs)) = .ok s1) (htree : ∀ a ∈ path, IsTree a)
    (hr : postAllF ord s1 path = .ok s) : postAll ord (State.empty n) (.eq qv (Term.ofList qs) :: path.map tOf) = .ok s := by
  simp only [postAll, h1, Res.bind]
  rw [← postAllF_tree path s1 htree]
  exact hr

theorem pathStates_tree_from (ord : Order) (ho : OrderOK ord) (p : FProg) (hp : p.TreeOnly) (s1 : State)
    (inv1 : Inv s1) (hp1 : s1.panic = none) (hg1 : Good s1)
    (hnf : ∀ path ∈ p.paths, postAllF ord s1 path ≠ .fuel) (s : State) :
    s ∈ pathStates ord p s1 ↔ ∃ path ∈ p.paths, postAllF ord s1 path = .ok s := by
  constructor
  · intro hs
    obtain ⟨path, hpath, hps⟩ := List.mem_filterMap.1 hs
    exact ⟨path, hpath, postL_tree ord ho (treeOnly_paths p hp path hpath) inv1 hp1 hg1 (hnf path hpath) hps⟩
  · rintro ⟨path, hpath, hr⟩
    exact List.mem_filterMap.2 ⟨path, hpath, (postL_of_postAllF (ord := ord) path s1 inv1 hp1).1 s hr⟩

theorem pathStates_from_empty (ord : Order) (n : Nat) (p : FProg) (qv : Term) (qs : List Term) (s1 : State)
    (h1 : postAtom ord (State.empty n) (.eq qv (Term.ofList qs)) = .ok s1)
    (s : State) (hs : s ∈ pathStates ord p s1) (hp : s.panic = none) :
    ∃ path ∈ p.paths, postAllF ord (State.empty n) (.eq qv (Term.ofList qs) :: path) = .ok s := by
  have hF : postF ord (State.empty n) (.eq qv (Term.ofList qs)) = .ok s1 := h1
  obtain ⟨pan1, inv1⟩ := postF_pan ord (inv_empty n) hF
  obtain ⟨path, hpath, hps⟩ := List.mem_filterMap.1 hs
  have hall := postL_unpoisoned ord path s1 s inv1 pan1 hps hp
  exact ⟨path, hpath, by simp only [postAllF, hF, Res.bind]; exact hall⟩

end

end Pv
