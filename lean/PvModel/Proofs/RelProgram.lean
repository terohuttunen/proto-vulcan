/-
  Programs over the library relations: `==`, `!=`, conjunction, `conde`, fresh and calls of member / member1 /
  append / rember / permute / distinct, nested in any way.  The engine is exact for them: the states in its
  stream describe (on the variables that existed when the program started) exactly the valuations of the start
  state that satisfy the program's declarative meaning `RProg.Sem` — soundness from the compositional
  denotation (Proofs/RelSem.lean), completeness from the relations' completeness (Proofs/RelComplete.lean).
  Because `Sem` of a conjunction / disjunction is ∧ / ∨, the described solutions do not depend on the order of
  conjuncts or clauses, also through recursive relation calls with infinitely many answers.
-/
import PvModel.Proofs.RelComplete
namespace Pv
open Strm Goal State Term

inductive RProg where
  | succeed
  | fail
  | atom (t : TAtom)
  | conj (p q : RProg)
  | alt (p q : RProg)
  | fresh (p : RProg)
  | call (c : Call)

namespace RProg

def goal (ord : Order) : RProg → G
  | succeed => .succeed
  | fail => .fail
  | atom t => .atom (liftRes fun st => postAtom ord st t)
  | conj p q => .conj (goal ord p) (goal ord q)
  | alt p q => .alt (goal ord p) (goal ord q)
  | fresh p => .fresh (goal ord p)
  | call c => .call c

def Sem : RProg → Subst → Prop
  | succeed, _ => True
  | fail, _ => False
  | atom t, γ => t.Sat γ
  | conj p q, γ => Sem p γ ∧ Sem q γ
  | alt p q, γ => Sem p γ ∨ Sem q γ
  | fresh p, γ => Sem p γ
  | call c, γ => RelSem c γ

/-- every term of the program is over variables below `m`; every call is a valid library call -/
def WF (m : Nat) : RProg → Prop
  | succeed => True
  | fail => True
  | atom (.eq u v) => Below m u ∧ Below m v
  | atom (.neq u v) => Below m u ∧ Below m v
  | conj p q => WF m p ∧ WF m q
  | alt p q => WF m p ∧ WF m q
  | fresh p => WF m p
  | call c => c.Valid ∧ ∀ t ∈ c.args, Below m t

theorem WF.mono {m m' : Nat} (hm : m ≤ m') : ∀ (p : RProg), WF m p → WF m' p
  | succeed, _ => trivial
  | fail, _ => trivial
  | atom (.eq _ _), h => ⟨h.1.mono hm, h.2.mono hm⟩
  | atom (.neq _ _), h => ⟨h.1.mono hm, h.2.mono hm⟩
  | conj p q, h => ⟨WF.mono hm p h.1, WF.mono hm q h.2⟩
  | alt p q, h => ⟨WF.mono hm p h.1, WF.mono hm q h.2⟩
  | fresh p, h => WF.mono hm p h
  | call _, h => ⟨h.1, fun t ht => (h.2 t ht).mono hm⟩

theorem sem_agree {m : Nat} {γ γ' : Subst} (hag : Agree m γ γ') : ∀ (p : RProg), WF m p → Sem p γ → Sem p γ'
  | succeed, _, _ => trivial
  | fail, _, h => h
  | atom (.eq u v), w, h => sat_agree (.eq u v) w hag h
  | atom (.neq u v), w, h => sat_agree (.neq u v) w hag h
  | conj p q, w, h => ⟨sem_agree hag p w.1 h.1, sem_agree hag q w.2 h.2⟩
  | alt p q, w, h => h.imp (sem_agree hag p w.1) (sem_agree hag q w.2)
  | fresh p, w, h => sem_agree hag p w h
  | call c, w, h => relSem_agree c w.2 hag h

theorem plain (ord : Order) : ∀ (p : RProg), Plain (p.goal ord)
  | succeed => .succeed
  | fail => .fail
  | atom _ => .atom _
  | conj p q => .conj (plain ord p) (plain ord q)
  | alt p q => .alt (plain ord p) (plain ord q)
  | fresh p => .fresh (plain ord p)
  | call c => .call c

end RProg

/-- no call of the program is a call made inside `dfs { }` -/
def RProg.NoDfs : RProg → Prop
  | .succeed => True
  | .fail => True
  | .atom _ => True
  | .conj p q => p.NoDfs ∧ q.NoDfs
  | .alt p q => p.NoDfs ∧ q.NoDfs
  | .fresh p => p.NoDfs
  | .call c => c.dfs = false

section
variable {ord : Order}

theorem prog_den (ho : OrderOK ord) (N : Nat) : ∀ (p : RProg), DenN ord N (p.goal ord) p.Sem
  | .succeed => gden_succeed N
  | .fail => gden_fail N _
  | .atom t => den_atom ho N t
  | .conj p q => gden_conj (prog_den ho N p) (prog_den ho N q)
  | .alt p q => gden_alt (prog_den ho N p) (prog_den ho N q)
  | .fresh p => gden_fresh (prog_den ho N p)
  | .call c => den_rel ho N c

/-- a program is complete, past its variables, for every valuation that satisfies it (a poisoned state runs through:
    a literal `fail` on every path would stop it, but then the program has no solution) -/
theorem complete_prog (ho : OrderOK ord) {m : Nat} {γ : Subst} : ∀ (p : RProg), p.WF m → p.Sem γ →
    Complete m γ (Big (defs ord) (p.goal ord))
  | .succeed, _, _ => (Complete.nil (ord := ord)).mono fun _ _ => big_succeed.2
  | .fail, _, h => h.elim
  | .atom (.eq u v), w, h => complete_atom ho (.eq u v) w h
  | .atom (.neq u v), w, h => complete_atom ho (.neq u v) w h
  | .conj p q, w, h => ((complete_prog ho p w.1 h.1).seq (complete_prog ho q w.2 h.2)).mono fun _ _ => big_conj.2
  | .alt p _, w, .inl h => (complete_prog ho p w.1 h).mono fun _ _ hb => big_alt.2 (.inl hb)
  | .alt _ q, w, .inr h => (complete_prog ho q w.2 h).mono fun _ _ hb => big_alt.2 (.inr hb)
  | .fresh p, w, h => (complete_prog ho p w h).fresh
  | .call _, w, h => complete_rel ho w.2 h

theorem prog_complete (ho : OrderOK ord) (p : RProg) (a : State) (γ : Subst) (w : p.WF a.nextVar)
    (hp : a.panic.isSome = false) (hi : RInv a) (hγ : StateSem γ a) (h : p.Sem γ) :
    ∃ b, Big (defs ord) (p.goal ord) a b ∧ Post a γ b :=
  (complete_prog ho p w h).run hp hi hγ

theorem prog_sound (ho : OrderOK ord) (pf M j nv : Nat) (p : RProg) (b : State)
    (hm : MemS (solveAt (defs ord) pf (M + 1)) b (solveAt (defs ord) pf j (p.goal ord) (State.empty nv)))
    (hp : b.panic.isSome = false) (γ : Subst) (hγ : StateSem γ b) : p.Sem γ := by
  obtain ⟨n, hn⟩ := (mem_iff_big (defs_plain ord) pf M j (p.plain ord) _ b).1 hm
  exact (((prog_den ho n p n (Nat.le_refl _) _ b hn).2 hp (good_empty nv)).2 γ hγ).2

/-- Programs are exact on the engine: from the empty state over `nv` variables, a program over those variables —
    `==`, `!=`, conjunction, `conde`, fresh, calls of the six library relations, any nesting, recursion with
    infinitely many answers included — at every nesting level of the solver and under every hash-iteration
    order:
    (1) every unpoisoned state in the engine's stream describes only valuations that satisfy the program;
    (2) every valuation that satisfies the program agrees on the program's variables with a valuation described
        by a state in the stream (or the stream holds a FUEL-poisoned state). -/
theorem prog_exact (ho : OrderOK ord) (pf M j nv : Nat) (p : RProg) (w : p.WF nv) :
    (∀ b, MemS (solveAt (defs ord) pf (M + 1)) b (solveAt (defs ord) pf j (p.goal ord) (State.empty nv)) →
      b.panic.isSome = false → ∀ γ, StateSem γ b → p.Sem γ) ∧
    (∀ γ, p.Sem γ → ∃ b, MemS (solveAt (defs ord) pf (M + 1)) b (solveAt (defs ord) pf j (p.goal ord) (State.empty nv)) ∧
      (b.panic.isSome = true ∨ ∃ γ', Agree nv γ γ' ∧ StateSem γ' b)) := by
  refine ⟨prog_sound ho pf M j nv p, fun γ h => ?_⟩
  obtain ⟨b, hb, post⟩ := prog_complete ho p (State.empty nv) γ w rfl (rinv_empty nv) (stateSem_empty nv γ) h
  exact ⟨b, (mem_iff_big (defs_plain ord) pf M j (p.plain ord) _ b).2 hb, post.desc⟩

end
end Pv
